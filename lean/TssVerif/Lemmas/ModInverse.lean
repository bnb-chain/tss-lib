import TssVerif.Lemmas.GoIntSpec
import Mathlib.Data.ZMod.Basic
import Mathlib.Algebra.Field.ZMod
/-! `Core.GoInt.modInverse` modulo a prime `q`, and its `ZMod q` view. -/
set_option autoImplicit false
namespace TssVerif

/-- `modInverse_spec` under the name the algebra files (`Alg*`, `MiscNonce`, `Props/C01`) use -/
theorem modInverse_specV {a : Int} {n b : Nat} (h : modInverse a n = some b) :
    (a * b) % (n : Int) = 1 % (n : Int) ∧ b < n :=
  modInverse_spec h

/-- modulo a prime every non-zero residue is inverted -/
theorem modInverse_prime {q : Nat} (hq : q.Prime) {a : Int} (ha : a % (q : Int) ≠ 0) :
    ∃ b, modInverse a q = some b ∧ (a * b) % (q : Int) = 1 % (q : Int) ∧ b < q := by
  refine modInverse_exists hq.ne_zero ?_
  rw [Int.gcd_comm]
  exact (Nat.Prime.coprime_iff_not_dvd hq).2 fun hd => ha (Int.emod_eq_zero_of_dvd (Int.natCast_dvd.2 hd))

section
variable {q : ℕ} [Fact q.Prime]

/-- in the field, the returned inverse is the inverse -/
theorem modInverse_cast {a : Int} {b : Nat} (h : modInverse a q = some b) :
    ((b : ℕ) : ZMod q) = ((a : ℤ) : ZMod q)⁻¹ :=
  eq_inv_of_mul_eq_one_right (by simpa using (ZMod.intCast_eq_intCast_iff' (a * b) 1 q).2 (modInverse_spec h).1)

/-- totality in the field view -/
theorem modInverse_of_ne_zero {a : Int} (ha : ((a : ℤ) : ZMod q) ≠ 0) :
    ∃ b, modInverse a q = some b ∧ ((b : ℕ) : ZMod q) = ((a : ℤ) : ZMod q)⁻¹ := by
  have : a % (q : Int) ≠ 0 := fun h0 =>
    ha ((ZMod.intCast_zmod_eq_zero_iff_dvd a q).2 (Int.dvd_of_emod_eq_zero h0))
  obtain ⟨b, hb, _⟩ := modInverse_prime (Fact.out : q.Prime) this
  exact ⟨b, hb, modInverse_cast hb⟩
end

end TssVerif
