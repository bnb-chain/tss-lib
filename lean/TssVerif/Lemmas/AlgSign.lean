import TssVerif.Lemmas.AlgEcdsa
import TssVerif.Lemmas.VssVerify
import Mathlib.Algebra.BigOperators.Ring.Finset
/-! The share algebra of GG18 signing (`θ = kγ`, `σ = kx`, `s = k(m + r x)`), and what the transcript function
`Sign.ecdsaFromTranscript` needs: the inverse of `Σθ` exists, and adding the broadcast `Γ_j` gives `(Σγ_j)·G`. -/
set_option autoImplicit false
set_option linter.style.haveILetI false
namespace TssVerif.AlgL
open TssVerif Sign

/-- the cross terms `α_ij + β_ji` of all parties add up to the off-diagonal part of `(Σk)(Σw)` -/
theorem sigma_sum {R : Type*} [CommSemiring R] {ι : Type*} [DecidableEq ι] (s : Finset ι)
    (k w : ι → R) (α β : ι → ι → R)
    (h : ∀ i ∈ s, ∀ j ∈ s, i ≠ j → α i j + β i j = k i * w j) :
    ∑ i ∈ s, (k i * w i + ∑ j ∈ s.erase i, (α i j + β j i)) = (∑ i ∈ s, k i) * (∑ j ∈ s, w j) := by
  have hswap : ∑ i ∈ s, ∑ j ∈ s.erase i, β j i = ∑ i ∈ s, ∑ j ∈ s.erase i, β i j := by
    apply Finset.sum_comm'
    intro x y
    simp only [Finset.mem_erase]
    constructor
    · rintro ⟨hx, hne, hy⟩; exact ⟨⟨fun h => hne h.symm, hx⟩, hy⟩
    · rintro ⟨⟨hne, hx⟩, hy⟩; exact ⟨hx, fun h => hne h.symm, hy⟩
  have hoff : ∑ i ∈ s, ∑ j ∈ s.erase i, (α i j + β j i) = ∑ i ∈ s, ∑ j ∈ s.erase i, k i * w j := by
    simp only [Finset.sum_add_distrib]
    rw [hswap, ← Finset.sum_add_distrib]
    refine Finset.sum_congr rfl fun i hi => ?_
    rw [← Finset.sum_add_distrib]
    refine Finset.sum_congr rfl fun j hj => ?_
    exact h i hi j (Finset.mem_of_mem_erase hj) (Finset.ne_of_mem_erase hj).symm
  rw [Finset.sum_add_distrib, hoff, ← Finset.sum_add_distrib, Finset.sum_mul_sum]
  refine Finset.sum_congr rfl fun i hi => ?_
  exact Finset.add_sum_erase s (fun j => k i * w j) hi

/-- **the share relations of the signing protocol give the ECDSA equation**:
`Σθ_i = (Σk_i)(Σγ_i)` and `Σ s_i = (Σk_i)(m + r·x)` -/
theorem sign_algebra {R : Type*} [CommRing R] {ι : Type*} [DecidableEq ι] (s : Finset ι)
    (k γ w θ σ sh : ι → R) (α β μ ν : ι → ι → R) (m r x : R)
    (hαβ : ∀ i ∈ s, ∀ j ∈ s, i ≠ j → α i j + β i j = k i * γ j)
    (hμν : ∀ i ∈ s, ∀ j ∈ s, i ≠ j → μ i j + ν i j = k i * w j)
    (hθ : ∀ i ∈ s, θ i = k i * γ i + ∑ j ∈ s.erase i, (α i j + β j i))
    (hσ : ∀ i ∈ s, σ i = k i * w i + ∑ j ∈ s.erase i, (μ i j + ν j i))
    (hs : ∀ i ∈ s, sh i = m * k i + r * σ i)
    (hw : ∑ i ∈ s, w i = x) :
    ∑ i ∈ s, θ i = (∑ i ∈ s, k i) * (∑ i ∈ s, γ i) ∧
    ∑ i ∈ s, σ i = (∑ i ∈ s, k i) * x ∧
    ∑ i ∈ s, sh i = (∑ i ∈ s, k i) * (m + r * x) := by
  have h1 : ∑ i ∈ s, θ i = (∑ i ∈ s, k i) * (∑ i ∈ s, γ i) := by
    rw [Finset.sum_congr rfl hθ]; exact sigma_sum s k γ α β hαβ
  have h2 : ∑ i ∈ s, σ i = (∑ i ∈ s, k i) * x := by
    rw [Finset.sum_congr rfl hσ, ← hw]; exact sigma_sum s k w μ ν hμν
  refine ⟨h1, h2, ?_⟩
  rw [Finset.sum_congr rfl hs, Finset.sum_add_distrib, ← Finset.mul_sum, ← Finset.mul_sum, h2]
  ring

variable {P : Type} {C : Curve P}

/-- the inverse of `Σθ` exists (no nil dereference in round 5) when `Σθ ≡ kγ`: `hk` makes `k` a unit, `hγ` excludes
`γ ≡ 0` -/
theorem theta_inverse_isSome (hq : C.q.Prime) (θ k γ kinv : ℕ)
    (hθ : θ ≡ k * γ [MOD C.q]) (hk : k * kinv ≡ 1 [MOD C.q]) (hγ : γ % C.q ≠ 0) :
    ∃ ti, modInverse (((θ % C.q : ℕ)) : Int) C.q = some ti := by
  haveI : Fact C.q.Prime := ⟨hq⟩
  have e2 : (k : ZMod C.q) * kinv = 1 := by simpa using cast_of_modEq hk
  have hne : (((θ % C.q : ℕ) : ℤ) : ZMod C.q) ≠ 0 := by
    rw [Int.cast_natCast, ZMod.natCast_mod, cast_of_modEq hθ]
    push_cast
    intro h0
    rcases mul_eq_zero.1 h0 with h | h
    · rw [h, zero_mul] at e2; exact zero_ne_one e2
    · rw [ZMod.natCast_eq_zero_iff] at h
      exact hγ (Nat.mod_eq_zero_of_dvd h)
  obtain ⟨b, hb, _⟩ := modInverse_of_ne_zero hne
  exact ⟨b, hb⟩

theorem foldl_add_eq_sum (l : List ℕ) (a : ℕ) : l.foldl (· + ·) a = a + l.sum := by
  induction l generalizing a with
  | nil => simp
  | cons x l ih => rw [List.foldl_cons, ih, List.sum_cons, Nat.add_assoc]

/-- adding up points `γ_j·G` with `ecAdd`: the result is `(a + Σγ_j)·G` provided no partial sum is a
point without affine form (on a curve whose identity has an affine form this never happens) -/
theorem ecAdd_fold_base (hC : C.Lawful) : ∀ (γs : List ℕ) (gs : List ECPoint) (a : ℕ) (g0 : ECPoint),
    Vss.IsCommitment C γs gs → C.toAffine (C.smul a C.base) = some g0 →
    (∀ n, 1 ≤ n → n ≤ γs.length → C.toAffine (C.smul (a + (γs.take n).sum) C.base) ≠ none) →
    ∃ r, gs.foldlM (fun acc g => C.ecAdd acc g) g0 = .ok r ∧
      C.toAffine (C.smul (a + γs.sum) C.base) = some r := by
  intro γs
  induction γs with
  | nil =>
    intro gs a g0 hcom ha _
    cases hcom
    exact ⟨g0, rfl, by simpa using ha⟩
  | cons γ γs ih =>
    intro gs a g0 hcom ha hpart
    cases hcom with
    | cons hγ hrest =>
    rename_i g gs'
    have h1 := hpart 1 (le_refl _) (by simp)
    simp only [List.take_succ_cons, List.take_zero, List.sum_cons, List.sum_nil, Nat.add_zero] at h1
    obtain ⟨r1, hr1⟩ := Option.ne_none_iff_exists'.1 h1
    have hstep : C.ecAdd g0 g = .ok r1 := by
      rw [Curve.ecAdd_of_lift (hC.lift_of_toAffine ha) (hC.lift_of_toAffine hγ), ← hC.smul_add, hr1]
    obtain ⟨r, hr, hra⟩ := ih gs' (a + γ) r1 hrest hr1 (by
      intro n hn1 hn2
      have := hpart (n + 1) (by omega) (by simpa using hn2)
      simpa [List.take_succ_cons, Nat.add_assoc] using this)
    refine ⟨r, ?_, by simpa [Nat.add_assoc] using hra⟩
    rw [List.foldlM_cons, hstep]
    exact hr

theorem hashToInt_of_short (q : ℕ) (h : Bytes) (hl : h.length * 8 ≤ bitLen q) :
    hashToInt q h = bytesToNat h := by
  unfold hashToInt
  have h1 : h.length ≤ (bitLen q + 7) / 8 := by omega
  simp only [List.take_of_length_le h1]
  rw [Nat.sub_eq_zero_of_le hl, Nat.pow_zero, Nat.div_one]

end TssVerif.AlgL
