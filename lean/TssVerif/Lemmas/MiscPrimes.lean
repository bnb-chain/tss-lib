import TssVerif.Core.Primes
import TssVerif.Lemmas.GoIntSpec
import TssVerif.Lemmas.Paillier
import TssVerif.Lemmas.C10Mod
import Mathlib.FieldTheory.Finite.Basic
import Mathlib.GroupTheory.OrderOfElement
import Mathlib.Data.Nat.ModEq
import Mathlib.Data.Nat.Totient
import Mathlib.Tactic.Ring
import Mathlib.Tactic.Linarith
/-! Pocklington's criterion for `p = 2q + 1`, the sampler contracts, the algebra of the
pre-parameters (`h1`, `h2`, `alpha`, `beta`). -/
set_option autoImplicit false
set_option linter.style.haveILetI false
namespace TssVerif.MiscL
open TssVerif TssVerif.Primes
open scoped NumberTheorySymbols

/-- every prime factor `r ≠ 3` of `p = 2q+1` (with `2^(2q) ≡ 1 (mod p)`) is `> q`, because `q ∣ r − 1` -/
theorem factor_large {q p r : Nat} (hq : q.Prime) (hp : p = 2 * q + 1)
    (hpow : 2 ^ (2 * q) ≡ 1 [MOD p]) (hr : r.Prime) (hrp : r ∣ p) (hr3 : r ≠ 3) : q + 1 ≤ r := by
  haveI : Fact r.Prime := ⟨hr⟩
  have hr2 : r ≠ 2 := by
    rintro rfl
    omega
  have h2ne : (2 : ZMod r) ≠ 0 := fun h0 =>
    hr2 ((Nat.prime_dvd_prime_iff_eq hr Nat.prime_two).1
      ((ZMod.natCast_eq_zero_iff 2 r).1 (by exact_mod_cast h0)))
  have hone : (2 : ZMod r) ^ (2 * q) = 1 := by
    simpa using (ZMod.natCast_eq_natCast_iff _ _ _).2 (hpow.of_dvd hrp)
  have ho2 : orderOf (2 : ZMod r) ∣ r - 1 :=
    orderOf_dvd_of_pow_eq_one (ZMod.pow_card_sub_one_eq_one h2ne)
  -- the order of 2 does not divide 2 (else `r ∣ 3`), so `q` divides it
  have ho3 : ¬ orderOf (2 : ZMod r) ∣ 2 := fun hd => by
    have h4 : (2 : ZMod r) ^ 2 = 1 := orderOf_dvd_iff_pow_eq_one.1 hd
    have h5 : ((3 : ℕ) : ZMod r) = 0 := by
      rw [show ((3 : ℕ) : ZMod r) = (2 : ZMod r) ^ 2 - 1 by norm_num, h4, sub_self]
    exact hr3 ((Nat.prime_dvd_prime_iff_eq hr Nat.prime_three).1 ((ZMod.natCast_eq_zero_iff 3 r).1 h5))
  have hqo : q ∣ orderOf (2 : ZMod r) := by
    by_contra hnd
    exact ho3 (((Nat.Prime.coprime_iff_not_dvd hq).2 hnd).symm.dvd_of_dvd_mul_right
      (orderOf_dvd_of_pow_eq_one hone))
  have := Nat.le_of_dvd (by have := hr.two_le; omega) (hqo.trans ho2)
  have := hq.two_le
  omega

theorem four_pow_mod_nine {q : Nat} (h : 4 ^ q % 9 = 1) : q % 3 = 0 := by
  have e : 4 ^ q % 9 = 4 ^ (q % 3) % 9 := by
    conv_lhs => rw [← Nat.div_add_mod q 3, pow_add, pow_mul, Nat.mul_mod, Nat.pow_mod]
    norm_num
  rw [e] at h
  have : q % 3 = 0 ∨ q % 3 = 1 ∨ q % 3 = 2 := by omega
  rcases this with h0 | h0 | h0
  · exact h0
  · rw [h0] at h; norm_num at h
  · rw [h0] at h; norm_num at h

/-- **Pocklington, `a = 2`, `F = q`**: for prime `q`, `p = 2q+1` with `2^(p-1) ≡ 1 (mod p)` is prime.
(No side condition on small factors is needed: a factor 3 is excluded by the order of 2 modulo 9.) -/
theorem pocklington_2q1 {q p : Nat} (hq : q.Prime) (hp : p = 2 * q + 1)
    (hpow : 2 ^ (p - 1) % p = 1) : p.Prime := by
  have hq2 := hq.two_le
  have h1 : 2 ^ (2 * q) ≡ 1 [MOD p] := by
    rw [Nat.ModEq, Nat.mod_eq_of_lt (by omega : 1 < p), ← hpow, hp, Nat.add_sub_cancel]
  by_contra hnp
  -- the least prime factor `r`, with `r² ≤ p`
  have hr : (Nat.minFac p).Prime := Nat.minFac_prime (by omega)
  have hrp : Nat.minFac p ∣ p := Nat.minFac_dvd p
  have hsq : Nat.minFac p * Nat.minFac p ≤ p := by
    rw [← Nat.pow_two]; exact Nat.minFac_sq_le_self (by omega) hnp
  generalize Nat.minFac p = r at hr hrp hsq
  by_cases hr3 : r = 3
  · -- p = 3 m
    subst hr3
    obtain ⟨m, hm⟩ := hrp
    by_cases h3m : 3 ∣ m
    · -- 9 ∣ p, so 4^q ≡ 1 (mod 9), so 3 ∣ q, q = 3, p = 7
      have h9 : 9 ∣ p := hm ▸ Nat.mul_dvd_mul_left 3 h3m
      have h2 : 2 ^ (2 * q) ≡ 1 [MOD 9] := h1.of_dvd h9
      rw [pow_mul] at h2
      have h5 : q = 3 := ((Nat.prime_dvd_prime_iff_eq Nat.prime_three hq).1
        (Nat.dvd_of_mod_eq_zero (four_pow_mod_nine h2))).symm
      omega
    · -- m has a prime factor other than 3, which is at least q + 1
      have hs : (Nat.minFac m).Prime := Nat.minFac_prime (by omega)
      have hsm : Nat.minFac m ∣ m := Nat.minFac_dvd m
      have hle := factor_large hq hp h1 hs (hm ▸ Dvd.dvd.mul_left hsm 3) fun h => h3m (h ▸ hsm)
      have := Nat.le_of_dvd (by omega) hsm
      omega
  · -- (q+1)² ≤ r² ≤ 2q+1
    have hrq := factor_large hq hp h1 hr hrp hr3
    have := Nat.mul_le_mul hrq hrq
    have e : (q + 1) * (q + 1) = q * q + 2 * q + 1 := by ring
    have : q * q = 0 := by omega
    rcases Nat.mul_eq_zero.1 this with h | h <;> omega

theorem pocklington_iff (p : Nat) : pocklington p = true ↔ 2 ^ (p - 1) % p = 1 := by
  unfold pocklington
  rw [modPow_spec, beq_iff_eq]

theorem mustGetRandomInt_some {bits raw v : Nat} (h : mustGetRandomInt bits raw = some v) :
    v = raw % 2 ^ bits ∧ v < 2 ^ bits - 1 := by
  unfold mustGetRandomInt at h
  simp only at h
  split at h
  · next hlt => injection h with h; subst h; exact ⟨rfl, hlt⟩
  · exact absurd h (by simp)

theorem mem_filterMap_must {bits : Nat} {cs : List Nat} {v : Nat}
    (h : v ∈ cs.filterMap (mustGetRandomInt bits)) :
    ∃ raw ∈ cs, v = raw % 2 ^ bits ∧ v < 2 ^ bits - 1 := by
  obtain ⟨raw, hraw, hv⟩ := List.mem_filterMap.1 h
  exact ⟨raw, hraw, mustGetRandomInt_some hv⟩

theorem inGroup_iff (n v : Nat) :
    Paillier.isNumberInMultiplicativeGroup (n : Int) v = true ↔ 1 ≤ v ∧ v < n ∧ Nat.gcd v n = 1 := by
  unfold Paillier.isNumberInMultiplicativeGroup
  simp only [Bool.and_eq_true, decide_eq_true_eq, beq_iff_eq, Int.toNat_natCast, Int.natCast_pos,
    Nat.cast_lt]
  constructor
  · rintro ⟨⟨⟨_, h2⟩, h3⟩, h4⟩; exact ⟨h3, h2, h4⟩
  · rintro ⟨h1, h2, h3⟩; exact ⟨⟨⟨by omega, h2⟩, h1⟩, h3⟩

theorem getRandomPositiveInt_some {b : Nat} {cs : List Nat} {v : Nat}
    (h : getRandomPositiveInt b cs = some v) :
    v < b ∧ ∃ raw ∈ cs, v = raw % 2 ^ bitLen b := by
  unfold getRandomPositiveInt at h
  split at h
  · exact absurd h (by simp)
  · have h1 := List.find?_some h
    obtain ⟨raw, hraw, hv, _⟩ := mem_filterMap_must (List.mem_of_find?_eq_some h)
    exact ⟨by simpa using h1, raw, hraw, hv⟩

theorem getRandomRelPrime_some {n : Nat} {cs : List Nat} {v : Nat}
    (h : getRandomRelPrime n cs = some v) :
    1 ≤ v ∧ v < n ∧ Nat.gcd v n = 1 ∧ ∃ raw ∈ cs, v = raw % 2 ^ bitLen n := by
  unfold getRandomRelPrime at h
  split at h
  · exact absurd h (by simp)
  · have h1 := List.find?_some h
    obtain ⟨raw, hraw, hv, _⟩ := mem_filterMap_must (List.mem_of_find?_eq_some h)
    obtain ⟨a, b, c⟩ := (inGroup_iff n v).1 h1
    exact ⟨a, b, c, raw, hraw, hv⟩

theorem getRandomRelPrime_one (cs : List Nat) : getRandomRelPrime 1 cs = none := by
  cases h : getRandomRelPrime 1 cs with
  | none => rfl
  | some v =>
    obtain ⟨a, b, _⟩ := getRandomRelPrime_some h
    omega

theorem getRandomQNR_some {n : Nat} {cs : List Nat} {w : Nat}
    (h : getRandomQNR n cs = .ok (some w)) :
    n % 2 = 1 ∧ w < n ∧ J((w : Int) | n) = -1 ∧ ∃ raw ∈ cs, w = raw % 2 ^ bitLen n := by
  unfold getRandomQNR at h
  split at h
  · exact absurd h (by simp)
  · split at h
    · exact absurd h (by simp)
    · next hodd =>
      have hodd' : n % 2 = 1 := by omega
      injection h with h
      have h1 := List.find?_some h
      obtain ⟨raw, hraw, hv, _⟩ := mem_filterMap_must (List.mem_of_find?_eq_some h)
      simp only [Bool.and_eq_true, decide_eq_true_eq, beq_iff_eq] at h1
      obtain ⟨hlt, hj⟩ := h1
      rw [C10L.goJacobi_eq_jacobiSym _ hodd', Outcome.ok.injEq] at hj
      exact ⟨hodd', hlt, hj, raw, hraw, hv⟩

/-- squares modulo `Ñ = PQ` have order dividing `pq`: why `h1 = f1²` satisfies `h1^(pq) ≡ 1` -/
theorem sq_pow_modEq_one {P Q p q f1 : Nat} (hP : P.Prime) (hQ : Q.Prime) (hPp : P = 2 * p + 1)
    (hQq : Q = 2 * q + 1) (hne : P ≠ Q) (hc : Nat.Coprime f1 (P * Q)) :
    (f1 * f1) ^ (p * q) ≡ 1 [MOD P * Q] := by
  have hcP : Nat.Coprime f1 P := Nat.Coprime.coprime_mul_right_right hc
  have hcQ : Nat.Coprime f1 Q := Nat.Coprime.coprime_mul_left_right hc
  have h1 : f1 ^ (2 * p) ≡ 1 [MOD P] := by
    have := Nat.ModEq.pow_totient hcP
    rwa [Nat.totient_prime hP, show P - 1 = 2 * p by omega] at this
  have h2 : f1 ^ (2 * q) ≡ 1 [MOD Q] := by
    have := Nat.ModEq.pow_totient hcQ
    rwa [Nat.totient_prime hQ, show Q - 1 = 2 * q by omega] at this
  have e1 : (f1 * f1) ^ (p * q) = (f1 ^ (2 * p)) ^ q := by
    rw [← pow_two, ← pow_mul, ← pow_mul]; congr 1; ring
  have e2 : (f1 * f1) ^ (p * q) = (f1 ^ (2 * q)) ^ p := by
    rw [← pow_two, ← pow_mul, ← pow_mul]; congr 1; ring
  have g1 : (f1 * f1) ^ (p * q) ≡ 1 [MOD P] := by
    rw [e1]; simpa using h1.pow q
  have g2 : (f1 * f1) ^ (p * q) ≡ 1 [MOD Q] := by
    rw [e2]; simpa using h2.pow p
  exact (Nat.modEq_and_modEq_iff_modEq_mul ((Nat.coprime_primes hP hQ).2 hne)).1 ⟨g1, g2⟩

/-- … so `h2^beta = h1^(alpha·beta) = h1` when `alpha·beta ≡ 1 (mod pq)` -/
theorem pow_of_exp_modEq_one {x m n e : Nat} (hm : 1 < m) (hx : x ^ m ≡ 1 [MOD n])
    (he : e ≡ 1 [MOD m]) : x ^ e ≡ x [MOD n] := by
  have h1 : e % m = 1 := by rw [he, Nat.mod_eq_of_lt hm]
  have h2 : e = 1 + m * (e / m) := by
    have := Nat.mod_add_div e m
    omega
  rw [h2, pow_add, pow_one, pow_mul]
  have : x * (x ^ m) ^ (e / m) ≡ x * 1 ^ (e / m) [MOD n] := Nat.ModEq.mul_left _ (hx.pow _)
  simpa using this

end TssVerif.MiscL
