import TssVerif.Lemmas.Engine2Hist
/-! Order independence of deliveries for the two-committee engine: local confluence, duplicates, permutations,
deliveries before `Start`. -/
set_option autoImplicit false
namespace TssVerif.E2L
open TssVerif.Engine (Slot)
open TssVerif.Engine2

variable {tbl : List RSpec} {p : Party} {r : RSpec} {m : Msg}

/-- `m` carries the flag every round that needs its type requires (from either committee), and it is not for the
party's own slot (a slot the party's own `Start` writes: own index and a type the party stores itself) -/
def Good (tbl : List RSpec) (self : Nat) (m : Msg) : Prop :=
  ¬ (m.frm = self ∧ ownTy tbl m.ty = true) ∧
  ∀ r ∈ tbl, (∀ tf ∈ r.needsOld, tf.1 = m.ty → tf.2 = m.slot.flag) ∧
             (∀ tf ∈ r.needsNew, tf.1 = m.ty → tf.2 = m.slot.flag)

theorem sat_storeMsg {needs : List (Nat × Bool)} {m : Msg}
    (hg : ∀ tf ∈ needs, tf.1 = m.ty → tf.2 = m.slot.flag) (j : Nat) (h : sat needs p.store j = true) :
    sat needs (storeMsg m p).store j = true :=
  Slots.sat_setSlot hg j h

theorem cov_storeMsg (hr : r ∈ tbl) (hg : Good tbl p.self m)
    {c : Bool} {j : Nat} (h : cov r p c j) : cov r (storeMsg m p) c j :=
  h.imp id fun h => ⟨h.1, sat_storeMsg (by cases c; exact (hg.2 r hr).1; exact (hg.2 r hr).2) j h.2⟩

theorem okC_scan_storeMsg (hr : r ∈ tbl) {m : Msg}
    (hg : Good tbl p.self m) {c : Bool} {j : Nat} (h : okC (scan r p) c j = true) :
    okC (scan r (storeMsg m p)) c j = true := by
  rw [scan_okC_iff] at *
  exact h.imp id fun h => ⟨h.1, h.2.1, cov_storeMsg hr hg h.2.2⟩

theorem startRound_storeMsg (hr : r ∈ tbl) (k : Nat) (m : Msg) (p : Party)
    (hg : Good tbl p.self m) : startRound r k (storeMsg m p) = storeMsg m (startRound r k p) := by
  simp only [startRound, storeMsg]
  congr 1
  exact Slots.putSelf_setSlot p.self k r.selfStore m.slot (fun h => hg.1 ⟨h.1, ownTy_of_mem hr h.2⟩) p.store

theorem storeLaws (tbl : List RSpec) : Loop.StoreLaws ops tbl (Good tbl) where
  scan_store_scan := by
    intro r p m hr hg
    show scan r (storeMsg m (scan r p)) = scan r (storeMsg m p)
    have hst : (storeMsg m (scan r p)).store = (storeMsg m p).store := by simp only [storeMsg, scan_store]
    -- `{ p with okOld := p.okOld, okNew := p.okNew }` is `p` (structure eta): the two parties differ in the flags only
    refine scan_congr (congrArg (storeMsg m) (scan_with_flags r p p.okOld p.okNew)) fun c j => Bool.eq_iff_iff.mpr ⟨?_, ?_⟩
    · refine okC_scan_mono (p := storeMsg m (scan r p)) (q := storeMsg m p) (scan_nC r p) ?_ ?_ c j
      · exact fun c j h => okC_scan_storeMsg hr hg h
      · exact fun c j h => h.elim (fun h => cov_storeMsg hr hg (cov_of_okC_scan h)) fun h => Or.inr (hst ▸ h)
    · refine okC_scan_mono (p := storeMsg m p) (q := storeMsg m (scan r p)) (fun c => (scan_nC r p c).symm) ?_ ?_ c j
      · exact fun c j h => okC_scan_of_ok (p := storeMsg m (scan r p)) (okC_scan_of_ok (p := p) h)
      · exact fun c j h => h.imp (okC_scan_of_ok (p := p)) fun h => hst ▸ h
  scan_store := by
    intro r p m hr hg hcp
    -- both scans are all-true below the committee size and equal to the old flags from there on
    show scan r (storeMsg m p) = storeMsg m (scan r p)
    have hcp : canProceed (scan r p) = true := hcp
    refine party_ext ((scan_with_flags r (storeMsg m p) _ _).trans (by rw [scan_eq r p]; rfl)) fun c j => ?_
    show okC (scan r (storeMsg m p)) c j = okC (scan r p) c j
    by_cases hj : j < nC p c
    · have h := (canProceed_iff _).mp hcp c j (by rw [scan_nC]; exact hj)
      exact (okC_scan_storeMsg hr hg h).trans h.symm
    · apply Bool.eq_iff_iff.mpr
      rw [scan_okC_iff, scan_okC_iff]
      exact ⟨fun h => h.elim Or.inl fun h => absurd h.2.1 hj, fun h => h.elim Or.inl fun h => absurd h.2.1 hj⟩
  start_store := fun hr hg => startRound_storeMsg hr _ _ _ hg
  finish_store := fun _ _ => rfl
  canProceed_store := fun _ _ => rfl

theorem settle_store_settle (tbl : List RSpec) (m : Msg) (p : Party) (hg : Good tbl p.self m) :
    settleF tbl (storeMsg m (settleF tbl p)) = settleF tbl (storeMsg m p) := by
  rw [settleF_loop]; exact Loop.settle_store_settle frame (storeLaws tbl) p hg

theorem slotLaws : Loop.SlotLaws ops (fun m : Msg => (m.ty, m.frm)) where
  store_comm := fun a b p hne => by
    simp only [storeMsg]
    congr 1
    exact Slots.setSlot_comm a.slot b.slot p.store fun h => hne (by rw [h.1, h.2])
  store_idem := fun a p => by
    simp only [storeMsg]
    congr 1
    exact Slots.setSlot_idem a.ty a.frm a.slot p.store

/-- two good messages for different slots may be delivered in either order -/
theorem deliver_comm (tbl : List RSpec) (a b : Msg) (p : Party)
    (ha : Good tbl p.self a) (hb : Good tbl p.self b) (hne : ¬ (a.ty = b.ty ∧ a.frm = b.frm)) :
    deliver tbl a (deliver tbl b p) = deliver tbl b (deliver tbl a p) := by
  rw [deliver_loop]
  exact Loop.deliver_comm frame (storeLaws tbl) slotLaws a b p ha hb fun h => hne ⟨congrArg Prod.fst h, congrArg Prod.snd h⟩

/-- duplicates are idempotent -/
theorem deliver_dup (tbl : List RSpec) (a : Msg) (p : Party) (ha : Good tbl p.self a) :
    deliver tbl a (deliver tbl a p) = deliver tbl a p := by
  rw [deliver_loop]; exact Loop.deliver_dup frame (storeLaws tbl) slotLaws a p ha

def GoodList (tbl : List RSpec) (self : Nat) (ms : List Msg) : Prop := ∀ m ∈ ms, Good tbl self m

def SlotConsistent (ms : List Msg) : Prop := ∀ a ∈ ms, ∀ b ∈ ms, a.ty = b.ty → a.frm = b.frm → a = b

theorem delivers_loop (tbl : List RSpec) : delivers tbl = Loop.delivers ops tbl := by
  funext ms p; unfold delivers Loop.delivers; rw [deliver_loop]

/-- permuting a slot-consistent list of good messages does not change the outcome -/
theorem delivers_perm (tbl : List RSpec) {ms ms' : List Msg} (hp : ms.Perm ms') (p : Party)
    (hg : GoodList tbl p.self ms) (hc : SlotConsistent ms) : delivers tbl ms p = delivers tbl ms' p := by
  rw [delivers_loop]
  exact Loop.delivers_perm frame (storeLaws tbl) slotLaws hp p hg fun a ha b hb h =>
    hc a ha b hb (congrArg Prod.fst h) (congrArg Prod.snd h)

/-- the outcome depends only on the *set* of (slot-consistent, good) messages delivered -/
theorem delivers_same_set (tbl : List RSpec) (ms ms' : List Msg) (p : Party)
    (hset : ∀ m, m ∈ ms ↔ m ∈ ms') (hg : GoodList tbl p.self ms) (hc : SlotConsistent ms) :
    delivers tbl ms p = delivers tbl ms' p := by
  rw [delivers_loop]
  exact Loop.delivers_same_set frame (storeLaws tbl) slotLaws ms ms' p hset hg fun a ha b hb h =>
    hc a ha b hb (congrArg Prod.fst h) (congrArg Prod.snd h)

def stores (ms : List Msg) (p : Party) : Party := ms.foldl (fun p m => storeMsg m p) p

theorem stores_self (ms : List Msg) (p : Party) : (stores ms p).self = p.self := Loop.stores_self frame ms p

/-- deliveries before `Start` followed by `Start` (which runs the advance loop iff something was stored) = `Start`
followed by the same deliveries -/
theorem start_delivers (tbl : List RSpec) (ms : List Msg) (p : Party) (h0 : p.rnd = 0)
    (hg : GoodList tbl p.self ms) :
    start tbl (!ms.isEmpty) (delivers tbl ms p) = delivers tbl ms (start tbl false p) := by
  rw [start_loop, delivers_loop]; exact Loop.start_delivers frame (storeLaws tbl) ms p h0 hg

end TssVerif.E2L
