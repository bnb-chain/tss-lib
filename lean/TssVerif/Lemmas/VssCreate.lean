import TssVerif.Lemmas.VssReconstruct
import TssVerif.Lemmas.VssVerify
/-! `Vss.create` outcomes; root counting; what exactly `t` shares (one too few) reconstruct; privacy interpolation. -/
set_option autoImplicit false
set_option linter.style.haveILetI false
namespace TssVerif
namespace Vss
open Polynomial
variable {P : Type} {C : Curve P}

theorem IsCommitment.unique {as : List Nat} {vs vs' : List ECPoint}
    (h : IsCommitment C as vs) (h' : IsCommitment C as vs') : vs = vs' := by
  induction h generalizing vs' with
  | nil => cases h'; rfl
  | cons ha _ ih =>
    cases h' with
    | cons ha' hr' =>
      rw [ha] at ha'
      injection ha' with e
      rw [e, ih hr']

theorem IsCommitment.toAffine_some {as : List Nat} {vs : List ECPoint} (h : IsCommitment C as vs) :
    ∀ a ∈ as, ∃ r, C.toAffine (C.smul a C.base) = some r := by
  induction h with
  | nil => intro a ha; cases ha
  | cons ha _ ih =>
    intro b hb
    rcases List.mem_cons.1 hb with rfl | hb
    · exact ⟨_, ha⟩
    · exact ih b hb

theorem createGuards_eq_true_iff (q t : Nat) (ids : List Nat) :
    createGuards q t ids = true ↔
      1 ≤ t ∧ (∀ id ∈ ids, id % q ≠ 0) ∧ (ids.map (· % q)).Nodup ∧ t ≤ ids.length := by
  unfold createGuards checkIndexes
  simp only [Bool.and_eq_true, Bool.not_eq_true', decide_eq_false_iff_not, List.all_eq_true,
    bne_iff_ne, ne_eq, decide_eq_true_eq, not_lt]
  tauto

theorem createGuards_eq_false_iff (q t : Nat) (ids : List Nat) :
    createGuards q t ids = false ↔
      t < 1 ∨ (∃ id ∈ ids, id % q = 0) ∨
      (∃ i j, i < j ∧ j < ids.length ∧ ids.getD i 0 ≡ ids.getD j 0 [MOD q]) ∨ ids.length < t := by
  rw [← Bool.not_eq_true, createGuards_eq_true_iff]
  have hnd : ¬ (ids.map (· % q)).Nodup ↔
      ∃ i j, i < j ∧ j < ids.length ∧ ids.getD i 0 ≡ ids.getD j 0 [MOD q] := by
    rw [List.Nodup, List.pairwise_map, List.pairwise_iff_getElem]
    push Not
    constructor
    · rintro ⟨i, j, hi, hj, hij, h⟩
      exact ⟨i, j, hij, hj, by rw [AlgL.getD_eq_getElem _ _ hi, AlgL.getD_eq_getElem _ _ hj]; exact h⟩
    · rintro ⟨i, j, hij, hj, h⟩
      have hi := lt_trans hij hj
      rw [AlgL.getD_eq_getElem _ _ hi, AlgL.getD_eq_getElem _ _ hj] at h
      exact ⟨i, j, hi, hj, hij, h⟩
  rw [← hnd]
  constructor
  · intro h
    by_contra hc
    apply h
    simp only [not_or, not_lt, not_exists, not_and, not_not] at hc
    exact ⟨hc.1, fun id hid => hc.2.1 id hid, hc.2.2.1, hc.2.2.2⟩
  · rintro (h | ⟨id, hid, h0⟩ | h | h) ⟨h1, h2, h3, h4⟩
    · omega
    · exact h2 id hid h0
    · exact h h3
    · omega

theorem create_eq_ok_iff (C : Curve P) (t secret : Nat) (ids coeffs : List Nat)
    (vs : List ECPoint) (shares : List Share) :
    create C t secret ids coeffs = .ok (vs, shares) ↔
      createGuards C.q t ids = true ∧ IsCommitment C (secret :: coeffs) vs ∧
      shares = ids.map fun id => ⟨t, id, evalPoly C.q (secret :: coeffs) id⟩ := by
  cases hg : createGuards C.q t ids with
  | false =>
    obtain ⟨e, he⟩ := create_of_guards_fail C t secret ids coeffs hg
    rw [he]
    simp
  | true =>
    rw [create_of_guards C t secret ids coeffs hg]
    rcases mapM_baseMult_cases C (secret :: coeffs) with ⟨vs', hvs', hcom'⟩ | ⟨hp, a, ha, hn⟩
    · rw [hvs']
      simp only [Outcome.ok.injEq, Prod.mk.injEq, true_and]
      constructor
      · rintro ⟨rfl, rfl⟩; exact ⟨hcom', rfl⟩
      · rintro ⟨hcom, rfl⟩; exact ⟨hcom'.unique hcom, rfl⟩
    · rw [hp]
      simp only [true_and]
      constructor
      · intro h; cases h
      · rintro ⟨hcom, _⟩
        obtain ⟨r, hr⟩ := hcom.toAffine_some a ha
        rw [hr] at hn; cases hn

/-- what is known of the shares `create` hands out, and of any sublist of them: the dealer's threshold, an id
`≢ 0`, the value of the polynomial; ids pairwise distinct modulo `q`; `t ≥ 1` -/
theorem create_ok_shares {C : Curve P} {t secret : Nat} {ids coeffs : List Nat} {vs : List ECPoint}
    {shares : List Share} (h : create C t secret ids coeffs = .ok (vs, shares))
    {sub : List Share} (hsub : sub.Sublist shares) :
    1 ≤ t ∧ (sub.map (fun s => s.id % C.q)).Nodup ∧
    ∀ sh ∈ sub, sh.threshold = t ∧ sh.id % C.q ≠ 0 ∧
      sh.share ≡ polyNat (secret :: coeffs) sh.id [MOD C.q] := by
  obtain ⟨hg, _, hshares⟩ := (create_eq_ok_iff C t secret ids coeffs vs shares).1 h
  obtain ⟨ht, hidnz, hnd, _⟩ := (createGuards_eq_true_iff _ _ _).1 hg
  refine ⟨ht, List.Nodup.sublist (hsub.map _) (by rw [hshares, List.map_map]; exact hnd), fun sh hsh => ?_⟩
  have := hsub.subset hsh
  rw [hshares] at this
  obtain ⟨id, hid, rfl⟩ := List.mem_map.1 this
  exact ⟨rfl, hidnz id hid, evalPoly_modEq secret coeffs id⟩

theorem create_err_iff (C : Curve P) (t secret : Nat) (ids coeffs : List Nat) :
    (∃ e, create C t secret ids coeffs = .err e) ↔ createGuards C.q t ids = false := by
  cases hg : createGuards C.q t ids with
  | false => simpa using create_of_guards_fail C t secret ids coeffs hg
  | true =>
    rw [create_of_guards C t secret ids coeffs hg]
    rcases mapM_baseMult_cases C (secret :: coeffs) with ⟨vs', hvs', _⟩ | ⟨hp, _⟩
    · rw [hvs']; simp
    · rw [hp]; simp

theorem create_panic_iff (C : Curve P) (t secret : Nat) (ids coeffs : List Nat) :
    (∃ e, create C t secret ids coeffs = .panic e) ↔
      createGuards C.q t ids = true ∧ ∃ a ∈ secret :: coeffs, C.toAffine (C.smul a C.base) = none := by
  cases hg : createGuards C.q t ids with
  | false =>
    obtain ⟨e, he⟩ := create_of_guards_fail C t secret ids coeffs hg
    rw [he]; simp
  | true =>
    rw [create_of_guards C t secret ids coeffs hg]
    rcases mapM_baseMult_cases C (secret :: coeffs) with ⟨vs', hvs', hcom'⟩ | ⟨hp, hex⟩
    · rw [hvs']
      simp only [reduceCtorEq, exists_false, true_and, false_iff, not_exists, not_and]
      intro a ha hn
      obtain ⟨r, hr⟩ := hcom'.toAffine_some a ha
      rw [hr] at hn; cases hn
    · rw [hp]
      simp only [Outcome.panic.injEq, exists_eq', true_and, true_iff]
      exact hex

/-- a dealer polynomial that is not constant modulo `q` (`hnc`) takes a value `s` at no more than `t` ids that are
pairwise distinct modulo `q` -/
theorem value_count_le {q : ℕ} [Fact q.Prime] (as : List Nat) (t : Nat) (hlen : as.length = t + 1)
    (hnc : ∃ j, 1 ≤ j ∧ as.getD j 0 % q ≠ 0) (s : Nat) (xs : List Nat)
    (hnd : (xs.map (· % q)).Nodup) (hroot : ∀ x ∈ xs, polyNat as x ≡ s [MOD q]) :
    xs.length ≤ t := by
  classical
  set p : (ZMod q)[X] := polyZ q as - C (s : ZMod q) with hp
  have hp0 : p ≠ 0 := by
    obtain ⟨j, hj1, hj⟩ := hnc
    intro h0
    have := congrArg (fun r => r.coeff j) h0
    simp only [hp, coeff_sub, polyZ_coeff, coeff_zero] at this
    rw [coeff_C, if_neg (by omega), sub_zero, ZMod.natCast_eq_zero_iff] at this
    exact hj (Nat.mod_eq_zero_of_dvd this)
  have hdeg : p.natDegree ≤ t := by
    have h1 : (polyZ q as).natDegree ≤ t := by
      have := polyZ_natDegree_le (q := q) as
      omega
    calc p.natDegree ≤ max (polyZ q as).natDegree (C (s : ZMod q)).natDegree := natDegree_sub_le _ _
      _ ≤ t := by rw [natDegree_C]; exact max_le h1 (Nat.zero_le _)
  have hnd' : (xs.map (Nat.cast : ℕ → ZMod q)).Nodup :=
    List.Nodup.map_on (fun a ha b hb hab =>
      List.inj_on_of_nodup_map hnd ha hb ((ZMod.natCast_eq_natCast_iff' a b q).1 hab)) (List.Nodup.of_map _ hnd)
  have hsub : (xs.map (Nat.cast : ℕ → ZMod q)).toFinset ⊆ p.roots.toFinset := by
    intro y hy
    rw [List.mem_toFinset] at hy
    obtain ⟨x, hx, rfl⟩ := List.mem_map.1 hy
    rw [Multiset.mem_toFinset, mem_roots hp0, IsRoot, hp, eval_sub, eval_C, polyZ_eval_natCast]
    rw [sub_eq_zero]
    exact (ZMod.natCast_eq_natCast_iff' _ _ _).2 (hroot x hx)
  calc xs.length = (xs.map (Nat.cast : ℕ → ZMod q)).length := by simp
    _ = (xs.map (Nat.cast : ℕ → ZMod q)).toFinset.card := (List.toFinset_card_of_nodup hnd').symm
    _ ≤ p.roots.toFinset.card := Finset.card_le_card hsub
    _ ≤ p.roots.card := Multiset.toFinset_card_le _
    _ ≤ p.natDegree := card_roots' p
    _ ≤ t := hdeg

/-- with exactly `t` shares of `f = Σ a_i X^i` (degree `≤ t`) the Go code interpolates
`f − a_t · ∏ (X − id_i)` -/
theorem reconstruct_t_shares {q : ℕ} [Fact q.Prime] (as : List Nat) (t : Nat)
    (hlen : as.length = t + 1) (shares : List Share) (hsl : shares.length = t) (ht : 1 ≤ t)
    (hthr : ∀ s0 ∈ shares.head?, s0.threshold ≤ shares.length)
    (hnd : (shares.map (fun s => s.id % q)).Nodup)
    (hval : ∀ sh ∈ shares, sh.share ≡ polyNat as sh.id [MOD q]) :
    reconstruct q shares = .ok
      ((as.getD 0 0 : ZMod q) - (as.getD t 0 : ZMod q) *
        (Multiset.ofList (shares.map fun s => (0 : ZMod q) - (s.id : ZMod q))).prod).val := by
  set ids : Multiset (ZMod q) := Multiset.ofList (shares.map fun s => (s.id : ZMod q)) with hids
  set Pi : (ZMod q)[X] := (ids.map fun a => X - C a).prod with hPi
  have hcard : ids.card = t := by simp [hids, hsl]
  have hmonic : Pi.Monic := monic_multiset_prod_of_monic _ _ (fun a _ => monic_X_sub_C a)
  have hnat : Pi.natDegree = t := by rw [hPi, natDegree_multiset_prod_X_sub_C_eq_card, hcard]
  set h : (ZMod q)[X] := polyZ q as - C (as.getD t 0 : ZMod q) * Pi with hh
  have hne : shares ≠ [] := by
    intro h0; rw [h0] at hsl; simp at hsl; omega
  have hdeg : h.degree < (shares.length : ℕ) := by
    rw [hsl, degree_lt_iff_coeff_zero]
    intro m hm
    rw [hh, coeff_sub, coeff_C_mul, polyZ_coeff]
    rcases Nat.eq_or_lt_of_le hm with rfl | hlt
    · have : Pi.coeff t = 1 := by
        have := hmonic.coeff_natDegree
        rwa [hnat] at this
      rw [this, mul_one, sub_self]
    · rw [coeff_eq_zero_of_natDegree_lt (by rw [hnat]; exact hlt), mul_zero, sub_zero]
      have : as.getD m 0 = 0 := by
        simp [List.getD_eq_getElem?_getD, List.getElem?_eq_none (by omega : as.length ≤ m)]
      rw [this, Nat.cast_zero]
  have hv : ∀ sh ∈ shares, (sh.share : ZMod q) = h.eval (sh.id : ZMod q) := by
    intro sh hsh
    have hz : Pi.eval (sh.id : ZMod q) = 0 := by
      rw [hPi, eval_multiset_prod, Multiset.prod_eq_zero_iff, Multiset.mem_map]
      refine ⟨X - C (sh.id : ZMod q), ?_, by simp⟩
      rw [Multiset.mem_map]
      exact ⟨(sh.id : ZMod q), by simpa [hids] using ⟨sh, hsh, rfl⟩, rfl⟩
    rw [hh, eval_sub, eval_mul, hz, mul_zero, sub_zero, polyZ_eval_natCast]
    exact (ZMod.natCast_eq_natCast_iff' _ _ _).2 (hval sh hsh)
  rw [reconstruct_eq_eval shares h hne hthr hnd hdeg hv]
  congr 2
  rw [hh, eval_sub, eval_mul, eval_C, ← coeff_zero_eq_eval_zero, polyZ_coeff]
  congr 2
  rw [hPi, eval_multiset_prod, Multiset.map_map, hids]
  simp only [Multiset.map_coe, List.map_map]
  congr 2
  apply List.map_congr_left
  intro s _
  simp

theorem privacy_poly {q : ℕ} [Fact q.Prime] (pts : List (Nat × Nat))
    (hnd : (pts.map (·.1 % q)).Nodup) (hnz : ∀ p ∈ pts, p.1 % q ≠ 0) (secret : Nat) :
    ∃ f : (ZMod q)[X], f.degree < ((pts.length + 1 : ℕ) : WithBot ℕ) ∧ f.eval 0 = (secret : ZMod q) ∧
      ∀ p ∈ pts, f.eval (p.1 : ZMod q) = (p.2 : ZMod q) := by
  -- interpolate through `(0, secret)` and the points: the ids `0 :: ids` are still distinct modulo `q`
  have hnd' : (((0, secret) :: pts).map (·.1) |>.map (· % q)).Nodup := by
    rw [List.map_map, List.map_cons, List.nodup_cons]
    refine ⟨fun hmem => ?_, hnd⟩
    obtain ⟨p, hp, h0⟩ := List.mem_map.1 hmem
    exact hnz p hp h0
  have hinj := AlgL.injOn_of_nodup _ hnd'
  refine ⟨Lagrange.interpolate (Finset.range (((0, secret) :: pts).map (·.1)).length)
    (fun j => (((((0, secret) :: pts).map (·.1)).getD j 0 : ℕ) : ZMod q)) (fun j => ((((0, secret) :: pts).getD j (0, 0)).2 : ZMod q)), ?_, ?_, ?_⟩
  · exact (Lagrange.degree_interpolate_lt _ hinj).trans_eq
      (by rw [Finset.card_range, List.length_map, List.length_cons])
  · have := Lagrange.eval_interpolate_at_node
      (fun j => ((((0, secret) :: pts).getD j (0, 0)).2 : ZMod q)) hinj (i := 0)
      (Finset.mem_range.2 (Nat.zero_lt_succ _))
    rw [show ((((0, secret) :: pts).map (·.1)).getD 0 0 : ℕ) = 0 from rfl, Nat.cast_zero] at this
    exact this
  · intro p hp
    obtain ⟨i, hi, rfl⟩ := List.getElem_of_mem hp
    have hv : (((0, secret) :: pts).map (·.1)).getD (i + 1) 0 = pts[i].1 := by
      rw [List.map_cons, List.getD_cons_succ, AlgL.getD_eq_getElem _ _ (by simpa using hi), List.getElem_map]
    have hr : (((0, secret) :: pts).getD (i + 1) (0, 0)).2 = pts[i].2 := by
      rw [List.getD_cons_succ, AlgL.getD_eq_getElem _ _ hi]
    have := Lagrange.eval_interpolate_at_node
      (fun j => ((((0, secret) :: pts).getD j (0, 0)).2 : ZMod q)) hinj (i := i + 1)
      (Finset.mem_range.2 (by rw [List.length_map, List.length_cons]; omega))
    simpa only [hv, hr] using this

theorem exists_coeffs_of_poly {q : ℕ} [Fact q.Prime] (f : (ZMod q)[X]) (t : Nat)
    (hdeg : f.degree < ((t + 1 : ℕ) : WithBot ℕ)) (secret : Nat) (h0 : f.eval 0 = (secret : ZMod q)) :
    ∃ coeffs : List Nat, coeffs.length = t ∧ polyZ q (secret :: coeffs) = f := by
  haveI : NeZero q := ⟨(Fact.out : q.Prime).ne_zero⟩
  refine ⟨(List.range t).map fun i => (f.coeff (i + 1)).val, by simp, ?_⟩
  ext m
  rw [polyZ_coeff]
  cases m with
  | zero => simp [coeff_zero_eq_eval_zero, h0]
  | succ m =>
    rw [List.getD_cons_succ]
    by_cases hm : m < t
    · rw [AlgL.getD_eq_getElem _ _ (by simpa using hm)]
      simp
    · have hlen' : ((List.range t).map fun i => (f.coeff (i + 1)).val).length ≤ m := by
        simp; omega
      have : ((List.range t).map fun i => (f.coeff (i + 1)).val).getD m 0 = 0 := by
        rw [List.getD_eq_getElem?_getD, List.getElem?_eq_none hlen']; rfl
      rw [this, Nat.cast_zero]
      exact ((degree_lt_iff_coeff_zero f (t + 1)).1 hdeg (m + 1) (by omega)).symm

end Vss
end TssVerif
