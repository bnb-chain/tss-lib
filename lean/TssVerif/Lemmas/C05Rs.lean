import TssVerif.Lemmas.C05Ec
/-! Helper lemmas for `TssVerif/Props/C05c.lean`: the parameter checks of ECDSA resharing round 4
(`BlameEc.rsRound4Params`). The loop `scanRs` is the loop `scan` of key generation round 2 on messages whose
sizes are right (`toR1`, `scan_toR1`), so the one-deviator analysis of `Lemmas/C05Ec.lean` is reused on the
level of the loop result; the verdict lists of the three job lists (modulus proof, first and second DLN proof)
are treated as filters, for arbitrary job functions (`rsGen`). -/
set_option autoImplicit false
namespace TssVerif.C05RsL
open TssVerif BlameEc Zk C05L C06L C05EcL

/-- the key-generation message with the same index, values and DLN proofs, and 2048-bit moduli -/
def toR1 (m : RsR2Msg) : R1Msg := ⟨m.idx, 2 ^ 2047, 2 ^ 2047, m.h1, m.h2, m.dln1, m.dln2⟩

theorem sizesOk_toR1 {m : RsR2Msg} (h : m.h1 ≠ m.h2) : SizesOk (toR1 m) :=
  ⟨bitLen_two_pow, h, bitLen_two_pow⟩

theorem structural_toR1 (own : Nat) (seen : List (Nat × Nat)) (m : RsR2Msg) :
    structural own seen (toR1 m) = structuralRs own seen m := by
  unfold structural structuralRs paillierBitsLen
  have e1 : (toR1 m).paillierN = 2 ^ 2047 := rfl
  have e2 : (toR1 m).nTilde = 2 ^ 2047 := rfl
  rw [e1, e2, bitLen_two_pow]
  rfl

theorem scanRs_nil (own : Nat) (seen : List (Nat × Nat)) : scanRs own seen [] = ([], none) := rfl

theorem scanRs_cons_some (own : Nat) (seen : List (Nat × Nat)) (m : RsR2Msg) (rest : List RsR2Msg)
    (f : String × List Nat) (h : structuralRs own seen m = some f) :
    scanRs own seen (m :: rest) = ([], some f) := by
  rw [scanRs, h]

theorem scanRs_cons_none (own : Nat) (seen : List (Nat × Nat)) (m : RsR2Msg) (rest : List RsR2Msg)
    (h : structuralRs own seen m = none) :
    scanRs own seen (m :: rest) =
      (m :: (scanRs own ((m.h1, m.idx) :: (m.h2, m.idx) :: seen) rest).1,
        (scanRs own ((m.h1, m.idx) :: (m.h2, m.idx) :: seen) rest).2) := by
  rw [scanRs, h]

theorem scan_toR1 (own : Nat) : ∀ (msgs : List RsR2Msg) (seen : List (Nat × Nat)),
    scan own seen (msgs.map toR1) = ((scanRs own seen msgs).1.map toR1, (scanRs own seen msgs).2) := by
  intro msgs
  induction msgs with
  | nil => intro seen; rfl
  | cons m rest ih =>
    intro seen
    rw [List.map_cons]
    cases hs : structuralRs own seen m with
    | some f =>
      rw [scan_cons_some own seen _ _ f (by rw [structural_toR1]; exact hs), scanRs_cons_some own seen m rest f hs]
      rfl
    | none =>
      rw [scan_cons_none own seen _ _ (by rw [structural_toR1]; exact hs), scanRs_cons_none own seen m rest hs]
      have := ih ((m.h1, m.idx) :: (m.h2, m.idx) :: seen)
      have e1 : (toR1 m).h1 = m.h1 := rfl
      have e2 : (toR1 m).h2 = m.h2 := rfl
      have e3 : (toR1 m).idx = m.idx := rfl
      rw [e1, e2, e3, this]
      rfl

/-- the structural failure found by the resharing loop is the one the key-generation loop finds -/
theorem scanRs_snd (own : Nat) (msgs : List RsR2Msg) :
    (scanRs own [] msgs).2 = (scan own [] (msgs.map toR1)).2 := by
  rw [scan_toR1]

theorem scanRs_spawned_prefix (own : Nat) : ∀ (msgs : List RsR2Msg) (seen : List (Nat × Nat)),
    ∃ post, msgs = (scanRs own seen msgs).1 ++ post := by
  intro msgs
  induction msgs with
  | nil => intro seen; exact ⟨[], rfl⟩
  | cons m rest ih =>
    intro seen
    cases hs : structuralRs own seen m with
    | some f => rw [scanRs_cons_some own seen m rest f hs]; exact ⟨m :: rest, rfl⟩
    | none =>
      rw [scanRs_cons_none own seen m rest hs]
      obtain ⟨post, hp⟩ := ih ((m.h1, m.idx) :: (m.h2, m.idx) :: seen)
      exact ⟨post, by rw [List.cons_append, ← hp]⟩

theorem scanRs_spawned_subset (own : Nat) (msgs : List RsR2Msg) (seen : List (Nat × Nat)) :
    ∀ m ∈ (scanRs own seen msgs).1, m ∈ msgs := by
  obtain ⟨post, h⟩ := scanRs_spawned_prefix own msgs seen
  intro m hm
  rw [h]
  exact List.mem_append_left _ hm

theorem scanRs_none_spawns_all (own : Nat) : ∀ (msgs : List RsR2Msg) (seen : List (Nat × Nat)),
    (scanRs own seen msgs).2 = none → (scanRs own seen msgs).1 = msgs := by
  intro msgs
  induction msgs with
  | nil => intro seen _; rfl
  | cons m rest ih =>
    intro seen h
    cases hs : structuralRs own seen m with
    | some f => rw [scanRs_cons_some own seen m rest f hs] at h; cases h
    | none =>
      rw [scanRs_cons_none own seen m rest hs] at h ⊢
      rw [ih _ h]

theorem scanRs_spawned_shape (own : Nat) : ∀ (msgs : List RsR2Msg) (seen : List (Nat × Nat)),
    ∀ m ∈ (scanRs own seen msgs).1, m.h1 ≠ m.h2 := by
  intro msgs
  induction msgs with
  | nil => intro seen m hm; cases hm
  | cons a rest ih =>
    intro seen m hm
    cases hs : structuralRs own seen a with
    | some f => rw [scanRs_cons_some own seen a rest f hs] at hm; cases hm
    | none =>
      rw [scanRs_cons_none own seen a rest hs] at hm
      rcases List.mem_cons.1 hm with rfl | hm
      · intro e
        unfold structuralRs at hs
        rw [if_pos (by simp [e])] at hs
        cases hs
      · exact ih _ m hm

/-- the two ways the structural check of resharing fails -/
theorem structuralRs_some_cases (own : Nat) (seen : List (Nat × Nat)) (m : RsR2Msg) (why : String)
    (cs : List Nat) (h : structuralRs own seen m = some (why, cs)) :
    (m.h1 = m.h2 ∧ why = msgEqual ∧ cs = [m.idx]) ∨
    (m.h1 ≠ m.h2 ∧ ((why = msgDupH1 ∧ ∃ k, (m.h1, k) ∈ seen ∧ cs = duplicateCulprits own m.idx k) ∨
      (why = msgDupH2 ∧ ∃ k, (m.h2, k) ∈ seen ∧ cs = duplicateCulprits own m.idx k))) := by
  unfold structuralRs at h
  by_cases e : m.h1 = m.h2
  · left
    rw [if_pos (by simp [e])] at h
    injection h with h
    injection h with ha hb
    exact ⟨e, ha.symm, hb.symm⟩
  · right
    rw [if_neg (by simp [e])] at h
    refine ⟨e, ?_⟩
    cases h1 : seen.lookup m.h1 with
    | some k =>
      rw [h1] at h
      injection h with h
      injection h with ha hb
      exact Or.inl ⟨ha.symm, k, lookup_some_mem _ _ _ h1, hb.symm⟩
    | none =>
      rw [h1] at h
      cases h2 : seen.lookup m.h2 with
      | some k =>
        rw [h2] at h
        injection h with h
        injection h with ha hb
        exact Or.inr ⟨ha.symm, k, lookup_some_mem _ _ _ h2, hb.symm⟩
      | none => rw [h2] at h; cases h

theorem structuralRs_none_iff (own : Nat) (seen : List (Nat × Nat)) (m : RsR2Msg) :
    structuralRs own seen m = none ↔
      m.h1 ≠ m.h2 ∧ (∀ p ∈ seen, p.1 ≠ m.h1) ∧ (∀ p ∈ seen, p.1 ≠ m.h2) := by
  rw [← structural_toR1, structural_none_iff]
  constructor
  · rintro ⟨⟨_, h, _⟩, h1, h2⟩; exact ⟨h, h1, h2⟩
  · rintro ⟨h, h1, h2⟩; exact ⟨sizesOk_toR1 h, h1, h2⟩

theorem scanRs_none_iff_aux (own : Nat) : ∀ (msgs : List RsR2Msg) (seen : List (Nat × Nat)),
    (scanRs own seen msgs).2 = none ↔
      (∀ m ∈ msgs, m.h1 ≠ m.h2 ∧ (∀ p ∈ seen, p.1 ≠ m.h1) ∧ (∀ p ∈ seen, p.1 ≠ m.h2)) ∧
      msgs.Pairwise (fun a b => a.h1 ≠ b.h1 ∧ a.h1 ≠ b.h2 ∧ a.h2 ≠ b.h1 ∧ a.h2 ≠ b.h2) := by
  intro msgs
  induction msgs with
  | nil => intro seen; simp [scanRs_nil]
  | cons a rest ih =>
    intro seen
    cases hs : structuralRs own seen a with
    | some f =>
      rw [scanRs_cons_some own seen a rest f hs]
      constructor
      · intro h; cases h
      · rintro ⟨h, _⟩
        have := (structuralRs_none_iff own seen a).2 (h a (List.mem_cons_self ..))
        rw [this] at hs; cases hs
    | none =>
      rw [scanRs_cons_none own seen a rest hs]
      show (scanRs own _ rest).2 = none ↔ _
      have ha := (structuralRs_none_iff own seen a).1 hs
      rw [ih, List.pairwise_cons]
      simp only [List.forall_mem_cons]
      constructor
      · rintro ⟨h1, h2⟩
        refine ⟨⟨ha, fun m hm => ?_⟩, fun b hb => ?_, h2⟩
        · obtain ⟨x, ⟨_, _, y⟩, _, _, z⟩ := h1 m hm
          exact ⟨x, y, z⟩
        · obtain ⟨_, ⟨c1, c3, _⟩, c2, c4, _⟩ := h1 b hb
          exact ⟨c1, c2, c3, c4⟩
      · rintro ⟨⟨_, h1⟩, h2, h3⟩
        refine ⟨fun m hm => ?_, h3⟩
        obtain ⟨x, y, z⟩ := h1 m hm
        obtain ⟨c1, c2, c3, c4⟩ := h2 m hm
        exact ⟨x, ⟨c1, c3, y⟩, c2, c4, z⟩

/-- one of the values `h1`, `h2` of `a` equals one of the values `h1`, `h2` of `b` -/
def ClashRs (a b : RsR2Msg) : Prop := a.h1 = b.h1 ∨ a.h1 = b.h2 ∨ a.h2 = b.h1 ∨ a.h2 = b.h2

/-- the stored messages of a run in which every new member except `dev` is honest, as far as the structural
checks see them -/
structure OneDevRs (own dev : Nat) (msgs : List RsR2Msg) : Prop where
  ne : dev ≠ own
  nodup : (msgs.map (·.idx)).Nodup
  shape : ∀ m ∈ msgs, m.idx ≠ dev → m.h1 ≠ m.h2
  noClash : ∀ m ∈ msgs, ∀ m' ∈ msgs, m.idx ≠ dev → m'.idx ≠ dev → m.idx ≠ m'.idx → ¬ ClashRs m m'

theorem OneDevRs.toR1 {own dev : Nat} {msgs : List RsR2Msg} (h : OneDevRs own dev msgs) :
    OneDev own dev (msgs.map toR1) := by
  refine ⟨h.ne, ?_, ?_, ?_⟩
  · rw [List.map_map]; exact h.nodup
  · intro m hm hne
    obtain ⟨x, hx, rfl⟩ := List.mem_map.1 hm
    exact sizesOk_toR1 (h.shape x hx hne)
  · intro m hm m' hm' h1 h2 h3
    obtain ⟨x, hx, rfl⟩ := List.mem_map.1 hm
    obtain ⟨x', hx', rfl⟩ := List.mem_map.1 hm'
    exact h.noClash x hx x' hx' h1 h2 h3

theorem rs_failure_senders (own : Nat) (msgs : List RsR2Msg) (why : String) (cs : List Nat)
    (h : (scanRs own [] msgs).2 = some (why, cs)) : ∀ c ∈ cs, ∃ m ∈ msgs, m.idx = c := by
  rw [scanRs_snd] at h
  intro c hc
  obtain ⟨m, hm, hi⟩ := scan_failure_senders own _ why cs h c hc
  obtain ⟨x, hx, rfl⟩ := List.mem_map.1 hm
  exact ⟨x, hx, hi⟩

theorem OneDevRs.failure_dev {own dev : Nat} {msgs : List RsR2Msg} (hd : OneDevRs own dev msgs)
    {why : String} {cs : List Nat} (h : (scanRs own [] msgs).2 = some (why, cs)) : ∀ c ∈ cs, c = dev := by
  rw [scanRs_snd] at h
  exact hd.toR1.scan_failure_dev h

theorem OneDevRs.clash {own dev : Nat} {msgs : List RsR2Msg} (hd : OneDevRs own dev msgs)
    {md mx : RsR2Msg} (hmd : md ∈ msgs) (hdev : md.idx = dev) (hsz : md.h1 ≠ md.h2)
    (hmx : mx ∈ msgs) (hx : mx.idx ≠ dev) (hc : ClashRs md mx) :
    ∃ why cs other, (scanRs own [] msgs).2 = some (why, cs) ∧ (why = msgDupH1 ∨ why = msgDupH2) ∧
      other ∈ msgs ∧ other.idx ≠ dev ∧ ClashRs md other ∧
      (cs = duplicateCulprits own dev other.idx ∨ cs = duplicateCulprits own other.idx dev) := by
  obtain ⟨why, cs, other, hr, hw, ho, hod, hoc, hcs⟩ :=
    hd.toR1.scan_clash (List.mem_map.2 ⟨md, hmd, rfl⟩) hdev (sizesOk_toR1 hsz)
      (List.mem_map.2 ⟨mx, hmx, rfl⟩) hx hc
  obtain ⟨x, hx', rfl⟩ := List.mem_map.1 ho
  exact ⟨why, cs, x, by rw [scanRs_snd]; exact hr, hw, hx', hod, hoc, hcs⟩

theorem OneDevRs.clash_with_own {own dev : Nat} {msgs : List RsR2Msg} (hd : OneDevRs own dev msgs)
    {md mo : RsR2Msg} (hmd : md ∈ msgs) (hdev : md.idx = dev) (hsz : md.h1 ≠ md.h2)
    (hmo : mo ∈ msgs) (hown : mo.idx = own) (hc : ClashRs md mo)
    (hthird : ∀ m ∈ msgs, m.idx ≠ dev → m.idx ≠ own → ¬ ClashRs md m) :
    ∃ why, (scanRs own [] msgs).2 = some (why, [dev]) ∧ (why = msgDupH1 ∨ why = msgDupH2) := by
  obtain ⟨why, hr, hw⟩ :=
    hd.toR1.scan_clash_with_own (List.mem_map.2 ⟨md, hmd, rfl⟩) hdev (sizesOk_toR1 hsz)
      (List.mem_map.2 ⟨mo, hmo, rfl⟩) hown hc (fun m hm h1 h2 => by
        obtain ⟨x, hx, rfl⟩ := List.mem_map.1 hm
        exact hthird x hx h1 h2)
  exact ⟨why, by rw [scanRs_snd]; exact hr, hw⟩

theorem OneDevRs.clash_with_third {own dev : Nat} {msgs : List RsR2Msg} (hd : OneDevRs own dev msgs)
    {md mt : RsR2Msg} (hmd : md ∈ msgs) (hdev : md.idx = dev) (hsz : md.h1 ≠ md.h2)
    (hmt : mt ∈ msgs) (ht : mt.idx ≠ dev) (hc : ClashRs md mt)
    (hnown : ∀ m ∈ msgs, m.idx = own → ¬ ClashRs md m) :
    ∃ why, (scanRs own [] msgs).2 = some (why, []) ∧ (why = msgDupH1 ∨ why = msgDupH2) := by
  obtain ⟨why, hr, hw⟩ :=
    hd.toR1.scan_clash_with_third (List.mem_map.2 ⟨md, hmd, rfl⟩) hdev (sizesOk_toR1 hsz)
      (List.mem_map.2 ⟨mt, hmt, rfl⟩) ht hc (fun m hm h1 => by
        obtain ⟨x, hx, rfl⟩ := List.mem_map.1 hm
        exact hnown x hx h1)
  exact ⟨why, by rw [scanRs_snd]; exact hr, hw⟩

/-- the deviator's message with `h1 = h2` stops the loop naming the deviator -/
theorem OneDevRs.equal_fails {own dev : Nat} {msgs : List RsR2Msg} (hd : OneDevRs own dev msgs)
    {md : RsR2Msg} (hmd : md ∈ msgs) (hdev : md.idx = dev) (he : md.h1 = md.h2) :
    (scanRs own [] msgs).2 = some (msgEqual, [dev]) := by
  obtain ⟨seen, why, hs, hr, _⟩ := hd.toR1.scan_bad_size (List.mem_map.2 ⟨md, hmd, rfl⟩) hdev
    (fun h => h.2.1 he)
  rw [structural_toR1] at hs
  rcases structuralRs_some_cases own seen md why _ hs with ⟨_, hw, _⟩ | ⟨hne, _⟩
  · rw [scanRs_snd, hr, hw]
  · exact absurd he hne

section gen
variable (fM fA fB : RsR2Msg → Outcome Bool)

/-- `decide3`, `rsGen`: `rsRound4Params` (which is stated with three verdict lists, `rs_eq`) with the three jobs as
parameters; `rsGen_eq` identifies it with the pool on three jobs -/
def decide3 (failure : Option (String × List Nat)) (sp : List RsR2Msg) (vm v1 v2 : List Bool) : Verdict :=
  match failure with
  | some (why, cs) => .fail why cs
  | none =>
    match ((sp.zip vm).filter (fun p => !p.2) ++ (sp.zip v1).filter (fun p => !p.2) ++
      (sp.zip v2).filter (fun p => !p.2)).map (·.1.idx) with
    | [] => .pass
    | j :: _ => .fail msgDln [j]

/-- `rsRound4Params` with the three jobs abstracted -/
def rsGen (own : Nat) (msgs : List RsR2Msg) : Outcome Verdict :=
  (scanRs own [] msgs).1.mapM fM >>= fun vm =>
  (scanRs own [] msgs).1.mapM fA >>= fun v1 =>
  (scanRs own [] msgs).1.mapM fB >>= fun v2 =>
  .ok (decide3 (scanRs own [] msgs).2 (scanRs own [] msgs).1 vm v1 v2)

theorem forall_mem_triple {β : Type} {a b c : β} {P : β → Prop} : (∀ x ∈ [a, b, c], P x) ↔ P a ∧ P b ∧ P c := by
  simp

/-- the round is the loop followed by the pool with the three jobs -/
theorem rsGen_eq (own : Nat) (msgs : List RsR2Msg) :
    rsGen fM fA fB own msgs =
      poolRound (·.idx) [fM, fA, fB] (scanRs own [] msgs).1 (scanRs own [] msgs).2 := by
  unfold rsGen poolRound
  rw [List.mapM_cons, List.mapM_cons, List.mapM_cons, List.mapM_nil]
  cases (scanRs own [] msgs).1.mapM fM with
  | err e => rfl
  | panic e => rfl
  | ok vm =>
    cases (scanRs own [] msgs).1.mapM fA with
    | err e => rfl
    | panic e => rfl
    | ok v1 =>
      cases (scanRs own [] msgs).1.mapM fB with
      | err e => rfl
      | panic e => rfl
      | ok v2 =>
        cases (scanRs own [] msgs).2 with
        | some f => rfl
        | none =>
          simp only [Outcome.ok_bind, Outcome.pure_eq, decide3, verdictOf, List.flatMap_cons, List.flatMap_nil,
            List.append_nil, ← zip_filter_eq_zipNamed, ← List.map_append, List.append_assoc]
          generalize List.map (fun (x : RsR2Msg × Bool) => x.1.idx) _ = bad
          cases bad <;> rfl

theorem rsGen_of_checks_ok (own : Nat) (msgs : List RsR2Msg)
    (hm : ∀ m ∈ (scanRs own [] msgs).1, ∃ b, fM m = .ok b)
    (h1 : ∀ m ∈ (scanRs own [] msgs).1, ∃ b, fA m = .ok b)
    (h2 : ∀ m ∈ (scanRs own [] msgs).1, ∃ b, fB m = .ok b) :
    rsGen fM fA fB own msgs =
      .ok (verdictOf (scanRs own [] msgs).2 (badNames (·.idx) [fM, fA, fB] (scanRs own [] msgs).1)) := by
  rw [rsGen_eq, poolRound_ok_iff]
  exact ⟨forall_mem_triple.2 ⟨hm, h1, h2⟩, rfl⟩

theorem rsGen_pass_iff (own : Nat) (msgs : List RsR2Msg) :
    rsGen fM fA fB own msgs = .ok .pass ↔
      (scanRs own [] msgs).2 = none ∧
      ∀ m ∈ (scanRs own [] msgs).1, fM m = .ok true ∧ fA m = .ok true ∧ fB m = .ok true := by
  rw [rsGen_eq, poolRound_pass_iff, forall_mem_triple]
  exact ⟨fun ⟨h, h0, h1, h2⟩ => ⟨h, fun m hm => ⟨h0 m hm, h1 m hm, h2 m hm⟩⟩,
    fun ⟨h, hall⟩ => ⟨h, fun m hm => (hall m hm).1, fun m hm => (hall m hm).2.1, fun m hm => (hall m hm).2.2⟩⟩

theorem rsGen_culprits_are_senders (own : Nat) (msgs : List RsR2Msg) (why : String) (cs : List Nat)
    (h : rsGen fM fA fB own msgs = .ok (.fail why cs)) : ∀ c ∈ cs, ∃ m ∈ msgs, m.idx = c := by
  rw [rsGen_eq] at h
  rcases poolRound_fail_inv _ _ _ _ h with hf | ⟨_, _, c, rfl, _, _, m, hm, hi, _⟩
  · exact rs_failure_senders own msgs _ _ hf
  · intro c' hc'
    rw [List.mem_singleton.1 hc']
    exact ⟨m, scanRs_spawned_subset own msgs [] m hm, hi⟩

/-- the verdicts of the three job lists in a one-deviator run: valid for the honest messages, some verdict
for the deviator's -/
structure JobsOk (dev : Nat) (msgs : List RsR2Msg) : Prop where
  honest : ∀ m ∈ msgs, m.idx ≠ dev → fM m = .ok true ∧ fA m = .ok true ∧ fB m = .ok true
  dev : ∀ m ∈ msgs, m.idx = dev → (∃ b, fM m = .ok b) ∧ (∃ b, fA m = .ok b) ∧ ∃ b, fB m = .ok b

variable {fM fA fB}

/-- what the pool lemmas ask of the three jobs on the spawned messages -/
theorem JobsOk.jobs {own dev : Nat} {msgs : List RsR2Msg} (hk : JobsOk fM fA fB dev msgs) :
    (∀ j ∈ [fM, fA, fB], ∀ m ∈ (scanRs own [] msgs).1, m.idx ≠ dev → j m = .ok true) ∧
    (∀ j ∈ [fM, fA, fB], ∀ m ∈ (scanRs own [] msgs).1, ∃ b, j m = .ok b) := by
  have hs := scanRs_spawned_subset own msgs []
  simp only [forall_mem_triple]
  refine ⟨⟨fun m hm hne => (hk.honest m (hs m hm) hne).1, fun m hm hne => (hk.honest m (hs m hm) hne).2.1,
    fun m hm hne => (hk.honest m (hs m hm) hne).2.2⟩, fun m hm => ?_, fun m hm => ?_, fun m hm => ?_⟩ <;>
    by_cases h : m.idx = dev
  · exact (hk.dev m (hs m hm) h).1
  · exact ⟨true, (hk.honest m (hs m hm) h).1⟩
  · exact (hk.dev m (hs m hm) h).2.1
  · exact ⟨true, (hk.honest m (hs m hm) h).2.1⟩
  · exact (hk.dev m (hs m hm) h).2.2
  · exact ⟨true, (hk.honest m (hs m hm) h).2.2⟩

/-- a structural failure decides the result whatever the jobs say -/
theorem rsGen_of_scan_some {own dev : Nat} {msgs : List RsR2Msg} (hk : JobsOk fM fA fB dev msgs)
    {why : String} {cs : List Nat} (hscan : (scanRs own [] msgs).2 = some (why, cs)) :
    rsGen fM fA fB own msgs = .ok (.fail why cs) := by
  rw [rsGen_eq, hscan]
  exact (poolRound_ok_iff _ _ _ _ _).2 ⟨hk.jobs.2, rfl⟩

theorem rsGen_single_deviator {own dev : Nat} {msgs : List RsR2Msg} (hd : OneDevRs own dev msgs)
    (hk : JobsOk fM fA fB dev msgs) :
    rsGen fM fA fB own msgs = .ok .pass ∨
      ∃ why cs, rsGen fM fA fB own msgs = .ok (.fail why cs) ∧ ∀ c ∈ cs, c = dev := by
  cases hf : (scanRs own [] msgs).2 with
  | some f =>
    obtain ⟨why, cs⟩ := f
    exact Or.inr ⟨why, cs, rsGen_of_scan_some hk hf, hd.failure_dev hf⟩
  | none =>
    rw [rsGen_eq, hf]
    rcases poolRound_of_dev _ _ _ (hk.jobs (own := own)).1 hk.jobs.2 with h | h
    · exact Or.inl h
    · exact Or.inr ⟨_, _, h, fun c hc => List.mem_singleton.1 hc⟩

theorem rsGen_bad_job {own dev : Nat} {msgs : List RsR2Msg} (hk : JobsOk fM fA fB dev msgs)
    (hscan : (scanRs own [] msgs).2 = none) {md : RsR2Msg} (hmd : md ∈ msgs)
    (hbad : fM md = .ok false ∨ fA md = .ok false ∨ fB md = .ok false) :
    rsGen fM fA fB own msgs = .ok (.fail msgDln [dev]) := by
  rw [rsGen_eq, hscan]
  have hmd' : md ∈ (scanRs own [] msgs).1 := by rw [scanRs_none_spawns_all own msgs [] hscan]; exact hmd
  have key : ∀ j ∈ [fM, fA, fB], j md = .ok false →
      poolRound (·.idx) [fM, fA, fB] (scanRs own [] msgs).1 none = .ok (.fail msgDln [dev]) :=
    fun j hj hb => poolRound_bad_job _ _ _ (hk.jobs (own := own)).1 hk.jobs.2 hj hmd' hb
  rcases hbad with hb | hb | hb
  · exact key fM (by simp) hb
  · exact key fA (by simp) hb
  · exact key fB (by simp) hb

/-- all of the deviator's proofs are valid too and the loop finds nothing: the round passes -/
theorem rsGen_all_good {own dev : Nat} {msgs : List RsR2Msg} (hk : JobsOk fM fA fB dev msgs)
    (hscan : (scanRs own [] msgs).2 = none)
    (hgood : ∀ m ∈ msgs, m.idx = dev → fM m = .ok true ∧ fA m = .ok true ∧ fB m = .ok true) :
    rsGen fM fA fB own msgs = .ok .pass := by
  rw [rsGen_pass_iff]
  refine ⟨hscan, fun m hm => ?_⟩
  have hm' := scanRs_spawned_subset own msgs [] m hm
  by_cases h : m.idx = dev
  · exact hgood m hm' h
  · exact hk.honest m hm' h

theorem rsGen_clash {own dev : Nat} {msgs : List RsR2Msg} (hd : OneDevRs own dev msgs)
    (hk : JobsOk fM fA fB dev msgs) {md mx : RsR2Msg} (hmd : md ∈ msgs) (hdev : md.idx = dev)
    (hsz : md.h1 ≠ md.h2) (hmx : mx ∈ msgs) (hx : mx.idx ≠ dev) (hc : ClashRs md mx) :
    ∃ why cs other, rsGen fM fA fB own msgs = .ok (.fail why cs) ∧ (why = msgDupH1 ∨ why = msgDupH2) ∧
      other ∈ msgs ∧ other.idx ≠ dev ∧ ClashRs md other ∧
      (cs = duplicateCulprits own dev other.idx ∨ cs = duplicateCulprits own other.idx dev) := by
  obtain ⟨why, cs, other, hr, rest⟩ := hd.clash (own := own) hmd hdev hsz hmx hx hc
  exact ⟨why, cs, other, rsGen_of_scan_some hk hr, rest⟩

theorem rsGen_clash_with_own {own dev : Nat} {msgs : List RsR2Msg} (hd : OneDevRs own dev msgs)
    (hk : JobsOk fM fA fB dev msgs) {md mo : RsR2Msg} (hmd : md ∈ msgs) (hdev : md.idx = dev)
    (hsz : md.h1 ≠ md.h2) (hmo : mo ∈ msgs) (hown : mo.idx = own) (hc : ClashRs md mo)
    (hthird : ∀ m ∈ msgs, m.idx ≠ dev → m.idx ≠ own → ¬ ClashRs md m) :
    ∃ why, rsGen fM fA fB own msgs = .ok (.fail why [dev]) ∧ (why = msgDupH1 ∨ why = msgDupH2) := by
  obtain ⟨why, hr, hw⟩ := hd.clash_with_own hmd hdev hsz hmo hown hc hthird
  exact ⟨why, rsGen_of_scan_some hk hr, hw⟩

theorem rsGen_clash_with_third {own dev : Nat} {msgs : List RsR2Msg} (hd : OneDevRs own dev msgs)
    (hk : JobsOk fM fA fB dev msgs) {md mt : RsR2Msg} (hmd : md ∈ msgs) (hdev : md.idx = dev)
    (hsz : md.h1 ≠ md.h2) (hmt : mt ∈ msgs) (ht : mt.idx ≠ dev) (hc : ClashRs md mt)
    (hnown : ∀ m ∈ msgs, m.idx = own → ¬ ClashRs md m) :
    ∃ why, rsGen fM fA fB own msgs = .ok (.fail why []) ∧ (why = msgDupH1 ∨ why = msgDupH2) := by
  obtain ⟨why, hr, hw⟩ := hd.clash_with_third hmd hdev hsz hmt ht hc hnown
  exact ⟨why, rsGen_of_scan_some hk hr, hw⟩

/-- the deviator's `h1 = h2` is blamed on it (its own jobs are never spawned, so nothing is assumed on them) -/
theorem rsGen_equal {own dev : Nat} {msgs : List RsR2Msg} (hd : OneDevRs own dev msgs)
    (hh : ∀ m ∈ msgs, m.idx ≠ dev → fM m = .ok true ∧ fA m = .ok true ∧ fB m = .ok true)
    {md : RsR2Msg} (hmd : md ∈ msgs) (hdev : md.idx = dev) (he : md.h1 = md.h2) :
    rsGen fM fA fB own msgs = .ok (.fail msgEqual [dev]) := by
  have hr := hd.equal_fails (own := own) hmd hdev he
  -- the deviator's message is not among the spawned ones
  have hsp : ∀ m ∈ (scanRs own [] msgs).1, m.idx ≠ dev := by
    intro m hm hi
    have hm' := scanRs_spawned_subset own msgs [] m hm
    have : m = md := List.inj_on_of_nodup_map hd.nodup hm' hmd (hi.trans hdev.symm)
    subst this
    exact (scanRs_spawned_shape own msgs [] m hm) he
  have hs := scanRs_spawned_subset own msgs []
  rw [rsGen_of_checks_ok fM fA fB own msgs (fun m hm => ⟨true, (hh m (hs m hm) (hsp m hm)).1⟩)
    (fun m hm => ⟨true, (hh m (hs m hm) (hsp m hm)).2.1⟩)
    (fun m hm => ⟨true, (hh m (hs m hm) (hsp m hm)).2.2⟩), hr]
  rfl

end gen

section jobs
variable (H : HashFn) (zcfg : Zk.Cfg) (pcfg : ParseCfg) (noMod : Bool) (ssid : Bytes)

def dlnA (m : RsR2Msg) : Outcome Bool := dlnCheck H pcfg m.dln1 m.h1 m.h2 m.nTilde
def dlnB (m : RsR2Msg) : Outcome Bool := dlnCheck H pcfg m.dln2 m.h2 m.h1 m.nTilde

theorem rs_eq (own : Nat) (msgs : List RsR2Msg) :
    rsRound4Params H zcfg pcfg noMod own ssid msgs =
      rsGen (modJob H zcfg noMod ssid) (dlnA H pcfg) (dlnB H pcfg) own msgs := by
  unfold rsRound4Params rsGen
  obtain ⟨sp, f⟩ := scanRs own [] msgs
  show (sp.mapM (modJob H zcfg noMod ssid) >>= fun vm => sp.mapM (dlnA H pcfg) >>= fun v1 =>
    sp.mapM (dlnB H pcfg) >>= fun v2 => _) = _
  cases (sp.mapM (modJob H zcfg noMod ssid)) with
  | err e => rfl
  | panic e => rfl
  | ok vm =>
    simp only [Outcome.ok_bind]
    cases (sp.mapM (dlnA H pcfg)) with
    | err e => rfl
    | panic e => rfl
    | ok v1 =>
      simp only [Outcome.ok_bind]
      cases (sp.mapM (dlnB H pcfg)) with
      | err e => rfl
      | panic e => rfl
      | ok v2 =>
        simp only [Outcome.ok_bind]
        cases f with
        | some f => rfl
        | none =>
          simp only [decide3]
          generalize List.map (fun (x : RsR2Msg × Bool) => x.1.idx) _ = bad
          cases bad <;> rfl

/-- the modulus job on a proof that does not decode -/
theorem modJob_undecodable (m : RsR2Msg) (h : modFromBytes m.modProof = none) :
    modJob H zcfg noMod ssid m = .ok noMod := by
  unfold modJob; rw [h]

end jobs

theorem goJacobi_noErr (a : Int) (n : Nat) : NoErr (goJacobi a n) := by
  unfold goJacobi
  split
  · exact fun _ => nofun
  · exact NoErr.ok _

theorem modYs_noErr (H : HashFn) (sess : Bytes) (w n : Int) :
    ∀ (k : Nat) (acc : List Nat), NoErr (modYs H sess w n k acc) := by
  intro k
  induction k with
  | zero => intro acc; exact NoErr.ok _
  | succ k ih =>
    intro acc
    unfold modYs
    split
    · exact fun _ => nofun
    · exact ih _

/-- the modulus-proof verifier only answers yes/no (or crashes), on every tree -/
theorem modVerify_noErr (cfg : Zk.Cfg) (H : HashFn) (sess : Bytes) (w : Int) (xs : List Int) (a b : Int)
    (zs : List Int) (n : Int) : NoErr (modVerify cfg H sess w xs a b zs n) := by
  unfold modVerify
  ne_guard; ne_guard
  ne_bind goJacobi_noErr _ _
  ne_guard; ne_guard; ne_guard; ne_guard; ne_guard; ne_guard; ne_guard; ne_guard
  ne_bind modYs_noErr H sess w n _ _
  ne_guard
  exact NoErr.ok _

/-- the modulus job never reports an error, on every tree -/
theorem modJob_noErr (H : HashFn) (zcfg : Zk.Cfg) (noMod : Bool) (ssid : Bytes) (m : RsR2Msg) :
    NoErr (modJob H zcfg noMod ssid m) := by
  unfold modJob
  split
  · exact NoErr.ok _
  · exact modVerify_noErr _ H _ _ _ _ _ _ _

/-- … and never crashes on the current tree -/
theorem modJob_noPanic (H : HashFn) (noMod : Bool) (ssid : Bytes) (m : RsR2Msg) :
    NoPanic (modJob H Zk.cur noMod ssid m) := by
  unfold modJob
  split
  · exact NoPanic.ok _
  · exact modVerify_noPanic H _ _ _ _ _ _ _

theorem modJob_total (H : HashFn) (noMod : Bool) (ssid : Bytes) (m : RsR2Msg) :
    ∃ b, modJob H Zk.cur noMod ssid m = .ok b :=
  C05SgL.total_of (modJob_noPanic H noMod ssid m) (modJob_noErr H _ noMod ssid m)

end TssVerif.C05RsL
