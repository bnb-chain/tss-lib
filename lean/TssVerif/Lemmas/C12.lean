import TssVerif.Lemmas.C11
import TssVerif.Lemmas.C16
/-! Definitions (challenge pre-image lists) and the general lemmas behind `TssVerif/Props/C12.lean`: integer lists and
their framed bytes, tagged pre-images, cancellation on a lawful curve, two challenges in an RSA group. -/
set_option autoImplicit false

/-! ## the integer lists the Fiat–Shamir challenges hash -/
namespace TssVerif.C12
open TssVerif Zk

/-- every entry is a non-negative integer (Go's `Bytes()` drops the sign, so only then do the bytes
determine the integer) -/
def NonNeg (l : List Int) : Prop := ∀ x ∈ l, 0 ≤ x

namespace Schnorr
/-- statement `X` (with the generator `g`), first move `alpha` -/
def preimage (g X alpha : ECPoint) : List Int := [X.1, X.2, g.1, g.2, alpha.1, alpha.2]
end Schnorr

namespace SchnorrV
/-- statement `(V, R)` (with the generator `g`), first move `alpha` -/
def preimage (g V R alpha : ECPoint) : List Int :=
  [V.1, V.2, R.1, R.2, g.1, g.2, alpha.1, alpha.2]
end SchnorrV

namespace Bob
/-- statement `(N, c1, c2)` and, with check, `X`; first moves `U` (with check), `z, z', t, v, w`.
`N + 1` is the Paillier `Gamma` (`pk.AsInts()`); `Ñ, h1, h2` are NOT hashed. -/
def preimage (n c1 c2 : Int) (xu : Option (ECPoint × ECPoint)) (pf : BobProof) : List Int :=
  match xu with
  | none => [n, n + 1, c1, c2, pf.z, pf.zPrm, pf.t, pf.v, pf.w]
  | some (X, U) => [n, n + 1, X.1, X.2, c1, c2, U.1, U.2, pf.z, pf.zPrm, pf.t, pf.v, pf.w]
end Bob

namespace Fac
/-- statement `(N0, N̂, s, t)`, first moves `P, Q, A, B, T, σ` -/
def preimage (n0 ncap s t : Int) (pf : FacProof) : List Int :=
  [n0, ncap, s, t, pf.P, pf.Q, pf.A, pf.B, pf.T, pf.sigma]
end Fac

namespace Mod
/-- statement `N`, first move `W`, and the challenges `Y_0 … Y_{i-1}` already derived -/
def preimage (w n : Int) (ys : List Nat) : List Int := w :: n :: ys.map Int.ofNat
end Mod

namespace Range
/-- statement `(N, c)`, first moves `z, u, w`; `Ñ, h1, h2` are NOT hashed -/
def preimage (n c z u w : Int) : List Int := [n, n + 1, c, z, u, w]
end Range

namespace Dln
/-- statement `(h1, h2, N)`, first moves `alpha_1 … alpha_128` -/
def preimage (h1 h2 n : Int) (alpha : List Int) : List Int := h1 :: h2 :: n :: alpha
end Dln

namespace PaillierKey
/-- the byte strings hashed for block `j` of candidate `(i, cnt)` of `GenerateXs(m, k, N, pub)` -/
def preimage (i j cnt : Nat) (k : Int) (pub : ECPoint) (n : Int) : List Bytes :=
  [Paillier.itoa i, Paillier.itoa j, Paillier.itoa cnt, intToBytesBE k, natToBytesBE pub.1,
    natToBytesBE pub.2, intToBytesBE n]
end PaillierKey

end TssVerif.C12

namespace TssVerif.C12L
open TssVerif Zk C12

/-! ## bytes of integers -/

theorem intToBytesBE_eq (z : Int) : intToBytesBE z = natToBytesBE z.natAbs := rfl

theorem map_intToBytesBE (l : List Int) :
    l.map intToBytesBE = (l.map Int.natAbs).map natToBytesBE := by
  simp [List.map_map, Function.comp_def, intToBytesBE_eq]

theorem map_bytes_inj {l l' : List Int} (h : l.map intToBytesBE = l'.map intToBytesBE) :
    l.map Int.natAbs = l'.map Int.natAbs := by
  rw [map_intToBytesBE, map_intToBytesBE] at h
  exact (List.map_inj_right (fun _ _ => C16L.natToBytesBE_inj)).1 h

theorem eq_of_map_natAbs_eq : ∀ {l l' : List Int}, NonNeg l → NonNeg l' →
    l.map Int.natAbs = l'.map Int.natAbs → l = l'
  | [], [], _, _, _ => rfl
  | [], _ :: _, _, _, h => by simp at h
  | _ :: _, [], _, _, h => by simp at h
  | a :: l, b :: l', hl, hl', h => by
    simp only [List.map_cons, List.cons.injEq] at h
    have ha : 0 ≤ a := hl a (by simp)
    have hb : 0 ≤ b := hl' b (by simp)
    have e : a = b := by omega
    have := eq_of_map_natAbs_eq (l := l) (l' := l') (fun x hx => hl x (by simp [hx]))
      (fun x hx => hl' x (by simp [hx])) h.2
    rw [e, this]

/-- **the framed bytes of an integer list determine the absolute values** (Go drops the sign) -/
theorem frame_int_natAbs {l l' : List Int} (hs : C16L.Short (l.map intToBytesBE))
    (hs' : C16L.Short (l'.map intToBytesBE))
    (h : frame (l.map intToBytesBE) = frame (l'.map intToBytesBE)) :
    l.map Int.natAbs = l'.map Int.natAbs :=
  map_bytes_inj (C16L.frame_inj hs hs' h)

/-- … and the integers themselves when they are non-negative -/
theorem frame_int_inj {l l' : List Int} (hn : NonNeg l) (hn' : NonNeg l')
    (hs : C16L.Short (l.map intToBytesBE)) (hs' : C16L.Short (l'.map intToBytesBE))
    (h : frame (l.map intToBytesBE) = frame (l'.map intToBytesBE)) : l = l' :=
  eq_of_map_natAbs_eq hn hn' (frame_int_natAbs hs hs' h)

/-- `taggedPreimage H tag l = d ++ d ++ frame l` with `d = H (frame [tag])` (the tag digest is written twice,
`Core/Hash.lean`); with digests of one fixed length the two parts can be read off -/
theorem tagged_split (H : HashFn) (hlen : ∀ x y, (H x).length = (H y).length)
    {tag tag' : Bytes} {l l' : List Int}
    (h : taggedPreimage H tag l = taggedPreimage H tag' l') :
    H (frame [tag]) = H (frame [tag']) ∧
      frame (l.map intToBytesBE) = frame (l'.map intToBytesBE) := by
  unfold taggedPreimage at h
  rw [List.append_assoc, List.append_assoc] at h
  obtain ⟨h1, h2⟩ := List.append_inj h (hlen _ _)
  obtain ⟨_, h3⟩ := List.append_inj h2 (hlen _ _)
  exact ⟨h1, h3⟩

theorem tagged_int_inj (H : HashFn) (hlen : ∀ x y, (H x).length = (H y).length)
    {tag tag' : Bytes} {l l' : List Int} (hn : NonNeg l) (hn' : NonNeg l')
    (hs : C16L.Short (l.map intToBytesBE)) (hs' : C16L.Short (l'.map intToBytesBE))
    (h : taggedPreimage H tag l = taggedPreimage H tag' l') :
    l = l' ∧ H (frame [tag]) = H (frame [tag']) := by
  obtain ⟨h1, h2⟩ := tagged_split H hlen h
  exact ⟨frame_int_inj hn hn' hs hs' h2, h1⟩

/-- `frame [a] = le64 1 ++ a ++ [0x24] ++ le64 |a|`: the element is what stands between two blocks of fixed
length, so it is determined (no length bound needed) -/
theorem frame_singleton_inj {a b : Bytes} (h : frame [a] = frame [b]) : a = b := by
  have hl : a.length = b.length := by
    have := congrArg List.length h
    simp [frame, frameElem, C16L.le64_length] at this
    omega
  simp only [frame, List.map_cons, List.map_nil, List.flatten_cons, List.flatten_nil,
    List.append_nil, List.length_cons, List.length_nil, frameElem] at h
  have h2 := (List.append_inj h rfl).2
  rw [List.append_assoc, List.append_assoc] at h2
  exact (List.append_inj h2 hl).1

/-! ## non-negativity of the point-only pre-images -/

theorem nonNeg_schnorr (g X a : ECPoint) : NonNeg (Schnorr.preimage g X a) := by
  intro x hx
  simp only [Schnorr.preimage, List.mem_cons, List.not_mem_nil, or_false] at hx
  rcases hx with rfl | rfl | rfl | rfl | rfl | rfl <;> exact Int.natCast_nonneg _

theorem nonNeg_schnorrV (g V R a : ECPoint) : NonNeg (SchnorrV.preimage g V R a) := by
  intro x hx
  simp only [SchnorrV.preimage, List.mem_cons, List.not_mem_nil, or_false] at hx
  rcases hx with rfl | rfl | rfl | rfl | rfl | rfl | rfl | rfl <;> exact Int.natCast_nonneg _

/-! ## list pre-images determine their arguments -/

theorem bob_preimage_inj {n c1 c2 n' c1' c2' : Int} {xu xu' : Option (ECPoint × ECPoint)}
    {pf pf' : BobProof} (h : Bob.preimage n c1 c2 xu pf = Bob.preimage n' c1' c2' xu' pf') :
    n = n' ∧ c1 = c1' ∧ c2 = c2' ∧ xu = xu' ∧ pf.z = pf'.z ∧ pf.zPrm = pf'.zPrm ∧ pf.t = pf'.t ∧
      pf.v = pf'.v ∧ pf.w = pf'.w := by
  rcases xu with _ | ⟨X, U⟩ <;> rcases xu' with _ | ⟨X', U'⟩
  · simp only [Bob.preimage, List.cons.injEq, and_true] at h
    obtain ⟨h1, _, h3, h4, h5, h6, h7, h8, h9⟩ := h
    exact ⟨h1, h3, h4, rfl, h5, h6, h7, h8, h9⟩
  · have := congrArg List.length h
    simp [Bob.preimage] at this
  · have := congrArg List.length h
    simp [Bob.preimage] at this
  · simp only [Bob.preimage, List.cons.injEq, Int.natCast_inj, and_true] at h
    obtain ⟨h1, _, x1, x2, h3, h4, u1, u2, h5, h6, h7, h8, h9⟩ := h
    have hX : X = X' := Prod.ext x1 x2
    have hU : U = U' := Prod.ext u1 u2
    exact ⟨h1, h3, h4, by rw [hX, hU], h5, h6, h7, h8, h9⟩

theorem range_preimage_inj {n c z u w n' c' z' u' w' : Int}
    (h : Range.preimage n c z u w = Range.preimage n' c' z' u' w') :
    n = n' ∧ c = c' ∧ z = z' ∧ u = u' ∧ w = w' := by
  simp only [Range.preimage, List.cons.injEq, and_true] at h
  obtain ⟨h1, _, h3, h4, h5, h6⟩ := h
  exact ⟨h1, h3, h4, h5, h6⟩

/-- the generic statement behind every `X_other_context_needs_collision`: equal hashed bytes mean equal inputs,
and the same session or a collision of the tag hash -/
theorem tagged_context (H : HashFn) (hlen : ∀ x y, (H x).length = (H y).length)
    {sess sess' : Bytes} {l l' : List Int} (hn : NonNeg l) (hn' : NonNeg l')
    (hs : C16L.Short (l.map intToBytesBE)) (hs' : C16L.Short (l'.map intToBytesBE))
    (h : taggedPreimage H sess l = taggedPreimage H sess' l') :
    l = l' ∧ (sess = sess' ∨
      (sess ≠ sess' ∧ frame [sess] ≠ frame [sess'] ∧ H (frame [sess]) = H (frame [sess']))) := by
  obtain ⟨h1, h2⟩ := tagged_int_inj H hlen hn hn' hs hs' h
  refine ⟨h1, ?_⟩
  by_cases e : sess = sess'
  · exact Or.inl e
  · exact Or.inr ⟨e, fun hf => e (frame_singleton_inj hf), h2⟩

/-- two different (session, inputs) pairs on which the challenge hash agrees after `f` (the identity, or reduction
modulo `q`): either the tagged pre-images differ, and they are the collision, or they coincide, and then the tag hash
collides on the two sessions -/
theorem tagged_collision (H : HashFn) (hlen : ∀ x y, (H x).length = (H y).length) {α : Type} (f : Nat → α)
    {sess sess' : Bytes} {l l' : List Int} (hn : NonNeg l) (hn' : NonNeg l')
    (hs : C16L.Short (l.map intToBytesBE)) (hs' : C16L.Short (l'.map intToBytesBE))
    (hne : (sess, l) ≠ (sess', l'))
    (h : f (bytesToNat (H (taggedPreimage H sess l))) = f (bytesToNat (H (taggedPreimage H sess' l')))) :
    ∃ a b : Bytes, a ≠ b ∧ f (bytesToNat (H a)) = f (bytesToNat (H b)) := by
  by_cases hp : taggedPreimage H sess l = taggedPreimage H sess' l'
  · obtain ⟨h1, h2⟩ := tagged_context H hlen hn hn' hs hs' hp
    rcases h2 with h2 | ⟨_, h3, h4⟩
    · exact absurd (by rw [h1, h2]) hne
    · exact ⟨_, _, h3, by rw [h4]⟩
  · exact ⟨_, _, hp, h⟩

/-- one input list under two different sessions with the same challenge modulo `q` -/
theorem tagged_replay_collision (H : HashFn) (hlen : ∀ x y, (H x).length = (H y).length) (q : Nat)
    {sess sess' : Bytes} {l : List Int} (hn : NonNeg l) (hs : C16L.Short (l.map intToBytesBE))
    (hne : sess ≠ sess')
    (hc : bytesToNat (H (taggedPreimage H sess l)) % q = bytesToNat (H (taggedPreimage H sess' l)) % q) :
    ∃ a b : Bytes, a ≠ b ∧ bytesToNat (H a) % q = bytesToNat (H b) % q :=
  tagged_collision H hlen (· % q) hn hn hs hs (fun e => hne (Prod.ext_iff.1 e).1) hc

/-! ## discharging `Short` -/

theorem natToBytesLE_length_le : ∀ (k n : Nat), n < 256 ^ k → (natToBytesLE n).length ≤ k
  | 0, n, h => by
    have : n = 0 := by simpa using h
    subst this
    rw [natToBytesLE]; simp
  | k + 1, n, h => by
    rw [natToBytesLE]
    split
    · simp
    · have : n / 256 < 256 ^ k := by
        rw [Nat.div_lt_iff_lt_mul (by decide)]
        rw [Nat.pow_succ] at h
        exact h
      have := natToBytesLE_length_le k (n / 256) this
      simp only [List.length_cons]
      omega

/-! ## curve algebra -/
section curve
variable {P : Type} {C : Curve P}

theorem add_left_cancel (hL : C.Lawful) {a b c : P} (h : C.add a b = C.add a c) : b = c := by
  let _ := hL.groupLaws.addCommGroup
  exact _root_.add_left_cancel (a := a) h

theorem add_right_cancel (hL : C.Lawful) {a b c : P} (h : C.add b a = C.add c a) : b = c := by
  let _ := hL.groupLaws.addCommGroup
  exact _root_.add_right_cancel (b := a) h

/-- a non-identity point killed by the prime `q` has order exactly `q` -/
theorem smul_eq_iff_of_order (hL : C.Lawful) {p : P} (hp : p ≠ C.zero) (hq : C.smul C.q p = C.zero)
    (a b : Nat) : C.smul a p = C.smul b p ↔ a ≡ b [MOD C.q] := by
  let _ := hL.groupLaws.addCommGroup
  have : Fact C.q.Prime := ⟨hL.q_prime⟩
  have ho : addOrderOf p = C.q := by
    apply addOrderOf_eq_prime
    · rw [hL.smul_eq_nsmul] at hq; exact hq
    · exact hp
  rw [hL.smul_eq_nsmul, hL.smul_eq_nsmul]
  have := nsmul_eq_nsmul_iff_modEq (x := p) (m := b) (n := a)
  rw [ho] at this
  exact this

/-- two challenges that both make `t·G = α + c·X` hold coincide (for `X` of order `q`) -/
theorem two_challenges (hL : C.Lawful) {X α L : P} {c c' : Nat}
    (hX : X ≠ C.zero) (hXq : C.smul C.q X = C.zero) (hc : c < C.q) (hc' : c' < C.q)
    (h1 : L = C.add α (C.smul c X)) (h2 : L = C.add α (C.smul c' X)) : c = c' := by
  have := add_left_cancel hL (h1.symm.trans h2)
  exact Nat.ModEq.eq_of_lt_of_lt ((smul_eq_iff_of_order hL hX hXq c c').1 this) hc hc'

end curve

/-! ## the challenges are reduced modulo `q` -/
section verify
variable {P : Type} (C : Curve P) (H : HashFn)

theorem schnorrChallenge_lt (hL : C.Lawful) (sess : Bytes) (X α : ECPoint) :
    schnorrChallenge C H sess X α < C.q := Nat.mod_lt _ hL.q_pos

theorem schnorrVChallenge_lt (hL : C.Lawful) (sess : Bytes) (V R α : ECPoint) :
    schnorrVChallenge C H sess V R α < C.q := Nat.mod_lt _ hL.q_pos

end verify

/-! ## RSA-group algebra -/

/-- a congruence of integers between two naturals, read modulo `m.toNat` -/
theorem natMod_eq_of_intModEq {m : Int} (hm : 0 < m) {a b : Nat} (h : (a : Int) ≡ b [ZMOD m]) :
    a % m.toNat = b % m.toNat := by
  rw [← Int.toNat_of_nonneg hm.le] at h
  exact Int.natCast_modEq_iff.1 h

theorem pow_diff_of_pow_eq {z N e e' : Nat} (hz : Nat.Coprime z N) (h : z ^ e % N = z ^ e' % N) :
    z ^ ((e : Int) - (e' : Int)).natAbs % N = 1 % N := by
  have key : ∀ a b : Nat, a ≤ b → z ^ a % N = z ^ b % N → z ^ (b - a) % N = 1 % N := by
    intro a b hab hh
    have h1 : z ^ a * z ^ (b - a) ≡ z ^ a * 1 [MOD N] := by
      rw [← Nat.pow_add, Nat.add_sub_cancel' hab, Nat.mul_one]
      exact hh.symm
    exact Nat.ModEq.cancel_left_of_coprime (Nat.Coprime.pow_right a hz.symm) h1
  rcases Nat.le_total e e' with hle | hle
  · have : ((e : Int) - (e' : Int)).natAbs = e' - e := by omega
    rw [this]; exact key e e' hle h
  · have : ((e : Int) - (e' : Int)).natAbs = e - e' := by omega
    rw [this]; exact key e' e hle h.symm

/-- `a·z^e ≡ L ≡ a·z^e'` with `a`, `z` units: the two powers of `z` agree -/
theorem rsa_two_challenges {N a z L e e' : Nat} (ha : Nat.Coprime a N) (hz : Nat.Coprime z N)
    (h : a * z ^ e % N = L % N) (h' : a * z ^ e' % N = L % N) :
    z ^ e % N = z ^ e' % N ∧ z ^ ((e : Int) - (e' : Int)).natAbs % N = 1 % N := by
  have h1 : z ^ e % N = z ^ e' % N :=
    Nat.ModEq.cancel_left_of_coprime ha.symm (h.trans h'.symm)
  exact ⟨h1, pow_diff_of_pow_eq hz h1⟩


/-! ## what the Paillier key proof hashes -/

theorem paillier_key_inj {i j cnt i' j' cnt' : Nat} {k k' n n' : Int} {pub pub' : ECPoint}
    (hs : C16L.Short (PaillierKey.preimage i j cnt k pub n))
    (hs' : C16L.Short (PaillierKey.preimage i' j' cnt' k' pub' n'))
    (h : frame (PaillierKey.preimage i j cnt k pub n) =
      frame (PaillierKey.preimage i' j' cnt' k' pub' n')) :
    Paillier.itoa i = Paillier.itoa i' ∧ Paillier.itoa j = Paillier.itoa j' ∧
      Paillier.itoa cnt = Paillier.itoa cnt' ∧ k.natAbs = k'.natAbs ∧ pub = pub' ∧
      n.natAbs = n'.natAbs := by
  have := C16L.frame_inj hs hs' h
  simp only [PaillierKey.preimage, List.cons.injEq, and_true] at this
  obtain ⟨h1, h2, h3, h4, h5, h6, h7⟩ := this
  exact ⟨h1, h2, h3, C16L.natToBytesBE_inj h4,
    Prod.ext (C16L.natToBytesBE_inj h5) (C16L.natToBytesBE_inj h6), C16L.natToBytesBE_inj h7⟩

section
variable {P : Type} (C : Curve P) (H : HashFn)

theorem schnorrV_two_challenges (hL : C.Lawful) {V α L : P} {c c' : Nat}
    (hV : V ≠ C.zero) (hVq : C.smul C.q V = C.zero) (hc : c < C.q) (hc' : c' < C.q)
    (h1 : L = C.add α (C.smul c V)) (h2 : L = C.add α (C.smul c' V)) : c = c' :=
  two_challenges hL hV hVq hc hc' h1 h2

end

/-- `goExp_of_nonneg` for an integer modulus `n > 0`, as the `dlnproof` verifier calls `Exp` -/
theorem goExp_nonneg_eq {x y n : Int} (hn : 0 < n) (hy : 0 ≤ y) :
    goExp x y n.toNat = some ((x % n).toNat ^ y.toNat % n.toNat) := by
  have hm : n.toNat ≠ 0 := by omega
  rw [goExp_of_nonneg x hm hy, Int.toNat_of_nonneg (le_of_lt hn)]

theorem coprime_of_int_gcd {a m : Int} (ha : 0 ≤ a) (hm : 0 ≤ m) (h : Int.gcd a m = 1) :
    Nat.Coprime a.toNat m.toNat := by
  rw [show a.toNat = a.natAbs by omega, show m.toNat = m.natAbs by omega]
  exact h

/-! ## a lawful curve with a cofactor -/

/-- a lawful record WITH a cofactor: the cyclic group of order 6, base point `2` of prime order `3`;
the point `3` has order 2 -/
def cofactorCurve : Curve (ZMod 6) where
  name := "zmod6"
  p := 6
  q := 3
  zero := 0
  add := (· + ·)
  neg := fun a => -a
  base := 2
  toAffine := fun a => some (a.val, 0)
  ofAffine := fun x y => if x < 6 ∧ y = 0 then some (x : ZMod 6) else none
  beq := fun a b => decide (a = b)

theorem cofactorCurve_lawful : cofactorCurve.Lawful where
  add_assoc := by decide
  add_comm := by decide
  zero_add := by decide
  neg_add := by decide
  q_prime := Nat.prime_three
  smul_q_base := by decide
  base_ne_zero := by decide
  toAffine_inj := by decide
  ofAffine_toAffine := fun x y a hxy => by
    simp only [cofactorCurve] at hxy ⊢
    split at hxy
    · next hc =>
      obtain ⟨hx, rfl⟩ := hc
      injection hxy with hxy
      subst hxy
      rw [ZMod.val_natCast, Nat.mod_eq_of_lt hx]
    · exact absurd hxy (by simp)
  toAffine_ofAffine := fun x y a hxy => by
    simp only [cofactorCurve, Option.some.injEq, Prod.mk.injEq] at hxy ⊢
    obtain ⟨rfl, rfl⟩ := hxy
    rw [if_pos ⟨ZMod.val_lt a, rfl⟩, ZMod.natCast_zmod_val]
  toAffine_none := fun a ha => by simp [cofactorCurve] at ha

/-! ## coordinates and points -/
section
variable {P : Type} (C : Curve P) (H : HashFn)

/-- coordinates that denote the same point of a lawful curve are equal -/
theorem eq_of_lift_eq (hL : C.Lawful) {a b : ECPoint} {p : P} (ha : C.lift a = some p)
    (hb : C.lift b = some p) : a = b := by
  have h1 := hL.ofAffine_toAffine _ _ _ ha
  have h2 := hL.ofAffine_toAffine _ _ _ hb
  rw [h1] at h2
  exact Option.some.inj h2

end

end TssVerif.C12L
