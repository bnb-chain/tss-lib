import TssVerif.Core.BlameEc4
import TssVerif.Lemmas.C05Sg
import TssVerif.Lemmas.C11
import TssVerif.Lemmas.C10PaillierKey
/-! Helper lemmas for `TssVerif/Props/C05h.lean`: the last round of ECDSA key generation
(`ecdsa/keygen/round_4.go`, model `Core/BlameEc4.lean`) up to the culprit decision.

* `kgRound4` as a round that names every failing peer (`boolRound` of `Lemmas/BlameBase.lean`);
* the per-peer goroutine `kg4Peer` against the verifier `Paillier.proofVerify`: accepted / rejected / crash;
* what acceptance of `Proof.Verify` means on natural-number arguments (exact: iff);
* "not a crash" / "always a culprit list" when every proof has the 13 numbers that
  `KGRound3Message.ValidateBasic` asks for. -/
set_option autoImplicit false
namespace TssVerif.C05Kg4L
open TssVerif BlameEc C05L C06L C05SgL

section peer
variable (H : HashFn) (pcfg : Paillier.ProofCfg) (pub : ECPoint)

/-- the verifier call inside `kg4Peer`, whose three outcomes the goroutine maps to accepted / rejected / crash -/
def verify4 (p : R3Peer) : Outcome Bool :=
  Paillier.proofVerify pcfg H (p.proof.map Int.ofNat) p.paillierN p.partyKey pub

theorem kg4Peer_ok_iff (p : R3Peer) (b : Bool) :
    kg4Peer H pcfg pub p = .ok b ↔
      verify4 H pcfg pub p = .ok b ∨ (b = false ∧ ∃ e, verify4 H pcfg pub p = .err e) := by
  unfold kg4Peer verify4
  cases Paillier.proofVerify pcfg H (p.proof.map Int.ofNat) p.paillierN p.partyKey pub with
  | ok c =>
    constructor
    · intro h; injection h with h; subst h; exact Or.inl rfl
    · rintro (h | ⟨_, e, h⟩)
      · injection h with h; subst h; rfl
      · cases h
  | err e =>
    constructor
    · intro h; injection h with h; exact Or.inr ⟨h.symm, e, rfl⟩
    · rintro (h | ⟨hb, _⟩)
      · cases h
      · subst hb; rfl
  | panic e =>
    constructor
    · intro h; cases h
    · rintro (h | ⟨_, e', h⟩) <;> cases h

theorem kg4Peer_panic_iff (p : R3Peer) (t : String) :
    kg4Peer H pcfg pub p = .panic t ↔ verify4 H pcfg pub p = .panic t := by
  unfold kg4Peer verify4
  cases Paillier.proofVerify pcfg H (p.proof.map Int.ofNat) p.paillierN p.partyKey pub with
  | ok c => exact ⟨fun h => (nomatch h), fun h => (nomatch h)⟩
  | err e => exact ⟨fun h => (nomatch h), fun h => (nomatch h)⟩
  | panic e => exact Iff.rfl

/-- the goroutine never reports an error of its own: a verifier error is a rejection -/
theorem kg4Peer_noErr (p : R3Peer) : C05EcL.NoErr (kg4Peer H pcfg pub p) := by
  intro e
  unfold kg4Peer
  cases Paillier.proofVerify pcfg H (p.proof.map Int.ofNat) p.paillierN p.partyKey pub <;> intro h <;> cases h

/-- exact crash condition of the goroutine: a proof that does not have 13 numbers, together with a modulus that
passes the small-prime screen and for which the 13 challenges exist -/
theorem kg4Peer_panic_iff' (p : R3Peer) (t : String) :
    kg4Peer H pcfg pub p = .panic t ↔
      t = "index" ∧ p.proof.length ≠ Paillier.proofIters ∧
      Paillier.smallPrimes.any (fun prm => (p.paillierN : Int) % (prm : Int) == 0) = false ∧
      (Paillier.generateXs H Paillier.proofIters p.partyKey p.paillierN pub).isSome = true := by
  rw [kg4Peer_panic_iff, verify4, proofVerify_panic_iff, List.length_map]

theorem kg4Peer_noPanic (p : R3Peer) (hlen : p.proof.length = Paillier.proofIters) :
    NoPanic (kg4Peer H pcfg pub p) := by
  intro t ht
  exact ((kg4Peer_panic_iff' H pcfg pub p t).1 ht).2.1 hlen

theorem kg4Peer_total (p : R3Peer) (hlen : p.proof.length = Paillier.proofIters) :
    ∃ b, kg4Peer H pcfg pub p = .ok b :=
  total_of (kg4Peer_noPanic H pcfg pub p hlen) (kg4Peer_noErr H pcfg pub p)

end peer

section accept
open Paillier

theorem smallPrimes_any_false_iff (n : Nat) :
    smallPrimes.any (fun prm => (n : Int) % (prm : Int) == 0) = false ↔
      ∀ q : Nat, q.Prime → q < 1000 → ¬ q ∣ n := by
  constructor
  · intro h q hq hlt hd
    rw [List.any_eq_false] at h
    apply h q ((C11L.mem_smallPrimes_iff q).2 ⟨hq, hlt⟩)
    rw [beq_iff_eq]
    exact Int.emod_eq_zero_of_dvd (Int.natCast_dvd_natCast.2 hd)
  · exact C10L.smallPrimes_any_false

theorem smallPrimes_any_true_of_dvd {n q : Nat} (hq : q.Prime) (hlt : q < 1000) (hd : q ∣ n) :
    smallPrimes.any (fun prm => (n : Int) % (prm : Int) == 0) = true := by
  cases h : smallPrimes.any (fun prm => (n : Int) % (prm : Int) == 0)
  · exact absurd hd ((smallPrimes_any_false_iff n).1 h q hq hlt)
  · rfl

/-- a modulus with a prime factor below 1000 is rejected before anything else is looked at -/
theorem proofVerify_small_factor (cfg : ProofCfg) (H : HashFn) (pf : List Int) (n : Nat) (k : Int) (pub : ECPoint)
    (q : Nat) (hq : q.Prime) (hlt : q < 1000) (hd : q ∣ n) :
    proofVerify cfg H pf (n : Int) k pub = .ok false := by
  unfold proofVerify
  rw [smallPrimes_any_true_of_dvd hq hlt hd]
  rfl

/-- one line of the verification loop on natural-number arguments -/
theorem verify_line (pf xs : List Nat) (n : Nat) (hn : 0 < n) (i : Nat) :
    (∃ y, goExp ((pf.map Int.ofNat).getD i 0) (n : Int) (n : Int).natAbs = some y ∧
      ((xs.getD i 0 : Nat) : Int) % (n : Int) = y) ↔ (pf.getD i 0) ^ n % n = xs.getD i 0 % n := by
  have e1 : (pf.map Int.ofNat).getD i 0 = ((pf.getD i 0 : Nat) : Int) := by
    rw [List.getD_eq_getElem?_getD, List.getD_eq_getElem?_getD, List.getElem?_map]
    cases pf[i]? <;> rfl
  rw [e1, Int.natAbs_natCast, goExp_of_nonneg _ (by omega) (Int.natCast_nonneg _), C10L.emod_natCast_toNat,
    Int.toNat_natCast]
  simp only [Option.some.injEq, exists_eq_left']
  rw [← Int.natCast_mod, Int.natCast_inj, ← Nat.pow_mod]
  exact eq_comm

/-- **exact acceptance condition of `Proof.Verify`** on a natural-number modulus and proof: no prime below 1000
divides `N`; the 13 challenges `x_i` exist (`GenerateXs` did not give up); the proof has 13 numbers and
`proof[i]^N ≡ x_i (mod N)` for each of them -/
theorem proofVerify_true_iff_nat (cfg : ProofCfg) (H : HashFn) (pf : List Nat) (n : Nat) (k : Int) (pub : ECPoint) :
    proofVerify cfg H (pf.map Int.ofNat) (n : Int) k pub = .ok true ↔
      (∀ q : Nat, q.Prime → q < 1000 → ¬ q ∣ n) ∧
      ∃ xs, generateXs H proofIters k (n : Int) pub = some xs ∧ pf.length = proofIters ∧
        ∀ i, i < proofIters → (pf.getD i 0) ^ n % n = xs.getD i 0 % n := by
  rw [Zk.proofVerify_eq_true_iff, smallPrimes_any_false_iff, List.length_map]
  refine and_congr_right fun _ => exists_congr fun xs => and_congr_right fun hx => and_congr_right fun _ =>
    forall₂_congr fun i _ => verify_line pf xs n ?_ i
  -- `Nat.succ_pos 12 : 0 < proofIters` (`proofIters = 13`): with at least one challenge the modulus is positive
  have := C11L.generateXs_some_pos (m := proofIters) (Nat.succ_pos 12) hx
  omega

end accept

section round
variable (H : HashFn) (pcfg : Paillier.ProofCfg) (pub : ECPoint)

theorem kgRound4_eq (peers : List R3Peer) :
    kgRound4 H pcfg pub peers = boolRound (·.idx) (kg4Peer H pcfg pub) peers :=
  mapM_zip_eq_boolRound (α := R3Peer) (·.idx) (kg4Peer H pcfg pub) peers

theorem kgRound4_panic_of (pre post : List R3Peer) (p : R3Peer) (t : String)
    (hpre : ∀ q ∈ pre, ∃ v, kg4Peer H pcfg pub q = .ok v) (hp : kg4Peer H pcfg pub p = .panic t) :
    kgRound4 H pcfg pub (pre ++ p :: post) = .panic t := by
  rw [kgRound4_eq]
  exact namingRound_panic_of _ _ _ _ pre post p t hpre hp

end round

end TssVerif.C05Kg4L
