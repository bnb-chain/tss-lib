/-! The update loop of `tss/party.go` (`BaseStart`, `BaseUpdate`) over an abstract round: scan the current round,
advance while everybody is ok, finish after the last round. `Core/Engine.lean` (one committee) and
`Core/Engine2.lean` (two committees) are the two instances; what does not depend on how a round scans is here.
Core Lean only. -/
set_option autoImplicit false
namespace TssVerif.Loop

/-- the operations of a party the loop is made of -/
structure Ops (Spec Party Msg : Type) where
  rnd : Party → Nat
  done : Party → Bool
  self : Party → Nat
  scan : Spec → Party → Party
  canProceed : Party → Bool
  startRound : Spec → Nat → Party → Party
  finish : Party → Party
  storeMsg : Msg → Party → Party

section
variable {Spec Party Msg : Type} (O : Ops Spec Party Msg)

def step (tbl : List Spec) (p : Party) : Option Party :=
  if O.rnd p = 0 ∨ O.done p then none else
  match tbl[O.rnd p - 1]? with
  | none => none
  | some r =>
    let p1 := O.scan r p
    if O.canProceed p1 then
      match tbl[O.rnd p]? with
      | some r' => some (O.startRound r' (O.rnd p) p1)
      | none => some (O.finish p1)
    else none

def rest (tbl : List Spec) (p : Party) : Party :=
  if O.rnd p = 0 ∨ O.done p then p else
  match tbl[O.rnd p - 1]? with
  | none => p
  | some r => O.scan r p

def settle (tbl : List Spec) : Nat → Party → Party
  | 0, p => rest O tbl p
  | fuel + 1, p => match step O tbl p with
    | some p' => settle tbl fuel p'
    | none => rest O tbl p

/-- the settle with the fuel `deliver` and `start` use: enough, since every productive step lowers `togo`, which is at
most `tbl.length + 1` (`togo_le`, `settle_fuel`) -/
def settleF (tbl : List Spec) (p : Party) : Party := settle O tbl (tbl.length + 1) p

def deliver (tbl : List Spec) (m : Msg) (p : Party) : Party := settleF O tbl (O.storeMsg m p)

def start (tbl : List Spec) (pre : Bool) (p : Party) : Party :=
  if O.rnd p ≠ 0 then p else
  match tbl[0]? with
  | none => p
  | some r =>
    let p1 := O.startRound r 0 p
    if pre then settleF O tbl p1 else rest O tbl p1

/-- the round the party is in, if it has been started and has not finished -/
def cur (tbl : List Spec) (p : Party) : Option Spec :=
  if O.rnd p = 0 ∨ O.done p then none else tbl[O.rnd p - 1]?

/-- the state after the round `k` (1-based) has been completed: `Start` of the next round, or finished -/
def advance (tbl : List Spec) (k : Nat) (q : Party) : Party :=
  match tbl[k]? with
  | some r' => O.startRound r' k q
  | none => O.finish q

variable {O} {tbl : List Spec} {p p' : Party} {r : Spec}

theorem lt_of_getElem?_some {α : Type} {l : List α} {k : Nat} {a : α} (h : l[k]? = some a) : k < l.length :=
  (List.getElem?_eq_some_iff.mp h).1

theorem cur_eq_some : cur O tbl p = some r ↔ O.rnd p ≠ 0 ∧ O.done p = false ∧ tbl[O.rnd p - 1]? = some r := by
  unfold cur
  by_cases h0 : O.rnd p = 0
  · simp [h0]
  · cases hd : O.done p <;> simp [h0]

theorem cur_eq_none : cur O tbl p = none ↔ O.rnd p = 0 ∨ O.done p = true ∨ tbl[O.rnd p - 1]? = none := by
  unfold cur
  by_cases h0 : O.rnd p = 0
  · simp [h0]
  · cases hd : O.done p <;> simp [h0]

theorem cur_of_not_started (h : O.rnd p = 0 ∨ O.done p = true) : cur O tbl p = none :=
  cur_eq_none.mpr (h.elim Or.inl fun h => Or.inr (Or.inl h))

theorem rest_eq : rest O tbl p = (cur O tbl p).elim p (O.scan · p) := by
  unfold rest cur
  split
  · rfl
  · cases tbl[O.rnd p - 1]? <;> rfl

theorem step_eq : step O tbl p = (cur O tbl p).bind fun r =>
    if O.canProceed (O.scan r p) then some (advance O tbl (O.rnd p) (O.scan r p)) else none := by
  unfold step cur advance
  split
  · rfl
  · cases tbl[O.rnd p - 1]? with
    | none => rfl
    | some r =>
      simp only [Option.bind_some]
      split
      · cases tbl[O.rnd p]? <;> rfl
      · rfl

theorem rest_of_cur_none (h : cur O tbl p = none) : rest O tbl p = p := by rw [rest_eq, h]; rfl
theorem step_of_cur_none (h : cur O tbl p = none) : step O tbl p = none := by rw [step_eq, h]; rfl
theorem rest_of_cur_some (h : cur O tbl p = some r) : rest O tbl p = O.scan r p := by rw [rest_eq, h]; rfl
theorem step_of_cur_some (h : cur O tbl p = some r) : step O tbl p =
    if O.canProceed (O.scan r p) then some (advance O tbl (O.rnd p) (O.scan r p)) else none := by
  rw [step_eq, h]; rfl

theorem step_none_of_not_started (h : O.rnd p = 0 ∨ O.done p = true) : step O tbl p = none :=
  step_of_cur_none (cur_of_not_started h)

theorem rest_of_not_started (h : O.rnd p = 0 ∨ O.done p = true) : rest O tbl p = p :=
  rest_of_cur_none (cur_of_not_started h)

theorem step_none_iff (h : cur O tbl p = some r) : step O tbl p = none ↔ O.canProceed (O.scan r p) = false := by
  rw [step_of_cur_some h]
  cases O.canProceed (O.scan r p) <;> simp

theorem step_cases (hs : step O tbl p = some p') :
    ∃ r, cur O tbl p = some r ∧ O.canProceed (O.scan r p) = true ∧ p' = advance O tbl (O.rnd p) (O.scan r p) := by
  cases hc : cur O tbl p with
  | none => rw [step_of_cur_none hc] at hs; cases hs
  | some r =>
    rw [step_of_cur_some hc] at hs
    cases hcp : O.canProceed (O.scan r p)
    · rw [hcp] at hs; cases hs
    · rw [hcp, if_pos rfl] at hs
      exact ⟨r, rfl, hcp, (Option.some.inj hs).symm⟩

theorem advance_of_some {k : Nat} {q : Party} {r' : Spec} (h : tbl[k]? = some r') :
    advance O tbl k q = O.startRound r' k q := by unfold advance; rw [h]

theorem advance_of_none {k : Nat} {q : Party} (h : tbl[k]? = none) : advance O tbl k q = O.finish q := by
  unfold advance; rw [h]

theorem settle_succ_some {fuel : Nat} (h : step O tbl p = some p') :
    settle O tbl (fuel + 1) p = settle O tbl fuel p' := by simp only [settle, h]

theorem settle_succ_none {fuel : Nat} (h : step O tbl p = none) : settle O tbl (fuel + 1) p = rest O tbl p := by
  simp only [settle, h]

theorem settle_of_step_none (fuel : Nat) (h : step O tbl p = none) : settle O tbl fuel p = rest O tbl p := by
  cases fuel with
  | zero => rfl
  | succ k => exact settle_succ_none h

theorem start_of_started {pre : Bool} (h : O.rnd p ≠ 0) : start O tbl pre p = p := by
  unfold start; rw [if_pos h]

theorem start_of_none {pre : Bool} (h : tbl[0]? = none) : start O tbl pre p = p := by
  unfold start
  split
  · rfl
  · rw [h]

theorem start_true_eq (h0 : O.rnd p = 0) (hr : tbl[0]? = some r) :
    start O tbl true p = settleF O tbl (O.startRound r 0 p) := by
  unfold start
  rw [if_neg (fun h => h h0), hr]
  rfl

theorem start_false_eq (h0 : O.rnd p = 0) (hr : tbl[0]? = some r) :
    start O tbl false p = rest O tbl (O.startRound r 0 p) := by
  unfold start
  rw [if_neg (fun h => h h0), hr]
  rfl

theorem settle_preserves (Q : Party → Prop)
    (hstep : ∀ p p', Q p → step O tbl p = some p' → Q p') (hrest : ∀ p, Q p → Q (rest O tbl p))
    (fuel : Nat) (p : Party) (h : Q p) : Q (settle O tbl fuel p) := by
  induction fuel generalizing p with
  | zero => exact hrest p h
  | succ k ih =>
    cases hs : step O tbl p with
    | none => rw [settle_succ_none hs]; exact hrest p h
    | some p' => rw [settle_succ_some hs]; exact ih p' (hstep p p' h hs)

/-- how the operations act on round, completion and identity -/
structure Frame (O : Ops Spec Party Msg) : Prop where
  scan_rnd : ∀ r p, O.rnd (O.scan r p) = O.rnd p
  scan_done : ∀ r p, O.done (O.scan r p) = O.done p
  scan_self : ∀ r p, O.self (O.scan r p) = O.self p
  scan_scan : ∀ r p, O.scan r (O.scan r p) = O.scan r p
  start_rnd : ∀ r k p, O.rnd (O.startRound r k p) = k + 1
  start_done : ∀ r k p, O.done (O.startRound r k p) = O.done p
  start_self : ∀ r k p, O.self (O.startRound r k p) = O.self p
  finish_rnd : ∀ p, O.rnd (O.finish p) = O.rnd p
  finish_done : ∀ p, O.done (O.finish p) = true
  finish_self : ∀ p, O.self (O.finish p) = O.self p
  store_rnd : ∀ m p, O.rnd (O.storeMsg m p) = O.rnd p
  store_done : ∀ m p, O.done (O.storeMsg m p) = O.done p
  store_self : ∀ m p, O.self (O.storeMsg m p) = O.self p

section frame
variable (F : Frame O)
include F

theorem cur_scan (r : Spec) (p : Party) : cur O tbl (O.scan r p) = cur O tbl p := by
  unfold cur; rw [F.scan_rnd, F.scan_done]

theorem cur_storeMsg (m : Msg) (p : Party) : cur O tbl (O.storeMsg m p) = cur O tbl p := by
  unfold cur; rw [F.store_rnd, F.store_done]

theorem advance_self (k : Nat) (q : Party) : O.self (advance O tbl k q) = O.self q := by
  unfold advance
  cases tbl[k]? with
  | none => exact F.finish_self q
  | some r' => exact F.start_self r' k q

theorem step_self (hs : step O tbl p = some p') : O.self p' = O.self p := by
  obtain ⟨r, _, _, rfl⟩ := step_cases hs
  rw [advance_self F, F.scan_self]

theorem step_rnd_done (hs : step O tbl p = some p') :
    (O.rnd p' = O.rnd p + 1 ∧ O.done p' = false) ∨ (O.rnd p' = O.rnd p ∧ O.done p' = true ∧ O.rnd p = tbl.length) := by
  obtain ⟨r, hc, _, rfl⟩ := step_cases hs
  obtain ⟨_, hd, hr⟩ := cur_eq_some.mp hc
  cases hn : tbl[O.rnd p]? with
  | some r' =>
    rw [advance_of_some hn, F.start_rnd, F.start_done, F.scan_done]
    exact Or.inl ⟨rfl, hd⟩
  | none =>
    rw [advance_of_none hn, F.finish_rnd, F.finish_done, F.scan_rnd]
    have h1 := lt_of_getElem?_some hr
    have h2 := List.getElem?_eq_none_iff.mp hn
    exact Or.inr ⟨rfl, rfl, by omega⟩

/-- measure: rounds still to go -/
def togo (O : Ops Spec Party Msg) (tbl : List Spec) (p : Party) : Nat :=
  if O.done p then 0 else tbl.length + 1 - O.rnd p

theorem step_togo (hs : step O tbl p = some p') : togo O tbl p' < togo O tbl p := by
  obtain ⟨r, hc, _, rfl⟩ := step_cases hs
  obtain ⟨_, hd, hr⟩ := cur_eq_some.mp hc
  have hk := lt_of_getElem?_some hr
  unfold togo
  cases hn : tbl[O.rnd p]? with
  | some r' =>
    have hk' := lt_of_getElem?_some hn
    rw [advance_of_some hn, F.start_done, F.scan_done, F.start_rnd, hd]
    simp only [Bool.false_eq_true, if_false]
    omega
  | none =>
    rw [advance_of_none hn, F.finish_done, hd]
    simp only [Bool.false_eq_true, if_false, if_true]
    omega

omit F in
theorem togo_le (tbl : List Spec) (p : Party) : togo O tbl p ≤ tbl.length + 1 := by
  unfold togo; split <;> omega

theorem step_none_of_togo_zero (h : togo O tbl p = 0) : step O tbl p = none := by
  cases hs : step O tbl p with
  | none => rfl
  | some p' => have := step_togo F hs; omega

theorem settle_fuel : ∀ (f1 f2 : Nat) (p : Party),
    togo O tbl p ≤ f1 → togo O tbl p ≤ f2 → settle O tbl f1 p = settle O tbl f2 p := by
  intro f1
  induction f1 with
  | zero =>
    intro f2 p h1 _
    have hs : step O tbl p = none := step_none_of_togo_zero F (by omega)
    rw [settle_of_step_none _ hs, settle_of_step_none _ hs]
  | succ k ih =>
    intro f2 p h1 h2
    cases hs : step O tbl p with
    | none => rw [settle_of_step_none _ hs, settle_of_step_none _ hs]
    | some p' =>
      have hlt := step_togo F hs
      cases f2 with
      | zero => omega
      | succ f2 =>
        rw [settle_succ_some hs, settle_succ_some hs]
        exact ih f2 p' (by omega) (by omega)

theorem settleF_of_step_some (hs : step O tbl p = some p') : settleF O tbl p = settleF O tbl p' := by
  unfold settleF
  rw [settle_succ_some hs]
  have := step_togo F hs
  exact settle_fuel F _ _ p' (by have := togo_le (O := O) tbl p; omega) (togo_le tbl p')

omit F in
theorem settleF_of_step_none (hs : step O tbl p = none) : settleF O tbl p = rest O tbl p := settle_succ_none hs

/-- induction principle for the full settle: follow productive steps until none is possible -/
theorem settleF_induction (P : Party → Party → Prop)
    (hnone : ∀ p, step O tbl p = none → P p (rest O tbl p))
    (hsome : ∀ p p', step O tbl p = some p' → P p' (settleF O tbl p') → P p (settleF O tbl p'))
    (p : Party) : P p (settleF O tbl p) := by
  suffices h : ∀ k p, togo O tbl p ≤ k → P p (settleF O tbl p) from h _ p (Nat.le_refl _)
  intro k
  induction k with
  | zero =>
    intro p hk
    have hs : step O tbl p = none := step_none_of_togo_zero F (by omega)
    rw [settleF_of_step_none hs]; exact hnone p hs
  | succ k ih =>
    intro p hk
    cases hs : step O tbl p with
    | none => rw [settleF_of_step_none hs]; exact hnone p hs
    | some p' =>
      rw [settleF_of_step_some F hs]
      exact hsome p p' hs (ih p' (by have := step_togo F hs; omega))

/-- nothing more to do: no productive step, and the scan of the current round has been recorded -/
def Settled (O : Ops Spec Party Msg) (tbl : List Spec) (p : Party) : Prop := step O tbl p = none ∧ rest O tbl p = p

theorem rest_rest (tbl : List Spec) (p : Party) : rest O tbl (rest O tbl p) = rest O tbl p := by
  cases hc : cur O tbl p with
  | none => rw [rest_of_cur_none hc, rest_of_cur_none hc]
  | some r =>
    rw [rest_of_cur_some hc, rest_of_cur_some (r := r) (by rw [cur_scan F]; exact hc), F.scan_scan]

theorem step_rest_none (hs : step O tbl p = none) : step O tbl (rest O tbl p) = none := by
  cases hc : cur O tbl p with
  | none => rw [rest_of_cur_none hc]; exact hs
  | some r =>
    have hc' : cur O tbl (O.scan r p) = some r := by rw [cur_scan F]; exact hc
    rw [rest_of_cur_some hc, step_none_iff hc', F.scan_scan]
    exact (step_none_iff hc).mp hs

theorem settled_rest (hs : step O tbl p = none) : Settled O tbl (rest O tbl p) :=
  ⟨step_rest_none F hs, rest_rest F tbl p⟩

theorem settled_settleF (tbl : List Spec) (p : Party) : Settled O tbl (settleF O tbl p) :=
  settleF_induction F (fun _ q => Settled O tbl q) (fun _ hs => settled_rest F hs) (fun _ _ _ h => h) p

omit F in
theorem settleF_of_settled (h : Settled O tbl p) : settleF O tbl p = p := by
  rw [settleF_of_step_none h.1, h.2]

omit F in
theorem settled_of_not_started (h : O.rnd p = 0 ∨ O.done p = true) : Settled O tbl p :=
  ⟨step_none_of_not_started h, rest_of_not_started h⟩

theorem deliver_of_not_started (m : Msg) (h : O.rnd p = 0 ∨ O.done p = true) :
    deliver O tbl m p = O.storeMsg m p :=
  settleF_of_settled (settled_of_not_started (by rw [F.store_rnd, F.store_done]; exact h))

/-- the primitive moves of the loop: the scan of the current round, the `Start` of the next round when
everybody is ok, finishing after the last round -/
structure Moves (O : Ops Spec Party Msg) (tbl : List Spec) (Q : Party → Prop) : Prop where
  scan : ∀ p r, Q p → O.rnd p ≠ 0 → O.done p = false → tbl[O.rnd p - 1]? = some r → Q (O.scan r p)
  adv : ∀ p r r', Q p → O.rnd p ≠ 0 → O.done p = false → tbl[O.rnd p - 1]? = some r → O.canProceed p = true →
    tbl[O.rnd p]? = some r' → Q (O.startRound r' (O.rnd p) p)
  fin : ∀ p, Q p → O.rnd p ≠ 0 → O.done p = false → tbl[O.rnd p]? = none → Q (O.finish p)

variable {Q : Party → Prop} (M : Moves O tbl Q)
include M

theorem Moves.step (h : Q p) (hs : step O tbl p = some p') : Q p' := by
  obtain ⟨r, hc, hcp, rfl⟩ := step_cases hs
  obtain ⟨h0, hd, hr⟩ := cur_eq_some.mp hc
  have h1 := M.scan p r h h0 hd hr
  cases hn : tbl[O.rnd p]? with
  | some r' =>
    rw [advance_of_some hn]
    have := M.adv (O.scan r p) r r' h1 (by rw [F.scan_rnd]; exact h0) (by rw [F.scan_done]; exact hd)
      (by rw [F.scan_rnd]; exact hr) hcp (by rw [F.scan_rnd]; exact hn)
    rw [F.scan_rnd] at this
    exact this
  | none =>
    rw [advance_of_none hn]
    exact M.fin (O.scan r p) h1 (by rw [F.scan_rnd]; exact h0) (by rw [F.scan_done]; exact hd)
      (by rw [F.scan_rnd]; exact hn)

omit F in
theorem Moves.rest (h : Q p) : Q (rest O tbl p) := by
  cases hc : cur O tbl p with
  | none => rw [rest_of_cur_none hc]; exact h
  | some r =>
    obtain ⟨h0, hd, hr⟩ := cur_eq_some.mp hc
    rw [rest_of_cur_some hc]; exact M.scan p r h h0 hd hr

theorem Moves.settle (fuel : Nat) (h : Q p) : Q (settle O tbl fuel p) :=
  settle_preserves Q (fun _ _ h hs => M.step F h hs) (fun _ h => M.rest h) fuel p h

theorem Moves.deliver (m : Msg) (h : Q (O.storeMsg m p)) : Q (deliver O tbl m p) := M.settle F _ h

theorem Moves.start (pre : Bool) (h : Q p)
    (h0 : ∀ r, O.rnd p = 0 → tbl[0]? = some r → Q (O.startRound r 0 p)) : Q (start O tbl pre p) := by
  by_cases hr0 : O.rnd p = 0
  · cases hr : tbl[0]? with
    | none => rw [start_of_none hr]; exact h
    | some r =>
      cases pre
      · rw [start_false_eq hr0 hr]; exact M.rest (h0 r hr0 hr)
      · rw [start_true_eq hr0 hr]; exact M.settle F _ (h0 r hr0 hr)
  · rw [start_of_started hr0]; exact h

end frame

/-- how storing a message the party may count (`Good self m`) interacts with the operations on the rounds of `tbl` -/
structure StoreLaws (O : Ops Spec Party Msg) (tbl : List Spec) (Good : Nat → Msg → Prop) : Prop where
  /-- at the closing scan (no step follows): the message may mark new members, so the scan does not commute with
  storing; scanning again absorbs the difference -/
  scan_store_scan : ∀ {r p m}, r ∈ tbl → Good (O.self p) m →
    O.scan r (O.storeMsg m (O.scan r p)) = O.scan r (O.storeMsg m p)
  /-- before a productive step: everybody is marked already, so storing cannot mark anybody else -/
  scan_store : ∀ {r p m}, r ∈ tbl → Good (O.self p) m → O.canProceed (O.scan r p) = true →
    O.scan r (O.storeMsg m p) = O.storeMsg m (O.scan r p)
  start_store : ∀ {r k p m}, r ∈ tbl → Good (O.self p) m →
    O.startRound r k (O.storeMsg m p) = O.storeMsg m (O.startRound r k p)
  finish_store : ∀ m p, O.finish (O.storeMsg m p) = O.storeMsg m (O.finish p)
  canProceed_store : ∀ m p, O.canProceed (O.storeMsg m p) = O.canProceed p

section store
variable {Good : Nat → Msg → Prop} (F : Frame O) (L : StoreLaws O tbl Good) {m : Msg}
include F L

omit F in
theorem advance_storeMsg (k : Nat) (q : Party) (hg : Good (O.self q) m) :
    advance O tbl k (O.storeMsg m q) = O.storeMsg m (advance O tbl k q) := by
  unfold advance
  cases hn : tbl[k]? with
  | none => exact L.finish_store m q
  | some r' => exact L.start_store (List.mem_of_getElem? hn) hg

theorem step_storeMsg (hg : Good (O.self p) m) (hs : step O tbl p = some p') :
    step O tbl (O.storeMsg m p) = some (O.storeMsg m p') := by
  obtain ⟨r, hc, hcp, rfl⟩ := step_cases hs
  have hrm : r ∈ tbl := List.mem_of_getElem? (cur_eq_some.mp hc).2.2
  rw [step_of_cur_some (r := r) (by rw [cur_storeMsg F]; exact hc), L.scan_store hrm hg hcp, L.canProceed_store, hcp,
    if_pos rfl, F.store_rnd, advance_storeMsg L _ _ (by rw [F.scan_self]; exact hg)]

theorem settle_store_rest (p : Party) (hg : Good (O.self p) m) :
    settleF O tbl (O.storeMsg m (rest O tbl p)) = settleF O tbl (O.storeMsg m p) := by
  cases hc : cur O tbl p with
  | none => rw [rest_of_cur_none hc]
  | some r =>
    have hrm : r ∈ tbl := List.mem_of_getElem? (cur_eq_some.mp hc).2.2
    have h1 : cur O tbl (O.storeMsg m (O.scan r p)) = some r := by rw [cur_storeMsg F, cur_scan F]; exact hc
    have h2 : cur O tbl (O.storeMsg m p) = some r := by rw [cur_storeMsg F]; exact hc
    have hstep : step O tbl (O.storeMsg m (O.scan r p)) = step O tbl (O.storeMsg m p) := by
      rw [step_of_cur_some h1, step_of_cur_some h2, L.scan_store_scan hrm hg, F.store_rnd, F.store_rnd, F.scan_rnd]
    have hrest : rest O tbl (O.storeMsg m (O.scan r p)) = rest O tbl (O.storeMsg m p) := by
      rw [rest_of_cur_some h1, rest_of_cur_some h2, L.scan_store_scan hrm hg]
    rw [rest_of_cur_some hc]
    -- the fuel `tbl.length + 1` is a successor: one unfolding shows `step` and `rest`
    unfold settleF settle
    rw [hstep, hrest]

/-- settling before storing a good message changes nothing once settled again -/
theorem settle_store_settle (p : Party) (hg : Good (O.self p) m) :
    settleF O tbl (O.storeMsg m (settleF O tbl p)) = settleF O tbl (O.storeMsg m p) := by
  refine settleF_induction F
    (fun p q => Good (O.self p) m → settleF O tbl (O.storeMsg m q) = settleF O tbl (O.storeMsg m p)) ?_ ?_ p hg
  · intro p _ hg
    exact settle_store_rest F L p hg
  · intro p p' hs ih hg
    rw [ih (by rw [step_self F hs]; exact hg)]
    exact (settleF_of_step_some F (step_storeMsg F L hg hs)).symm

end store

def stores (O : Ops Spec Party Msg) (ms : List Msg) (p : Party) : Party := ms.foldl (fun p m => O.storeMsg m p) p

def delivers (O : Ops Spec Party Msg) (tbl : List Spec) (ms : List Msg) (p : Party) : Party :=
  ms.foldl (fun p m => deliver O tbl m p) p

section prestart
variable {Good : Nat → Msg → Prop} (F : Frame O) (L : StoreLaws O tbl Good)
include F

theorem stores_rnd (ms : List Msg) (p : Party) : O.rnd (stores O ms p) = O.rnd p := by
  induction ms generalizing p with
  | nil => rfl
  | cons m ms ih => exact (ih (O.storeMsg m p)).trans (F.store_rnd m p)

theorem stores_self (ms : List Msg) (p : Party) : O.self (stores O ms p) = O.self p := by
  induction ms generalizing p with
  | nil => rfl
  | cons m ms ih => exact (ih (O.storeMsg m p)).trans (F.store_self m p)

theorem delivers_of_not_started (ms : List Msg) (p : Party) (h : O.rnd p = 0) :
    delivers O tbl ms p = stores O ms p := by
  induction ms generalizing p with
  | nil => rfl
  | cons m ms ih =>
    show delivers O tbl ms (deliver O tbl m p) = stores O ms (O.storeMsg m p)
    rw [deliver_of_not_started F m (Or.inl h)]
    exact ih _ ((F.store_rnd m p).trans h)

include L

theorem startRound_stores (hr : r ∈ tbl) (k : Nat) (ms : List Msg) (p : Party) (hg : ∀ m ∈ ms, Good (O.self p) m) :
    O.startRound r k (stores O ms p) = stores O ms (O.startRound r k p) := by
  induction ms generalizing p with
  | nil => rfl
  | cons m ms ih =>
    show O.startRound r k (stores O ms (O.storeMsg m p)) = stores O ms (O.storeMsg m (O.startRound r k p))
    rw [ih _ (fun x hx => by rw [F.store_self]; exact hg x (List.mem_cons_of_mem _ hx)),
      L.start_store hr (hg m (by simp))]

theorem settleF_stores (ms : List Msg) (p : Party) (hg : ∀ m ∈ ms, Good (O.self p) m) :
    settleF O tbl (stores O ms p) = delivers O tbl ms (settleF O tbl p) := by
  induction ms generalizing p with
  | nil => rfl
  | cons m ms ih =>
    show settleF O tbl (stores O ms (O.storeMsg m p)) = delivers O tbl ms (deliver O tbl m (settleF O tbl p))
    rw [ih _ (fun x hx => by rw [F.store_self]; exact hg x (List.mem_cons_of_mem _ hx))]
    exact congrArg _ (settle_store_settle F L p (hg m (by simp))).symm

theorem start_true_delivers (ms : List Msg) (p : Party) (h0 : O.rnd p = 0) (hg : ∀ m ∈ ms, Good (O.self p) m) :
    start O tbl true (delivers O tbl ms p) = delivers O tbl ms (start O tbl true p) := by
  rw [delivers_of_not_started F ms p h0]
  cases hr : tbl[0]? with
  | none => rw [start_of_none hr, start_of_none hr]; exact (delivers_of_not_started F ms p h0).symm
  | some r =>
    rw [start_true_eq (by rw [stores_rnd F]; exact h0) hr, start_true_eq h0 hr,
      startRound_stores F L (List.mem_of_getElem? hr) 0 ms p hg]
    exact settleF_stores F L ms _ (fun m hm => by rw [F.start_self]; exact hg m hm)

/-- once one good message has been delivered it no longer matters whether `Start` ran the advance loop -/
theorem delivers_start_pre (m : Msg) (ms : List Msg) (p : Party) (h0 : O.rnd p = 0) (hg : Good (O.self p) m) :
    delivers O tbl (m :: ms) (start O tbl false p) = delivers O tbl (m :: ms) (start O tbl true p) := by
  cases hr : tbl[0]? with
  | none => rw [start_of_none hr, start_of_none hr]
  | some r =>
    rw [start_false_eq h0 hr, start_true_eq h0 hr]
    show delivers O tbl ms (deliver O tbl m (rest O tbl (O.startRound r 0 p))) =
      delivers O tbl ms (deliver O tbl m (settleF O tbl (O.startRound r 0 p)))
    have hg' : Good (O.self (O.startRound r 0 p)) m := by rw [F.start_self]; exact hg
    unfold deliver
    rw [settle_store_rest F L _ hg', settle_store_settle F L _ hg']

/-- deliveries before `Start` followed by `Start` (which runs the advance loop iff something was stored) =
`Start` followed by the same deliveries -/
theorem start_delivers (ms : List Msg) (p : Party) (h0 : O.rnd p = 0) (hg : ∀ m ∈ ms, Good (O.self p) m) :
    start O tbl (!ms.isEmpty) (delivers O tbl ms p) = delivers O tbl ms (start O tbl false p) := by
  cases ms with
  | nil => rfl
  | cons m ms =>
    rw [delivers_start_pre F L m ms p h0 (hg m (by simp))]
    exact start_true_delivers F L (m :: ms) p h0 hg

end prestart
end

/-! lists: prefixes of a table, one final entry in last position -/

section lists
variable {α β : Type}

/-- a party finishes after the last round only: before the first round of a non-empty table it has not finished -/
theorem not_done_of_rnd_zero {l : List α} {a : α} {d : Bool} {k : Nat} (h : d = true → l.length ≤ k) (h0 : k = 0)
    (hr : l[0]? = some a) : d = false := by
  refine Bool.eq_false_iff.mpr fun hd => ?_
  have := h hd
  have := lt_of_getElem?_some hr
  omega

theorem take_succ_map_flatten (f : α → List β) {l : List α} {k : Nat} {a : α} (h : l[k]? = some a) :
    ((l.take (k + 1)).map f).flatten = ((l.take k).map f).flatten ++ f a := by
  obtain ⟨hk, rfl⟩ := List.getElem?_eq_some_iff.mp h
  rw [List.take_succ_eq_append_getElem hk]
  simp only [List.map_append, List.map_cons, List.map_nil, List.flatten_append, List.flatten_cons,
    List.flatten_nil, List.append_nil]

theorem take_succ_map_sum (f : α → Nat) {l : List α} {k : Nat} {a : α} (h : l[k]? = some a) :
    ((l.take (k + 1)).map f).sum = ((l.take k).map f).sum + f a := by
  obtain ⟨hk, rfl⟩ := List.getElem?_eq_some_iff.mp h
  rw [List.take_succ_eq_append_getElem hk]
  simp only [List.map_append, List.map_cons, List.map_nil, List.sum_append, List.sum_cons, List.sum_nil, Nat.add_zero]

theorem mem_take {l : List α} {k : Nat} {a : α} : a ∈ l.take k ↔ ∃ i, i < k ∧ l[i]? = some a := by
  rw [List.mem_iff_getElem?]
  constructor
  · rintro ⟨i, hi⟩
    rw [List.getElem?_take] at hi
    split at hi
    · rename_i hlt; exact ⟨i, hlt, hi⟩
    · cases hi
  · rintro ⟨i, hk, ha⟩
    exact ⟨i, by rw [List.getElem?_take, if_pos hk]; exact ha⟩

theorem mem_take_map_flatten {f : α → List β} {l : List α} {k : Nat} {x : β} :
    x ∈ ((l.take k).map f).flatten ↔ ∃ k' a, k' < k ∧ l[k']? = some a ∧ x ∈ f a := by
  simp only [List.mem_flatten, List.mem_map, mem_take]
  constructor
  · rintro ⟨_, ⟨a, ⟨i, hi, ha⟩, rfl⟩, hx⟩
    exact ⟨i, a, hi, ha, hx⟩
  · rintro ⟨i, a, hi, ha, hx⟩
    exact ⟨f a, ⟨a, ⟨i, hi, ha⟩, rfl⟩, hx⟩

/-- exactly one `true`, in last position -/
def lastOnly : List Bool → Bool
  | [] => false
  | [b] => b
  | b :: b' :: bs => !b && lastOnly (b' :: bs)

/-- the number of `true` among the first `k` entries -/
def countUpTo (fs : List Bool) (k : Nat) : Nat := ((fs.take k).map fun b => if b then 1 else 0).sum

theorem countUpTo_map (f : α → Bool) (l : List α) (k : Nat) :
    ((l.take k).map fun a => if f a then 1 else 0).sum = countUpTo (l.map f) k := by
  unfold countUpTo
  rw [← List.map_take, List.map_map]
  rfl

theorem countUpTo_cons_succ (b : Bool) (bs : List Bool) (k : Nat) :
    countUpTo (b :: bs) (k + 1) = (if b then 1 else 0) + countUpTo bs k := by
  simp [countUpTo]

theorem countUpTo_lastOnly : ∀ (fs : List Bool), lastOnly fs = true → ∀ k, k ≤ fs.length →
    countUpTo fs k = if k = fs.length then 1 else 0
  | [], h, _, _ => by simp [lastOnly] at h
  | [b], h, k, hk => by
    simp only [lastOnly] at h
    cases k with
    | zero => simp [countUpTo]
    | succ k =>
      have : k = 0 := by simp at hk; omega
      subst this
      simp [countUpTo, h]
  | b :: b' :: bs, h, k, hk => by
    simp only [lastOnly, Bool.and_eq_true, Bool.not_eq_true'] at h
    cases k with
    | zero => simp [countUpTo]
    | succ k =>
      rw [countUpTo_cons_succ, countUpTo_lastOnly (b' :: bs) h.2 k (by simp at hk ⊢; omega), h.1]
      simp

theorem lastOnly_getElem? : ∀ (fs : List Bool), lastOnly fs = true → ∀ i b, fs[i]? = some b →
    (b = true ↔ i + 1 = fs.length)
  | [], h, _, _, _ => by simp [lastOnly] at h
  | [b0], h, i, b, hi => by
    simp only [lastOnly] at h
    cases i with
    | zero => simp at hi; subst hi; simp [h]
    | succ i => simp at hi
  | b0 :: b' :: bs, h, i, b, hi => by
    simp only [lastOnly, Bool.and_eq_true, Bool.not_eq_true'] at h
    cases i with
    | zero => simp at hi; subst hi; simp [h.1]
    | succ i =>
      have hi' : (b' :: bs)[i]? = some b := by simpa using hi
      rw [lastOnly_getElem? (b' :: bs) h.2 i b hi']; simp

/-- a table with one final entry, in last position, read through its `final` flags `f` -/
theorem lastOnly_map_getElem? (f : α → Bool) {l : List α} (h : lastOnly (l.map f) = true) {i : Nat} {a : α}
    (hi : l[i]? = some a) : f a = true ↔ i + 1 = l.length := by
  have := lastOnly_getElem? _ h i (f a) (by rw [List.getElem?_map, hi]; rfl)
  rwa [List.length_map] at this

/-- … the final entries among the first `k` are at most one, and one iff `k` is the whole length -/
theorem sum_take_of_lastOnly (f : α → Bool) {l : List α} (h : lastOnly (l.map f) = true) {k : Nat} (hk : k ≤ l.length) :
    ((l.take k).map fun a => if f a then 1 else 0).sum ≤ 1 ∧
      (((l.take k).map fun a => if f a then 1 else 0).sum = 1 ↔ k = l.length) := by
  rw [countUpTo_map, countUpTo_lastOnly _ h k (by simpa using hk), List.length_map]
  split <;> simp [*]

end lists

/-! folding commuting, idempotent updates: the result depends on the set of updates only -/

section fold
variable {σ α : Type} {f : σ → α → σ} {I : σ → Prop} {Ok : α → Prop} {C : α → α → Prop}

/-- on states with `I`, updates that are `Ok` commute when compatible (`C`) and are idempotent -/
structure Commuting (f : σ → α → σ) (I : σ → Prop) (Ok : α → Prop) (C : α → α → Prop) : Prop where
  inv : ∀ s a, I s → I (f s a)
  comm : ∀ s a b, I s → Ok a → Ok b → C a b → f (f s a) b = f (f s b) a
  idem : ∀ s a, I s → Ok a → f (f s a) a = f s a

variable (H : Commuting f I Ok C)
include H

theorem foldl_perm {l l' : List α} (hp : l.Perm l') :
    ∀ s, I s → (∀ a ∈ l, Ok a) → (∀ a ∈ l, ∀ b ∈ l, C a b) → l.foldl f s = l'.foldl f s := by
  induction hp with
  | nil => intro _ _ _ _; rfl
  | cons a _ ih =>
    intro s hs hok hc
    exact ih _ (H.inv s a hs) (fun x hx => hok x (List.mem_cons_of_mem _ hx))
      (fun x hx y hy => hc x (List.mem_cons_of_mem _ hx) y (List.mem_cons_of_mem _ hy))
  | swap a b l =>
    intro s hs hok hc
    simp only [List.foldl_cons]
    rw [H.comm s b a hs (hok b (by simp)) (hok a (by simp)) (hc b (by simp) a (by simp))]
  | trans h1 _ ih1 ih2 =>
    intro s hs hok hc
    rw [ih1 s hs hok hc]
    exact ih2 s hs (fun a ha => hok a (h1.mem_iff.mpr ha))
      (fun x hx y hy => hc x (h1.mem_iff.mpr hx) y (h1.mem_iff.mpr hy))

theorem foldl_absorb (a : α) : ∀ (l : List α) (s : σ), a ∈ l → I s → (∀ x ∈ l, Ok x) → (∀ x ∈ l, ∀ y ∈ l, C x y) →
    (a :: l).foldl f s = l.foldl f s := by
  intro l
  induction l with
  | nil => intro _ h; cases h
  | cons b l ih =>
    intro s hm hs hok hc
    have hoa := hok a hm
    have hob := hok b (by simp)
    by_cases hab : a = b
    · subst hab
      simp only [List.foldl_cons]
      rw [H.idem s a hs hoa]
    · have hal : a ∈ l := (List.mem_cons.mp hm).resolve_left hab
      simp only [List.foldl_cons]
      rw [H.comm s a b hs hoa hob (hc a hm b (by simp)), ← List.foldl_cons]
      exact ih _ hal (H.inv s b hs) (fun x hx => hok x (List.mem_cons_of_mem _ hx))
        (fun x hx y hy => hc x (List.mem_cons_of_mem _ hx) y (List.mem_cons_of_mem _ hy))

/-- updates that have all been made already change nothing -/
theorem foldl_append_absorb : ∀ (l' l : List α) (s : σ), (∀ a ∈ l', a ∈ l) → I s → (∀ x ∈ l, Ok x) →
    (∀ x ∈ l, ∀ y ∈ l, C x y) → (l ++ l').foldl f s = l.foldl f s := by
  intro l'
  induction l' with
  | nil => intro l s _ _ _ _; rw [List.append_nil]
  | cons a l' ih =>
    intro l s hsub hs hok hc
    have ha : a ∈ l := hsub a (by simp)
    have hmem : ∀ x ∈ l ++ [a], x ∈ l := fun x hx => (List.mem_append.mp hx).elim id fun h => by
      rw [List.mem_singleton.mp h]; exact ha
    have hok' : ∀ x ∈ l ++ [a], Ok x := fun x hx => hok x (hmem x hx)
    have hc' : ∀ x ∈ l ++ [a], ∀ y ∈ l ++ [a], C x y := fun x hx y hy => hc x (hmem x hx) y (hmem y hy)
    -- `a` goes to the end of `l`, the induction hypothesis absorbs `l'`; `l ++ [a]` is a permutation of `a :: l`,
    -- and `a`, being in `l`, is absorbed
    rw [show l ++ a :: l' = (l ++ [a]) ++ l' by simp,
      ih (l ++ [a]) s (fun x hx => List.mem_append_left _ (hsub x (List.mem_cons_of_mem _ hx))) hs hok' hc',
      foldl_perm H (List.perm_append_singleton a l) s hs hok' hc']
    exact foldl_absorb H a l s ha hs hok hc

/-- the outcome depends only on the set of updates folded: order and multiplicity are irrelevant -/
theorem foldl_same_set (l l' : List α) (s : σ) (hset : ∀ x, x ∈ l ↔ x ∈ l') (hs : I s) (hok : ∀ x ∈ l, Ok x)
    (hc : ∀ x ∈ l, ∀ y ∈ l, C x y) : l.foldl f s = l'.foldl f s := by
  have hmem : ∀ x ∈ l ++ l', x ∈ l := fun x hx => (List.mem_append.mp hx).elim id (hset x).mpr
  have h1 := foldl_append_absorb H l' l s (fun a h => (hset a).mpr h) hs hok hc
  have h2 := foldl_append_absorb H l l' s (fun a h => (hset a).mp h) hs (fun x hx => hok x ((hset x).mpr hx))
    (fun x hx y hy => hc x ((hset x).mpr hx) y ((hset y).mpr hy))
  rw [← h1, ← h2]
  exact foldl_perm H List.perm_append_comm s hs (fun x hx => hok x (hmem x hx))
    (fun x hx y hy => hc x (hmem x hx) y (hmem y hy))

end fold

/-! the order of deliveries -/

section order
variable {Spec Party Msg : Type} {O : Ops Spec Party Msg} {tbl : List Spec} {Good : Nat → Msg → Prop}
  {key : Msg → Nat × Nat}

/-- one slot per key: stores for different keys commute, storing twice is storing once -/
structure SlotLaws (O : Ops Spec Party Msg) (key : Msg → Nat × Nat) : Prop where
  store_comm : ∀ a b p, key a ≠ key b → O.storeMsg a (O.storeMsg b p) = O.storeMsg b (O.storeMsg a p)
  store_idem : ∀ a p, O.storeMsg a (O.storeMsg a p) = O.storeMsg a p

variable (F : Frame O) (L : StoreLaws O tbl Good) (K : SlotLaws O key)
include F L K

/-- two good messages for different slots may be delivered in either order -/
theorem deliver_comm (a b : Msg) (p : Party) (ha : Good (O.self p) a) (hb : Good (O.self p) b) (hne : key a ≠ key b) :
    deliver O tbl a (deliver O tbl b p) = deliver O tbl b (deliver O tbl a p) := by
  unfold deliver
  rw [settle_store_settle F L _ (by rw [F.store_self]; exact ha), settle_store_settle F L _ (by rw [F.store_self]; exact hb),
    K.store_comm a b p hne]

/-- a duplicate delivery changes nothing -/
theorem deliver_dup (a : Msg) (p : Party) (ha : Good (O.self p) a) :
    deliver O tbl a (deliver O tbl a p) = deliver O tbl a p := by
  unfold deliver
  rw [settle_store_settle F L _ (by rw [F.store_self]; exact ha), K.store_idem]

/-- on the states of party `self`, deliveries of good messages commute (two for one slot being one message) and are
idempotent -/
theorem deliver_commuting (self : Nat) :
    Commuting (fun p m => deliver O tbl m p) (fun p => O.self p = self) (Good self) (fun a b => key a = key b → a = b) where
  inv := fun p m h =>
    (settle_preserves (fun q => O.self q = O.self p) (fun _ _ h hs => (step_self F hs).trans h)
      (fun q h => by rw [rest_eq]; cases cur O tbl q; exact h; exact (F.scan_self _ q).trans h) _ _ (F.store_self m p)).trans h
  comm := by
    intro p a b hs ha hb hc
    subst hs
    by_cases hk : key a = key b
    · rw [hc hk]
    · exact deliver_comm F L K b a p hb ha fun h => hk h.symm
  idem := fun p a hs ha => deliver_dup F L K a p (hs ▸ ha)

/-- the outcome depends only on the set of (good, slot-consistent) messages delivered -/
theorem delivers_same_set (ms ms' : List Msg) (p : Party) (hset : ∀ m, m ∈ ms ↔ m ∈ ms')
    (hg : ∀ m ∈ ms, Good (O.self p) m) (hc : ∀ a ∈ ms, ∀ b ∈ ms, key a = key b → a = b) :
    delivers O tbl ms p = delivers O tbl ms' p :=
  foldl_same_set (deliver_commuting F L K (O.self p)) ms ms' p hset rfl hg hc

theorem delivers_perm {ms ms' : List Msg} (hp : ms.Perm ms') (p : Party)
    (hg : ∀ m ∈ ms, Good (O.self p) m) (hc : ∀ a ∈ ms, ∀ b ∈ ms, key a = key b → a = b) :
    delivers O tbl ms p = delivers O tbl ms' p :=
  foldl_perm (deliver_commuting F L K (O.self p)) hp p rfl hg hc

end order

end TssVerif.Loop
