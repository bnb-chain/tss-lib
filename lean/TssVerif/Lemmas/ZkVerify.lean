import TssVerif.Lemmas.ZkBase
import TssVerif.Lemmas.VssVerify
/-! What acceptance by a verifier of `Core/Zk.lean` means: for each verifier one equivalence between
`… = .ok true` and the conjunction of its guards and verification equations, the latter in terms of Go's `Exp`
(`goExp`). The guards are the current ones (`Zk.cur`), except for `bobVerify`, whose equivalence holds for every
`Cfg`. Completeness, the implications of acceptance and the binding statements all start from these.

The equivalences for `rangeVerify`, `facVerify` and `modVerify` (and the guard part of `bobVerify`) are closed by
one `simp only` after unfolding the verifier, so their right-hand sides are written exactly as that `simp only` leaves
the guards. This is why some conjuncts look redundant (`(0 < n ∧ ¬ n % 2 = 0) ∧
0 ≤ n`, a repeated `¬ n % 2 = 0`, `¬ pf.s = 1` rather than `pf.s ≠ 1`): a tidier statement would need a second
rewriting pass in every proof that uses it. For the same reason `dlnStep` and `bobTail` below have to stay
syntactically equal to the corresponding parts of `dlnVerify` and `bobVerify` in `Core/Zk.lean`: the equivalences
for those two verifiers match them against the unfolded verifier as they stand. -/
set_option autoImplicit false
namespace TssVerif.Zk

/-! ## Schnorr proofs: the guards, and the point operations of the Go code all succeed with equal results -/
section schnorr
variable {P : Type} (C : Curve P) (H : HashFn)

theorem schnorrVerify_eq_true_iff (sess : Bytes) (X alpha : ECPoint) (t : Nat) :
    schnorrVerify C H cur sess X alpha t = .ok true ↔
      t % C.q ≠ 0 ∧ schnorrChallenge C H sess X alpha ≠ 0 ∧
      ∃ tG xc, C.ecBaseMult t = .ok tG ∧ C.ecScalarMult X (schnorrChallenge C H sess X alpha) = .ok xc ∧
        C.ecAdd alpha xc = .ok tG := by
  unfold schnorrVerify
  simp only [Outcome.guard_false_eq_true, cur, Bool.true_and, Bool.or_eq_true, beq_iff_eq, not_or, and_assoc, ne_eq]
  refine and_congr_right fun _ => and_congr_right fun _ => ?_
  constructor
  · intro h
    obtain ⟨tG, htG, h⟩ := Outcome.bind_eq_ok.1 h
    obtain ⟨xc, hxc, h⟩ := Outcome.bind_eq_ok.1 h
    cases hadd : C.ecAdd alpha xc with
    | ok axc =>
      rw [hadd] at h
      obtain rfl := (Vss.ecEquals_iff _ _).1 (Outcome.ok.inj h)
      exact ⟨_, xc, htG, hxc, hadd⟩
    | err e => rw [hadd] at h; cases h
    | panic e => rw [hadd] at h; cases h
  · rintro ⟨tG, xc, htG, hxc, hadd⟩
    rw [htG, Outcome.ok_bind, hxc, Outcome.ok_bind, hadd]
    exact congrArg Outcome.ok ((Vss.ecEquals_iff tG tG).2 rfl)

theorem schnorrVVerify_eq_true_iff (sess : Bytes) (V R alpha : ECPoint) (t u : Nat) :
    schnorrVVerify C H cur sess V R alpha t u = .ok true ↔
      C.ecIsOnCurve alpha = true ∧ t % C.q ≠ 0 ∧ u % C.q ≠ 0 ∧ schnorrVChallenge C H sess V R alpha ≠ 0 ∧
      ∃ tR uG w vc, C.ecScalarMult R t = .ok tR ∧ C.ecBaseMult u = .ok uG ∧ C.ecAdd tR uG = .ok w ∧
        C.ecScalarMult V (schnorrVChallenge C H sess V R alpha) = .ok vc ∧ C.ecAdd alpha vc = .ok w := by
  unfold schnorrVVerify
  simp only [Outcome.guard_false_eq_true, cur, Bool.true_and, Bool.or_eq_true, beq_iff_eq, not_or,
    Bool.not_eq_true', Bool.not_eq_false, and_assoc, ne_eq]
  refine and_congr_right fun _ => and_congr_right fun _ => and_congr_right fun _ => and_congr_right fun _ => ?_
  constructor
  · intro h
    obtain ⟨tR, htR, h⟩ := Outcome.bind_eq_ok.1 h
    obtain ⟨uG, huG, h⟩ := Outcome.bind_eq_ok.1 h
    cases hadd1 : C.ecAdd tR uG with
    | err e => rw [hadd1] at h; cases h
    | panic e => rw [hadd1] at h; cases h
    | ok w =>
      rw [hadd1] at h
      obtain ⟨vc, hvc, h⟩ := Outcome.bind_eq_ok.1 h
      cases hadd2 : C.ecAdd alpha vc with
      | ok avc =>
        rw [hadd2] at h
        obtain rfl := (Vss.ecEquals_iff _ _).1 (Outcome.ok.inj h)
        exact ⟨tR, uG, _, vc, htR, huG, hadd1, hvc, hadd2⟩
      | err e => rw [hadd2] at h; cases h
      | panic e => rw [hadd2] at h; cases h
  · rintro ⟨tR, uG, w, vc, htR, huG, hadd1, hvc, hadd2⟩
    rw [htR, Outcome.ok_bind, huG, Outcome.ok_bind, hadd1]
    simp only []
    rw [hvc, Outcome.ok_bind, hadd2]
    exact congrArg Outcome.ok ((Vss.ecEquals_iff w w).2 rfl)
end schnorr

/-- the per-iteration check of `dlnVerify` -/
def dlnStep (c : Nat) (alpha t : List Int) (h1 h2 n : Int) (i : Nat) : Outcome Bool := do
  let ci : Int := if c.testBit i then 1 else 0
  let l ← expP h1 (t.getD i 0) n.toNat
  let r ← expP h2 ci n.toNat
  pure (l == (((alpha.getD i 0) * (r : Int)) % n).toNat)

theorem dlnStep_eq_true_iff {c : Nat} {alpha t : List Int} {h1 h2 n : Int} {i : Nat} :
    dlnStep c alpha t h1 h2 n i = .ok true ↔
      ∃ r, goExp h2 (if c.testBit i then 1 else 0) n.toNat = some r ∧
        goExp h1 (t.getD i 0) n.toNat = some (((alpha.getD i 0) * (r : Int)) % n).toNat := by
  unfold dlnStep
  simp only [Outcome.bind_eq_ok, expP_eq_ok, Outcome.pure_eq, Outcome.ok.injEq, beq_iff_eq]
  exact ⟨fun ⟨l, hl, r, hr, e⟩ => ⟨r, hr, e ▸ hl⟩, fun ⟨r, hr, hl⟩ => ⟨_, hl, r, hr, rfl⟩⟩

/-- the range check `1 < v mod N < N` of `dlnVerify`; the upper bound is automatic -/
theorem dlnInRange_iff {v n : Int} (hn : 0 < n) :
    (decide (1 < v % n) && decide (v % n < n)) = true ↔ 1 < v % n := by
  rw [Bool.and_eq_true, decide_eq_true_eq, decide_eq_true_eq]
  exact ⟨fun h => h.1, fun h => ⟨h, Int.emod_lt_of_pos v hn⟩⟩

theorem dlnVerify_eq_true_iff (H : HashFn) {alpha t : List Int} {h1 h2 n : Int} :
    dlnVerify H alpha t h1 h2 n = .ok true ↔
      0 < n ∧ 1 < h1 % n ∧ 1 < h2 % n ∧ h1 % n ≠ h2 % n ∧ (∀ x ∈ t, 1 < x % n) ∧ (∀ a ∈ alpha, 1 < a % n) ∧
      ∀ i < dlnIterations, dlnStep (dlnChallenge H h1 h2 n alpha) alpha t h1 h2 n i = .ok true := by
  unfold dlnVerify
  simp only [Outcome.guard_false_eq_true]
  rw [not_le]
  refine and_congr_right fun hn => ?_
  have hone : ∀ v : Int, ¬ ((!(decide (1 < v % n) && decide (v % n < n))) = true) ↔ 1 < v % n := fun v => by
    rw [Bool.not_eq_true', Bool.not_eq_false, dlnInRange_iff hn]
  have hall : ∀ l : List Int, ¬ ((!l.all fun v => decide (1 < v % n) && decide (v % n < n)) = true) ↔
      ∀ x ∈ l, 1 < x % n := fun l => by
    rw [Bool.not_eq_true', Bool.not_eq_false, List.all_eq_true]
    exact forall₂_congr fun x _ => dlnInRange_iff hn
  refine and_congr (hone h1) (and_congr (hone h2)
    (and_congr (by rw [beq_iff_eq]) (and_congr (hall t) (and_congr (hall alpha) ?_))))
  exact (foldlM_guard_eq_true (dlnStep (dlnChallenge H h1 h2 n alpha) alpha t h1 h2 n) _).trans
    ⟨fun h i hi => h i (List.mem_range.2 hi), fun h i hi => h i (List.mem_range.1 hi)⟩

/-- `alpha = (A, …, A)`, `t = (T, …, T)` and a hash under which the challenge is `0`: once the range guards are
passed (`hside`), every round of the verifier computes the same comparison, so its answer is that of one round -/
theorem dlnVerify_replicate (H : HashFn) (A T h1 h2 n : Int) (b : Bool)
    (hside : (decide (0 < n) && decide (1 < h1 % n) && decide (1 < h2 % n) && decide (h1 % n ≠ h2 % n) &&
      decide (1 < T % n) && decide (1 < A % n)) = true)
    (hc : dlnChallenge H h1 h2 n (List.replicate dlnIterations A) = 0)
    (hstep : (expP h1 T n.toNat >>= fun l => expP h2 0 n.toNat >>= fun r =>
      (pure (l == ((A * (r : Int)) % n).toNat) : Outcome Bool)) = .ok b) :
    dlnVerify H (List.replicate dlnIterations A) (List.replicate dlnIterations T) h1 h2 n = .ok b := by
  simp only [Bool.and_eq_true, decide_eq_true_eq] at hside
  obtain ⟨⟨⟨⟨⟨hn, hh1⟩, hh2⟩, hne⟩, hT⟩, hA⟩ := hside
  have lt : ∀ v : Int, v % n < n := fun v => Int.emod_lt_of_pos v hn
  unfold dlnVerify
  simp only [hc, Int.not_le.2 hn, hh1, hh2, hT, hA, lt, hne, List.all_replicate, decide_true, Bool.and_self,
    Bool.not_true, Bool.false_eq_true, if_false, beq_iff_eq, ite_self]
  refine foldlM_const_step _ b _ (by decide) fun i hi => ?_
  have hi' : i < dlnIterations := List.mem_range.1 hi
  simp only [List.getD_eq_getElem?_getD, List.getElem?_replicate, hi', if_true, Option.getD_some,
    Nat.zero_testBit, Bool.false_eq_true, if_false]
  exact hstep

/-- the guards in the order of the Go code, then the two equations `u = γ^{s1} s^N c^{-e} mod N²` and
`w = h1^{s1} h2^{s2} z^{-e} mod Ñ`, each factor a non-nil result of Go's `Exp` -/
theorem rangeVerify_eq_true_iff (H : HashFn) (q : Nat) (n ntilde h1 h2 c : Int) (pf : RangeProof) :
    rangeVerify cur H q n ntilde h1 h2 c pf = .ok true ↔
      (0 ≤ pf.z ∧ pf.z < ntilde) ∧ (0 ≤ pf.u ∧ pf.u < n * n) ∧ (0 ≤ pf.w ∧ pf.w < ntilde) ∧
      (0 ≤ pf.s ∧ pf.s < n) ∧ pf.z.gcd ntilde = 1 ∧ pf.u.gcd (n * n) = 1 ∧ pf.w.gcd ntilde = 1 ∧
      (q : Int) ≤ pf.s1 ∧ (q : Int) ≤ pf.s2 ∧ ¬ pf.s = 1 ∧ ¬ pf.z = 1 ∧ ¬ pf.s1 = pf.s2 ∧
      pf.s1 ≤ ((q * q * q : Nat) : Int) ∧ c.gcd (n * n) = 1 ∧
      ∃ cE, goExp c (-(rangeChallenge H q n c pf.z pf.u pf.w : Int)) (n * n).natAbs = some cE ∧
      ∃ sN, goExp pf.s n (n * n).natAbs = some sN ∧
      ∃ gS1, goExp (n + 1) pf.s1 (n * n).natAbs = some gS1 ∧
      pf.u = ((gS1 * sN % (n * n).natAbs * cE % (n * n).natAbs : Nat) : Int) ∧
      ∃ a1, goExp h1 pf.s1 ntilde.natAbs = some a1 ∧
      ∃ a2, goExp h2 pf.s2 ntilde.natAbs = some a2 ∧
      ∃ zE, goExp pf.z (-(rangeChallenge H q n c pf.z pf.u pf.w : Int)) ntilde.natAbs = some zE ∧
      pf.w = ((a1 * a2 % ntilde.natAbs * zE % ntilde.natAbs : Nat) : Int) := by
  unfold rangeVerify
  simp only [Outcome.guard_false_eq_true, Outcome.bind_eq_ok, expP_eq_ok, Bool.not_eq_true, Bool.not_eq_false',
    isInInterval_iff, bne_iff_ne, ne_eq, not_not, beq_iff_eq, not_lt, gt_iff_lt, cur, Bool.true_and, Outcome.ok.injEq]

/-- the guards, then the three verification equations of `facproof` (CGG+21, Fig. 28: `s^{z1} t^{w1} = A·P^e`,
`s^{z2} t^{w2} = B·Q^e`, `Q^{z1} t^v = T·R^e` modulo `NCap`) on the values of Go's `Exp` -/
theorem facVerify_eq_true_iff (H : HashFn) (q : Nat) (sess : Bytes) (n0 ncap s t : Int) (pf : FacProof) :
    facVerify cur H q sess n0 ncap s t pf = .ok true ↔
      0 < n0 ∧ 0 < ncap ∧
      (0 ≤ pf.z1 ∧ pf.z1 < ((q * q * q * isqrt n0.toNat : Nat) : Int)) ∧
      (0 ≤ pf.z2 ∧ pf.z2 < ((q * q * q * isqrt n0.toNat : Nat) : Int)) ∧ ¬ ncap = 0 ∧
      ∃ x1, goExp s pf.z1 ncap.natAbs = some x1 ∧
      ∃ x2, goExp t pf.w1 ncap.natAbs = some x2 ∧
      ∃ x3, goExp pf.P (facChallenge H q sess n0 ncap s t pf : Int) ncap.natAbs = some x3 ∧
      x1 * x2 % ncap.natAbs = (pf.A * (x3 : Int) % (ncap.natAbs : Int)).toNat ∧
      ∃ y1, goExp s pf.z2 ncap.natAbs = some y1 ∧
      ∃ y2, goExp t pf.w2 ncap.natAbs = some y2 ∧
      ∃ y3, goExp pf.Q (facChallenge H q sess n0 ncap s t pf : Int) ncap.natAbs = some y3 ∧
      y1 * y2 % ncap.natAbs = (pf.B * (y3 : Int) % (ncap.natAbs : Int)).toNat ∧
      ∃ r1, goExp s n0 ncap.natAbs = some r1 ∧
      ∃ r2, goExp t pf.sigma ncap.natAbs = some r2 ∧
      ∃ r3, goExp pf.Q pf.z1 ncap.natAbs = some r3 ∧
      ∃ r4, goExp t pf.v ncap.natAbs = some r4 ∧
      ∃ r5, goExp ((r1 * r2 % ncap.natAbs : Nat) : Int) (facChallenge H q sess n0 ncap s t pf : Int) ncap.natAbs =
        some r5 ∧
      r3 * r4 % ncap.natAbs = (pf.T * (r5 : Int) % (ncap.natAbs : Int)).toNat := by
  unfold facVerify
  simp only [Outcome.guard_false_eq_true, Outcome.guard_err_eq_ok, Outcome.bind_eq_ok, expP_eq_ok, Bool.not_eq_true,
    Bool.not_eq_false', bne_iff_ne, ne_eq, not_not, beq_iff_eq, cur, Bool.true_and, Outcome.ok.injEq,
    decide_eq_true_eq, not_le, isInInterval_iff]

/-- the guards in the order of the Go code (the canonical-root check `2·x ≤ N` among them), then for each of
the 80 challenges `Z_i^N = Y_i` and `X_i^4 = (−1)^{a_i} W^{b_i} Y_i` on reduced values -/
theorem modVerify_eq_true_iff (H : HashFn) (sess : Bytes) (w : Int) (xs : List Int) (a b : Int) (zs : List Int)
    (n : Int) :
    modVerify cur H sess w xs a b zs n = .ok true ↔
      (0 < n ∧ ¬ n % 2 = 0) ∧ 0 ≤ n ∧
      ∃ j, goJacobi w n.toNat = .ok j ∧ ¬ j = 1 ∧ (0 < w ∧ w < n) ∧ w.toNat.gcd n.toNat = 1 ∧
      (∀ z ∈ zs, 0 < z ∧ z < n) ∧ (∀ x ∈ xs, 0 < x ∧ x < n) ∧ (∀ x ∈ xs, 2 * x ≤ n) ∧
      bitLen a.natAbs = 80 + 1 ∧ bitLen b.natAbs = 80 + 1 ∧
      ∃ ys, modYs H sess w n 80 [] = .ok ys ∧ (¬ n % 2 = 0 ∧ isProbablyPrime n.toNat = false) ∧
      ∀ i < 80,
        modPow (zs.getD i 0).toNat n.toNat n.toNat = ys.getD i 0 ∧
        modPow (xs.getD i 0).toNat 4 n.toNat =
          if b.natAbs.testBit i = true then
            (w.toNat * if a.natAbs.testBit i = true then (-1 * (ys.getD i 0 : Int) % n).toNat else ys.getD i 0) %
              n.toNat
          else if a.natAbs.testBit i = true then (-1 * (ys.getD i 0 : Int) % n).toNat else ys.getD i 0 := by
  unfold modVerify
  simp only [Outcome.guard_false_eq_true, Outcome.bind_eq_ok, Bool.not_eq_true, Bool.not_eq_false', bne_iff_ne,
    ne_eq, not_not, beq_iff_eq, not_lt, cur, Bool.true_and, Outcome.ok.injEq, Bool.or_eq_true, not_or,
    List.all_eq_true, Bool.and_eq_true, decide_eq_true_eq, List.mem_range, not_le, modIterations]

section bob
variable {P : Type} (C : Curve P) (H : HashFn)

/-- the three congruence checks at the end of `bobVerify`, for the challenge `e` -/
def bobTail (e : Nat) (n ntilde h1 h2 c1 c2 : Int) (pf : BobProof) : Outcome Bool := do
  let mt := ntilde.natAbs
  let m2 := (n * n).natAbs
  let l5 := (← expP h1 pf.s1 mt) * (← expP h2 pf.s2 mt) % mt
  let r5 := (((← expP pf.z e mt) : Int) * pf.zPrm % (mt : Int)).toNat
  if l5 != r5 then .ok false else
  let l6 := (← expP h1 pf.t1 mt) * (← expP h2 pf.t2 mt) % mt
  let r6 := (((← expP pf.t e mt) : Int) * pf.w % (mt : Int)).toNat
  if l6 != r6 then .ok false else
  let l7 := (← expP c1 pf.s1 m2) * (← expP pf.s n m2) % m2 * (← expP (n + 1) pf.t1 m2) % m2
  let r7 := (((← expP c2 e m2) : Int) * pf.v % (m2 : Int)).toNat
  .ok (l7 == r7)

/-- the interval, unit and range guards of `bobVerify`, in the order of the Go code -/
def BobGuards (q : Nat) (n ntilde : Int) (pf : BobProof) : Prop :=
  (0 ≤ pf.z ∧ pf.z < ntilde) ∧ (0 ≤ pf.zPrm ∧ pf.zPrm < ntilde) ∧ (0 ≤ pf.t ∧ pf.t < ntilde) ∧
  (0 ≤ pf.v ∧ pf.v < n * n) ∧ (0 ≤ pf.w ∧ pf.w < ntilde) ∧ (0 ≤ pf.s ∧ pf.s < n) ∧
  pf.z.gcd ntilde = 1 ∧ pf.zPrm.gcd ntilde = 1 ∧ pf.t.gcd ntilde = 1 ∧ pf.v.gcd (n * n) = 1 ∧
  pf.w.gcd ntilde = 1 ∧ pf.s ≠ 0 ∧ pf.s.gcd n = 1 ∧ pf.v ≠ 0 ∧ pf.v.gcd n = 1 ∧
  (q : Int) ≤ pf.s1 ∧ (q : Int) ≤ pf.s2 ∧ (q : Int) ≤ pf.t1 ∧ (q : Int) ≤ pf.t2 ∧
  pf.s1 ≤ (q : Int) * q * q ∧ pf.t1 ≤ (q : Int) * q * q * ((q : Int) * q * q) * q

/-- the point check of `ProofBobWC.Verify` (nothing to check without a point) -/
def BobPointOk (cfg : Cfg) (sess : Bytes) (n c1 c2 : Int) (pf : BobProof) : Option (ECPoint × ECPoint) → Prop
  | none => True
  | some (X, U) =>
    let e := bobChallenge C H sess n c1 c2 (some (X, U)) pf
    (cfg.bobWCGuards = true → (pf.s1 % (C.q : Int)).toNat ≠ 0 ∧ e ≠ 0) ∧
    ∃ g xe, C.ecBaseMult ((pf.s1 % (C.q : Int)).toNat : Int) = .ok g ∧ C.ecScalarMult X (e : Int) = .ok xe ∧
      C.ecAdd xe U = .ok g

theorem bobVerify_eq_true_iff (cfg : Cfg) (sess : Bytes) (n ntilde h1 h2 c1 c2 : Int) (pf : BobProof)
    (xu : Option (ECPoint × ECPoint)) :
    bobVerify C H cfg sess n ntilde h1 h2 c1 c2 pf xu = .ok true ↔
      BobGuards C.q n ntilde pf ∧ BobPointOk C H cfg sess n c1 c2 pf xu ∧
      bobTail (bobChallenge C H sess n c1 c2 xu pf) n ntilde h1 h2 c1 c2 pf = .ok true := by
  unfold bobVerify BobGuards bobTail
  simp only [Outcome.guard_false_eq_true, Bool.not_eq_true', Bool.not_eq_false, isInInterval_iff, bne_iff_ne, ne_eq,
    not_not, beq_iff_eq, not_lt, gt_iff_lt, and_assoc, and_congr_right_iff]
  intros
  cases xu with
  | none =>
    simp only [BobPointOk, true_and, Outcome.pure_eq, Outcome.ok_bind]
  | some p =>
    obtain ⟨X, U⟩ := p
    have hguard : ¬ (cfg.bobWCGuards && ((pf.s1 % (C.q : Int)).toNat == 0 ||
          bobChallenge C H sess n c1 c2 (some (X, U)) pf == 0)) = true ↔
        (cfg.bobWCGuards = true → (pf.s1 % (C.q : Int)).toNat ≠ 0 ∧
          bobChallenge C H sess n c1 c2 (some (X, U)) pf ≠ 0) := by
      simp only [Bool.and_eq_true, Bool.or_eq_true, beq_iff_eq, not_and, not_or, ne_eq]
    simp only [BobPointOk, Outcome.pure_eq, Outcome.ok_bind]
    constructor
    · intro h
      obtain ⟨hg, h⟩ := Outcome.guard_false_eq_true.1 h
      obtain ⟨g, hg1, h⟩ := Outcome.bind_eq_ok.1 h
      obtain ⟨xe, hxe, h⟩ := Outcome.bind_eq_ok.1 h
      cases hadd : C.ecAdd xe U with
      | ok xeu =>
        rw [hadd] at h
        cases heq : ecEquals g xeu with
        | false => simp only [heq] at h; cases h
        | true =>
          simp only [heq] at h
          obtain rfl := (Vss.ecEquals_iff _ _).1 heq
          exact ⟨⟨hguard.1 hg, g, xe, hg1, hxe, hadd⟩, h⟩
      | err t => rw [hadd] at h; cases h
      | panic t => rw [hadd] at h; cases h
    · rintro ⟨⟨hg, g, xe, hg1, hxe, hadd⟩, ht⟩
      rw [if_neg (hguard.2 hg), hg1, Outcome.ok_bind, hxe, Outcome.ok_bind, hadd]
      simp only [(Vss.ecEquals_iff g g).2 rfl]
      exact ht
end bob

section paillier
open Paillier

/-- no prime below 1000 divides `N`, `GenerateXs` found its 13 challenges, and `y_i^N = x_i mod N` for each -/
theorem proofVerify_eq_true_iff (cfg : ProofCfg) (H : HashFn) (pf : List Int) (pkN k : Int) (pub : ECPoint) :
    proofVerify cfg H pf pkN k pub = .ok true ↔
      smallPrimes.any (fun prm => pkN % (prm : Int) == 0) = false ∧
      ∃ xs, generateXs H proofIters k pkN pub = some xs ∧ pf.length = proofIters ∧
        ∀ i < proofIters, ∃ y, goExp (pf.getD i 0) pkN pkN.natAbs = some y ∧ (xs.getD i 0 : Int) % pkN = y := by
  unfold proofVerify
  cases smallPrimes.any fun prm => pkN % (prm : Int) == 0
  · cases generateXs H proofIters k pkN pub with
    | none => cases cfg.boundedXs <;> simp
    | some xs =>
      have hstep : ∀ i, (match goExp (pf.getD i 0) pkN pkN.natAbs with
          | some y => (xs.getD i 0 : Int) % pkN == (y : Int)
          | none => false) = true ↔
          ∃ y, goExp (pf.getD i 0) pkN pkN.natAbs = some y ∧ (xs.getD i 0 : Int) % pkN = y := fun i => by
        cases goExp (pf.getD i 0) pkN pkN.natAbs <;> simp
      simp only [Bool.false_eq_true, if_false, Option.some.injEq, true_and, exists_eq_left']
      by_cases hl : pf.length = proofIters
      · simp only [hl, bne_self_eq_false, Bool.false_eq_true, if_false, Outcome.ok.injEq, List.all_eq_true,
          List.mem_range, true_and]
        exact forall₂_congr fun i _ => hstep i
      · simp only [bne_iff_ne, ne_eq, hl, not_false_eq_true, if_true, reduceCtorEq, false_and]
  · simp
end paillier

end TssVerif.Zk
