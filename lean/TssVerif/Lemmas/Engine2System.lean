import TssVerif.Lemmas.Engine2Hist
/-! The closed two-committee system: `nOld` old-role and `nNew` new-role parties over the two tables of a
resharing protocol, a network that delivers only what has been emitted. Safety: an old member starts its final
round (erasing its share) and a new member starts its final round (saving key material) only after every new
member has emitted its final acknowledgement. -/
set_option autoImplicit false
namespace TssVerif.E2L
open TssVerif.Engine (Slot)
open TssVerif.Engine2

variable {P : Proto} {nOld nNew : Nat} {ka ks : Nat}

/-- state of the closed system; `logOld i` / `logNew i` are ghost fields: what has been delivered so far to old
member `i` / new member `i` -/
structure Sys2 where
  old : Nat → Party
  new : Nat → Party
  logOld : Nat → List Msg
  logNew : Nat → List Msg

def upd {α : Type} (f : Nat → α) (i : Nat) (a : α) : Nat → α := fun k => if k = i then a else f k

theorem upd_same {α : Type} (f : Nat → α) (i : Nat) (a : α) : upd f i a i = a := by simp [upd]
theorem upd_other {α : Type} (f : Nat → α) (i k : Nat) (a : α) (h : k ≠ i) : upd f i a k = f k := by simp [upd, h]

/-- the party with index `j` in the new (`c = true`) or old (`c = false`) committee -/
def Sys2.party (s : Sys2) (c : Bool) (j : Nat) : Party := if c then s.new j else s.old j

def Sys2.log (s : Sys2) (c : Bool) (j : Nat) : List Msg := if c then s.logNew j else s.logOld j

def csize (nOld nNew : Nat) (c : Bool) : Nat := if c then nNew else nOld

/-- the flag a genuine message of type `ty` carries: broadcast iff the type is emitted `once` (a type no table emits
counts as broadcast) -/
def flagOf2 (P : Proto) (ty : Nat) : Bool :=
  match ((P.old ++ P.new).flatMap (·.emits)).find? (fun e => e.1 == ty) with
  | some e => (match e.2 with | .once => true | _ => false)
  | none => true

/-- a genuine message: type `ty`, sender index `j`, the flag the tables prescribe, any payload -/
def mkMsg (P : Proto) (ty j payload : Nat) : Msg := ⟨ty, j, ⟨flagOf2 P ty, payload⟩⟩

def initSys (nOld nNew : Nat) : Sys2 :=
  { old := fun i => fresh nOld nNew false i, new := fun i => fresh nOld nNew true i,
    logOld := fun _ => [], logNew := fun _ => [] }

/-- states reachable in the closed system. Any member of either committee may be started at any time; the network
may deliver to any member `i` of either committee a message of any type `ty` that the member with index `j` of
committee `c` has emitted (`ty` is in its emission log), with the flag the tables prescribe — at any time (before
the recipient's `Start`, rounds early), any number of times, in any order.
`strict = true`: `Start` runs the advance loop whenever a message was stored before (`pre`, as the library does);
`strict = false`: `pre` is arbitrary. Unlike `EngineL.Reach` (`j ≠ i`) a member may be handed its own emission:
the invariants do not need the restriction, `Quiescent2` does not ask for such deliveries. -/
inductive Reach2 (P : Proto) (nOld nNew : Nat) (strict : Bool) : Sys2 → Prop
  | init : Reach2 P nOld nNew strict (initSys nOld nNew)
  | startOld (s : Sys2) (i : Nat) (pre : Bool) : Reach2 P nOld nNew strict s → i < nOld →
      (strict = true → s.logOld i ≠ [] → pre = true) →
      Reach2 P nOld nNew strict { s with old := upd s.old i (start P.old pre (s.old i)) }
  | startNew (s : Sys2) (i : Nat) (pre : Bool) : Reach2 P nOld nNew strict s → i < nNew →
      (strict = true → s.logNew i ≠ [] → pre = true) →
      Reach2 P nOld nNew strict { s with new := upd s.new i (start P.new pre (s.new i)) }
  | deliverOld (s : Sys2) (i : Nat) (c : Bool) (j ty payload : Nat) : Reach2 P nOld nNew strict s → i < nOld →
      j < csize nOld nNew c → ty ∈ (s.party c j).out →
      Reach2 P nOld nNew strict { s with
        old := upd s.old i (deliver P.old (mkMsg P ty j payload) (s.old i))
        logOld := upd s.logOld i (s.logOld i ++ [mkMsg P ty j payload]) }
  | deliverNew (s : Sys2) (i : Nat) (c : Bool) (j ty payload : Nat) : Reach2 P nOld nNew strict s → i < nNew →
      j < csize nOld nNew c → ty ∈ (s.party c j).out →
      Reach2 P nOld nNew strict { s with
        new := upd s.new i (deliver P.new (mkMsg P ty j payload) (s.new i))
        logNew := upd s.logNew i (s.logNew i ++ [mkMsg P ty j payload]) }

def OutSub (p q : Party) : Prop := ∀ ty, ty ∈ p.out → ty ∈ q.out

theorem outSub_moves (tbl : List RSpec) (p0 : Party) : Moves tbl (OutSub p0) where
  scan := by
    intro p r h _ _ _ ty hty
    rw [scan_out]; exact h ty hty
  adv := fun _ _ _ h _ _ _ _ _ _ hty => List.mem_append_left _ (h _ hty)
  fin := fun _ h _ _ _ => h

theorem outSub_deliver (tbl : List RSpec) (m : Msg) (p : Party) : OutSub p (deliver tbl m p) :=
  (outSub_moves tbl p).deliver m (fun _ h => h)

theorem outSub_start (tbl : List RSpec) (pre : Bool) (p : Party) : OutSub p (start tbl pre p) :=
  (outSub_moves tbl p).start pre (fun _ h => h) (fun _ _ _ _ hty => List.mem_append_left _ hty)

/-- `m` is a genuine message: some member of some committee has emitted its type, and the flag is the prescribed one -/
def Emitted (P : Proto) (nOld nNew : Nat) (s : Sys2) (m : Msg) : Prop :=
  ∃ c, m.frm < csize nOld nNew c ∧ m.ty ∈ (s.party c m.frm).out ∧ m.slot.flag = flagOf2 P m.ty

/-- invariant of one member -/
structure PInv (P : Proto) (nOld nNew : Nat) (s : Sys2) (c : Bool) (i : Nat) : Prop where
  cfgSelf : (s.party c i).self = i
  cfgOld : (s.party c i).nOld = nOld
  cfgNew : (s.party c i).nNew = nNew
  canon : Canon (tblOf P c) (s.party c i)
  hist : Hist (tblOf P c) (s.log c i) (s.party c i)
  emitted : ∀ m ∈ s.log c i, Emitted P nOld nNew s m

def SysInv (P : Proto) (nOld nNew : Nat) (s : Sys2) : Prop := ∀ c i, PInv P nOld nNew s c i

theorem Emitted.mono {s s' : Sys2} {m : Msg}
    (hsub : ∀ c j, OutSub (s.party c j) (s'.party c j)) (h : Emitted P nOld nNew s m) : Emitted P nOld nNew s' m := by
  obtain ⟨c, h1, h2, h3⟩ := h
  exact ⟨c, h1, hsub c m.frm _ h2, h3⟩

/-- member `(c, i)` moves to `q` and its log to `l` -/
def Sys2.set (s : Sys2) (c : Bool) (i : Nat) (q : Party) (l : List Msg) : Sys2 :=
  match c with
  | true => { s with new := upd s.new i q, logNew := upd s.logNew i l }
  | false => { s with old := upd s.old i q, logOld := upd s.logOld i l }

theorem Sys2.set_same (s : Sys2) (c : Bool) (i : Nat) (q : Party) (l : List Msg) :
    (s.set c i q l).party c i = q ∧ (s.set c i q l).log c i = l := by
  cases c <;> simp [Sys2.set, Sys2.party, Sys2.log, upd]

theorem Sys2.set_other (s : Sys2) (c : Bool) (i : Nat) (q : Party) (l : List Msg) (c' : Bool) (k : Nat)
    (h : ¬ (c' = c ∧ k = i)) : (s.set c i q l).party c' k = s.party c' k ∧ (s.set c i q l).log c' k = s.log c' k := by
  cases c <;> cases c' <;> simp [Sys2.set, Sys2.party, Sys2.log]
  · exact ⟨upd_other _ _ _ _ (fun e => h ⟨rfl, e⟩), upd_other _ _ _ _ (fun e => h ⟨rfl, e⟩)⟩
  · exact ⟨upd_other _ _ _ _ (fun e => h ⟨rfl, e⟩), upd_other _ _ _ _ (fun e => h ⟨rfl, e⟩)⟩

theorem upd_self_eq {α : Type} (f : Nat → α) (i : Nat) : upd f i (f i) = f := by
  funext k
  by_cases h : k = i
  · rw [h, upd_same]
  · rw [upd_other _ _ _ _ h]

/-- induction over the reachable states with the two committees treated alike: a member of committee `c` is
started, or a message emitted by member `(c, j)` is delivered to member `(c', i)` -/
theorem Reach2.induction_c {strict : Bool} {motive : Sys2 → Prop}
    (init : motive (initSys nOld nNew))
    (start : ∀ s c i pre, Reach2 P nOld nNew strict s → motive s → i < csize nOld nNew c →
      (strict = true → s.log c i ≠ [] → pre = true) →
      motive (s.set c i (Engine2.start (tblOf P c) pre (s.party c i)) (s.log c i)))
    (deliver : ∀ s c' i c j ty payload, Reach2 P nOld nNew strict s → motive s → i < csize nOld nNew c' →
      j < csize nOld nNew c → ty ∈ (s.party c j).out →
      motive (s.set c' i (Engine2.deliver (tblOf P c') (mkMsg P ty j payload) (s.party c' i))
        (s.log c' i ++ [mkMsg P ty j payload])))
    {s : Sys2} (h : Reach2 P nOld nNew strict s) : motive s := by
  induction h with
  | init => exact init
  | startOld s i pre hr hi hpre ih =>
    have := start s false i pre hr ih hi hpre
    simp only [Sys2.set, Sys2.log, Bool.false_eq_true, if_false, upd_self_eq] at this
    exact this
  | startNew s i pre hr hi hpre ih =>
    have := start s true i pre hr ih hi hpre
    simp only [Sys2.set, Sys2.log, if_true, upd_self_eq] at this
    exact this
  | deliverOld s i c j ty payload hr hi hj hty ih => exact deliver s false i c j ty payload hr ih hi hj hty
  | deliverNew s i c j ty payload hr hi hj hty ih => exact deliver s true i c j ty payload hr ih hi hj hty

theorem pinv_transition {s : Sys2} (c : Bool) (i : Nat) (q' : Party) (l' : List Msg)
    (hinv : SysInv P nOld nNew s)
    (hcfg : SameCfg (s.party c i) q')
    (hout : OutSub (s.party c i) q')
    (hcanon : Canon (tblOf P c) q')
    (hhist : Hist (tblOf P c) l' q')
    (hlog : ∀ m ∈ l', m ∈ s.log c i ∨ Emitted P nOld nNew s m) : SysInv P nOld nNew (s.set c i q' l') := by
  have hsub : ∀ c' j, OutSub (s.party c' j) ((s.set c i q' l').party c' j) := by
    intro c' j
    by_cases hc : c' = c ∧ j = i
    · rw [hc.1, hc.2, (s.set_same c i q' l').1]; exact hout
    · rw [(s.set_other c i q' l' c' j hc).1]; exact fun _ h => h
  intro c' k
  by_cases hc : c' = c ∧ k = i
  · obtain ⟨rfl, rfl⟩ := hc
    have h := hinv c' k
    obtain ⟨hq, hl⟩ := s.set_same c' k q' l'
    refine ⟨?_, ?_, ?_, ?_, ?_, ?_⟩
    · rw [hq, hcfg.2.2.2]; exact h.cfgSelf
    · rw [hq, hcfg.1]; exact h.cfgOld
    · rw [hq, hcfg.2.1]; exact h.cfgNew
    · rw [hq]; exact hcanon
    · rw [hq, hl]; exact hhist
    · intro m hm
      rw [hl] at hm
      exact (hlog m hm).elim (fun h1 => (h.emitted m h1).mono hsub) fun h1 => h1.mono hsub
  · have h := hinv c' k
    obtain ⟨e1, e2⟩ := s.set_other c i q' l' c' k hc
    refine ⟨?_, ?_, ?_, ?_, ?_, fun m hm => (h.emitted m (e2 ▸ hm)).mono hsub⟩
    · rw [e1]; exact h.cfgSelf
    · rw [e1]; exact h.cfgOld
    · rw [e1]; exact h.cfgNew
    · rw [e1]; exact h.canon
    · rw [e1, e2]; exact h.hist

theorem reach2_inv {strict : Bool} {s : Sys2} (h : Reach2 P nOld nNew strict s) :
    SysInv P nOld nNew s := by
  refine Reach2.induction_c ?_ ?_ ?_ h
  · intro c i
    cases c <;> exact ⟨rfl, rfl, rfl, canon_fresh _ _ _ _ _, hist_fresh _ _ _ _ _, fun _ h => by cases h⟩
  · intro s c i pre _ ih _ _
    have h := ih c i
    exact pinv_transition c i _ _ ih (sameCfg_start _ _ _) (outSub_start _ _ _) (canon_start pre h.canon)
      (hist_start pre h.hist) (fun m hm => Or.inl hm)
  · intro s c' i c j ty payload _ ih _ hj hty
    have h := ih c' i
    refine pinv_transition c' i _ _ ih (sameCfg_deliver _ _ _) (outSub_deliver _ _ _) (canon_deliver _ h.canon)
      (hist_deliver _ h.hist) fun m hm => ?_
    rcases List.mem_append.mp hm with hm | hm
    · exact Or.inl hm
    · rw [List.mem_singleton.mp hm]
      exact Or.inr ⟨c, hj, hty, rfl⟩

/-- whoever has had the final acknowledgement of new index `j` delivered: new member `j` has emitted it -/
theorem ack_delivered_was_emitted (F : AckFactsAt P ka ks) {s : Sys2}
    (hinv : SysInv P nOld nNew s) {c : Bool} {i j : Nat} (hd : Deliv (s.log c i) (finalAck P) j true) :
    j < nNew ∧ finalAck P ∈ (s.new j).out := by
  obtain ⟨m, hm, h1, h2, _⟩ := hd
  obtain ⟨c', hlt, hout, _⟩ := (hinv c i).emitted m hm
  rw [h1, h2] at hout
  rw [h2] at hlt
  cases c'
  · exact absurd hout (ack_not_in_out_old F (hinv false j).canon)
  · exact ⟨hlt, hout⟩

theorem erase_after_all_acks_inv (F : AckFactsAt P ka ks) {s : Sys2}
    (hinv : SysInv P nOld nNew s) {i : Nat} (he : (s.old i).ended = 1) :
    ∀ j, j < nNew → finalAck P ∈ (s.new j).out := by
  intro j hj
  have h := hinv false i
  have := old_final_acks F h.canon h.hist he j (by rw [h.cfgNew]; exact hj)
  exact (ack_delivered_was_emitted F hinv this).2

theorem save_after_all_acks_inv (F : AckFactsAt P ka ks) {s : Sys2}
    (hinv : SysInv P nOld nNew s) {i : Nat} (he : (s.new i).ended = 1) :
    ∀ j, j < nNew → finalAck P ∈ (s.new j).out := by
  intro j hj
  have h := hinv true i
  by_cases hji : j = i
  · subst hji
    have h5 := (ended_of_ackFacts F true h.canon).2.mp he
    exact (ack_in_out_iff F h.canon).mpr (by have : (s.party true j).rnd = ka + 2 := h5; omega)
  · have := new_final_acks F h.canon h.hist he j (by rw [h.cfgNew]; exact hj) (by rw [h.cfgSelf]; exact hji)
    exact (ack_delivered_was_emitted F hinv this).2

/-- a new member emits its final acknowledgement only after the share and the de-commitment of every old member
have been delivered to it — and those were emitted by the old members -/
theorem ack_after_shares_inv (F : AckFactsAt P ka ks) {s : Sys2}
    (hinv : SysInv P nOld nNew s) {i : Nat} (hack : finalAck P ∈ (s.new i).out) :
    ka + 1 ≤ (s.new i).rnd ∧ ∀ j, j < nOld →
      Deliv (s.logNew i) (shareTy P) j false ∧ Deliv (s.logNew i) (decomTy P) j true ∧
      shareTy P ∈ (s.old j).out ∧ decomTy P ∈ (s.old j).out := by
  have h := hinv true i
  have h4 : ka + 1 ≤ (s.new i).rnd := (ack_in_out_iff F h.canon).mp hack
  refine ⟨h4, ?_⟩
  intro j hj
  obtain ⟨d1, d2⟩ := new_ack_round_shares F h.hist h4 j (by rw [h.cfgOld]; exact hj)
  have hem : ∀ {ty : Nat} {fl : Bool}, (ty = shareTy P ∨ ty = decomTy P) → Deliv (s.logNew i) ty j fl →
      ty ∈ (s.old j).out := by
    intro ty fl hty hd
    obtain ⟨m, hm, h1, h2, _⟩ := hd
    obtain ⟨c', _, hout, _⟩ := h.emitted m hm
    rw [h1, h2] at hout
    cases c'
    · exact hout
    · have := share_not_in_out_new F (hinv true j).canon
      rcases hty with rfl | rfl
      · exact absurd hout this.1
      · exact absurd hout this.2
  exact ⟨d1, d2, hem (Or.inl rfl) d1, hem (Or.inr rfl) d2⟩

/-- a schedule as data: `exec` runs it, `reach2_exec` says the state is reachable, so `Reach2` witnesses for the
examples are obtained by evaluation -/
inductive Act where
  | startOld (i : Nat) (pre : Bool)
  | startNew (i : Nat) (pre : Bool)
  /-- deliver to old member `i` the message of type `ty` of member `j` of committee `c` -/
  | toOld (i : Nat) (c : Bool) (j ty payload : Nat)
  | toNew (i : Nat) (c : Bool) (j ty payload : Nat)

/-- perform an action if the system allows it (otherwise do nothing) -/
def execAct (P : Proto) (nOld nNew : Nat) (strict : Bool) (s : Sys2) : Act → Sys2
  | .startOld i pre =>
    if i < nOld ∧ (!strict || (s.logOld i).isEmpty || pre) = true then
      { s with old := upd s.old i (start P.old pre (s.old i)) } else s
  | .startNew i pre =>
    if i < nNew ∧ (!strict || (s.logNew i).isEmpty || pre) = true then
      { s with new := upd s.new i (start P.new pre (s.new i)) } else s
  | .toOld i c j ty payload =>
    if i < nOld ∧ j < csize nOld nNew c ∧ ty ∈ (s.party c j).out then
      { s with old := upd s.old i (deliver P.old (mkMsg P ty j payload) (s.old i))
               logOld := upd s.logOld i (s.logOld i ++ [mkMsg P ty j payload]) } else s
  | .toNew i c j ty payload =>
    if i < nNew ∧ j < csize nOld nNew c ∧ ty ∈ (s.party c j).out then
      { s with new := upd s.new i (deliver P.new (mkMsg P ty j payload) (s.new i))
               logNew := upd s.logNew i (s.logNew i ++ [mkMsg P ty j payload]) } else s

def exec (P : Proto) (nOld nNew : Nat) (strict : Bool) (acts : List Act) : Sys2 :=
  acts.foldl (execAct P nOld nNew strict) (initSys nOld nNew)

theorem strict_cond {strict pre : Bool} {l : List Msg} (h : (!strict || l.isEmpty || pre) = true) :
    strict = true → l ≠ [] → pre = true := by
  intro hs hl
  cases l with
  | nil => exact absurd rfl hl
  | cons a l => subst hs; simpa using h

theorem reach2_execAct {strict : Bool} {s : Sys2} (a : Act)
    (h : Reach2 P nOld nNew strict s) : Reach2 P nOld nNew strict (execAct P nOld nNew strict s a) := by
  cases a with
  | startOld i pre =>
    simp only [execAct]; split
    · rename_i hc; exact Reach2.startOld s i pre h hc.1 (strict_cond hc.2)
    · exact h
  | startNew i pre =>
    simp only [execAct]; split
    · rename_i hc; exact Reach2.startNew s i pre h hc.1 (strict_cond hc.2)
    · exact h
  | toOld i c j ty payload =>
    simp only [execAct]; split
    · rename_i hc; exact Reach2.deliverOld s i c j ty payload h hc.1 hc.2.1 hc.2.2
    · exact h
  | toNew i c j ty payload =>
    simp only [execAct]; split
    · rename_i hc; exact Reach2.deliverNew s i c j ty payload h hc.1 hc.2.1 hc.2.2
    · exact h

theorem reach2_exec (P : Proto) (nOld nNew : Nat) (strict : Bool) (acts : List Act) :
    Reach2 P nOld nNew strict (exec P nOld nNew strict acts) := by
  unfold exec
  suffices h : ∀ s, Reach2 P nOld nNew strict s →
      Reach2 P nOld nNew strict (acts.foldl (execAct P nOld nNew strict) s) from h _ Reach2.init
  induction acts with
  | nil => intro s h; exact h
  | cons a acts ih => intro s h; exact ih _ (reach2_execAct a h)

end TssVerif.E2L
