import TssVerif.Core.Blame
import TssVerif.Lemmas.BlameLoop
import TssVerif.Lemmas.CurveLaw
import TssVerif.Lemmas.VssVerify
import TssVerif.Lemmas.C17
import TssVerif.Lemmas.C10Schnorr
import TssVerif.Lemmas.C06
import TssVerif.Props.C10
import TssVerif.Props.C15
import TssVerif.Props.C16
import TssVerif.Props.C03
/-! Helper lemmas for `TssVerif/Props/C05.lean`: totality of `clear`, `kgRound3` as a round that names every
failing peer (`namingRound` of `Lemmas/BlameBase.lean`), the exact acceptance condition of `kgCheckPeer`, and
`sgRound3` as a sequential loop (`seqLoop`). -/
set_option autoImplicit false
namespace TssVerif.C05L
open TssVerif Blame C06L C05EcL C05SgL

section clear
variable {P : Type} {C : Curve P}

theorem onCurve_of_toAffine (hC : C.Lawful) {a : P} {r : ECPoint} (h : C.toAffine a = some r) :
    C.ecIsOnCurve r = true := C10L.ecIsOnCurve_of_lift (Vss.lift_of_toAffine hC h)

theorem ecScalarMult_ok_inv {a r : ECPoint} {k : Nat} (h : C.ecScalarMult a (k : Int) = .ok r) :
    ∃ pa, C.lift a = some pa ∧ C.toAffine (C.smul k pa) = some r := by
  unfold Curve.ecScalarMult at h
  cases hl : C.lift a with
  | none => rw [hl] at h; cases h
  | some pa =>
    rw [hl] at h
    simp only [Int.natAbs_natCast] at h
    cases hr : C.toAffine (C.smul k pa) with
    | none => rw [hr] at h; cases h
    | some r' =>
      rw [hr] at h
      injection h with h
      subst h
      exact ⟨pa, rfl, hr⟩

/-- `clear` in terms of the group: the result is the affine form of `cofInv • (cof • P)` -/
theorem clear_ok_iff (hC : C.Lawful) (cof cofInv : Nat) (a r : ECPoint) :
    clear C cof cofInv a = .ok r ↔
      ∃ pa, C.lift a = some pa ∧ (∃ e, C.toAffine (C.smul cof pa) = some e) ∧
        C.toAffine (C.smul cofInv (C.smul cof pa)) = some r := by
  unfold clear
  constructor
  · intro h
    obtain ⟨e, h1, h⟩ := Outcome.bind_eq_ok.1 h
    obtain ⟨pa, hpa, he⟩ := ecScalarMult_ok_inv h1
    obtain ⟨pe, hpe, hr⟩ := ecScalarMult_ok_inv h
    have : pe = C.smul cof pa := by
      have := Vss.lift_of_toAffine hC he
      rw [hpe] at this
      injection this
    subst this
    exact ⟨pa, hpa, ⟨e, he⟩, hr⟩
  · rintro ⟨pa, hpa, ⟨e, he⟩, hr⟩
    rw [C10L.ecScalarMult_nat_ok hpa he]
    simp only [Outcome.ok_bind]
    exact C10L.ecScalarMult_nat_ok (Vss.lift_of_toAffine hC he) hr

theorem clear_onCurve (hC : C.Lawful) {cof cofInv : Nat} {a r : ECPoint}
    (h : clear C cof cofInv a = .ok r) : C.ecIsOnCurve r = true := by
  obtain ⟨_, _, _, hr⟩ := (clear_ok_iff hC cof cofInv a r).1 h
  exact onCurve_of_toAffine hC hr

theorem mapM_clear_onCurve (hC : C.Lawful) {cof cofInv : Nat} {pts vs : List ECPoint}
    (h : pts.mapM (clear C cof cofInv) = .ok vs) : ∀ v ∈ vs, C.ecIsOnCurve v = true := by
  have hf := (mapM_ok_iff _ _ _).1 h
  clear h
  induction hf with
  | nil => intro v hv; cases hv
  | cons h1 _ ih =>
    intro v hv
    rcases List.mem_cons.1 hv with rfl | hv
    · exact clear_onCurve hC h1
    · exact ih v hv

theorem mapM_clear_length {cof cofInv : Nat} {pts vs : List ECPoint}
    (h : pts.mapM (clear C cof cofInv) = .ok vs) : vs.length = pts.length :=
  ((mapM_ok_iff _ _ _).1 h).length_eq.symm

theorem smul_ne_zero_of (hC : C.Lawful) {pa : P} (hq : C.smul C.q pa = C.zero) {k : Nat}
    (hk : k % C.q ≠ 0) (hne : pa ≠ C.zero) : C.smul k pa ≠ C.zero :=
  fun h => hne (hC.eq_zero_of_smul_eq_zero hq hk h)

theorem lift_ne_zero (hC : C.Lawful) {a : ECPoint} {pa : P} (hpa : C.lift a = some pa)
    (hz : C.toAffine C.zero = none) : pa ≠ C.zero := by
  intro h0
  have := hC.ofAffine_toAffine _ _ _ hpa
  rw [h0, hz] at this
  cases this

/-- **`clear` returns** on every point of the curve. On a curve whose identity has no affine form this needs
cofactor 1 (`hcof`) and `cof`, `cofInv` prime to `q` (`hnz`); on edwards25519 nothing. -/
theorem clear_total (hC : C.Lawful)
    (hcof : C.toAffine C.zero = none → ∀ p, C.smul C.q p = C.zero)
    {cof cofInv : Nat} (hnz : C.toAffine C.zero = none → cof % C.q ≠ 0 ∧ cofInv % C.q ≠ 0)
    {a : ECPoint} (ha : C.ecIsOnCurve a = true) : ∃ r, clear C cof cofInv a = .ok r := by
  obtain ⟨pa, hpa⟩ : ∃ pa, C.lift a = some pa := Option.isSome_iff_exists.1 ha
  have hne := lift_ne_zero hC hpa
  obtain ⟨e, he⟩ := C10L.toAffine_some_of hC (C.smul cof pa)
    (fun hz => smul_ne_zero_of hC (hcof hz pa) (hnz hz).1 (hne hz))
  obtain ⟨r, hr⟩ := C10L.toAffine_some_of hC (C.smul cofInv (C.smul cof pa))
    (fun hz => smul_ne_zero_of hC (hcof hz _) (hnz hz).2
      (smul_ne_zero_of hC (hcof hz pa) (hnz hz).1 (hne hz)))
  exact ⟨r, (clear_ok_iff hC cof cofInv a r).2 ⟨pa, hpa, ⟨e, he⟩, hr⟩⟩

theorem mapM_clear_total (hC : C.Lawful)
    (hcof : C.toAffine C.zero = none → ∀ p, C.smul C.q p = C.zero)
    {cof cofInv : Nat} (hnz : C.toAffine C.zero = none → cof % C.q ≠ 0 ∧ cofInv % C.q ≠ 0)
    {pts : List ECPoint} (h : ∀ a ∈ pts, C.ecIsOnCurve a = true) :
    ∃ vs, pts.mapM (clear C cof cofInv) = .ok vs :=
  mapM_total _ _ (fun a ha => clear_total hC hcof hnz (h a ha))

theorem smul_mod_of_order (hC : C.Lawful) {pa : P} (hq : C.smul C.q pa = C.zero) (k : Nat) :
    C.smul k pa = C.smul (k % C.q) pa := by
  conv_lhs => rw [← Nat.div_add_mod k C.q]
  rw [hC.smul_add, Nat.mul_comm, hC.smul_mul, hq, hC.smul_zero_right, hC.zero_add]

/-- **cofactor clearing is the identity on the prime-order subgroup**: `cof·cofInv ≡ 1 (mod q)` and
`q • P = 0` give `clear (affine P) = affine P` (the intermediate affine form exists automatically) -/
theorem clear_id_of_order (hC : C.Lawful) {cof cofInv : Nat} (hinv : cof * cofInv ≡ 1 [MOD C.q])
    {pa : P} {a : ECPoint} (hP : C.toAffine pa = some a) (hq : C.smul C.q pa = C.zero) :
    clear C cof cofInv a = .ok a := by
  have h1 : 1 % C.q = 1 := Nat.mod_eq_of_lt hC.one_lt_q
  have hcofnz : cof % C.q ≠ 0 := by
    intro h0
    have : (cof * cofInv) % C.q = 0 := by rw [Nat.mul_mod, h0, Nat.zero_mul, Nat.zero_mod]
    have h2 : (cof * cofInv) % C.q = 1 := by rw [hinv, h1]
    omega
  have hne : C.toAffine C.zero = none → pa ≠ C.zero := by
    intro hz h0
    rw [h0, hz] at hP
    cases hP
  obtain ⟨e, he⟩ := C10L.toAffine_some_of hC (C.smul cof pa)
    (fun hz => smul_ne_zero_of hC hq hcofnz (hne hz))
  have hback : C.smul cofInv (C.smul cof pa) = pa := by
    rw [← hC.smul_mul, smul_mod_of_order hC hq, Nat.mul_comm, hinv, h1, hC.smul_one]
  exact (clear_ok_iff hC cof cofInv a a).2
    ⟨pa, Vss.lift_of_toAffine hC hP, ⟨e, he⟩, by rw [hback]; exact hP⟩

end clear

section schnorr
variable {P : Type} {C : Curve P}

/-- past the guards of `Zk.cur` (`t`, `c ≢ 0`) `t·G` has an affine form, and so has `c·X` (by `hcof` it is not the identity
where that has none); `ecAdd` may still report an error, which the verifier answers with "rejected" -/
theorem schnorrVerify_total (hC : C.Lawful)
    (hcof : C.toAffine C.zero = none → ∀ p, C.smul C.q p = C.zero)
    (H : HashFn) (sess : Bytes) (X alpha : ECPoint) (t : Nat) (hX : C.ecIsOnCurve X = true) :
    ∃ b, Zk.schnorrVerify C H Zk.cur sess X alpha t = .ok b := by
  unfold Zk.schnorrVerify
  dsimp only
  split
  · exact ⟨false, rfl⟩
  · rename_i hg
    simp only [Zk.cur, Bool.true_and, Bool.or_eq_true, beq_iff_eq, not_or] at hg
    obtain ⟨ht, hc⟩ := hg
    have hclt := C10L.schnorrChallenge_lt hC H sess X alpha
    have hcq : Zk.schnorrChallenge C H sess X alpha % C.q ≠ 0 := by
      rw [Nat.mod_eq_of_lt hclt]; exact hc
    obtain ⟨tG, htG⟩ := Vss.toAffine_smul_base_isSome hC ht
    obtain ⟨pX, hpX⟩ : ∃ pX, C.lift X = some pX := Option.isSome_iff_exists.1 hX
    obtain ⟨xc, hxc⟩ := C10L.toAffine_some_of hC (C.smul (Zk.schnorrChallenge C H sess X alpha) pX)
      (fun hz => smul_ne_zero_of hC (hcof hz pX) hcq (lift_ne_zero hC hpX hz))
    rw [C10L.ecBaseMult_nat_ok htG, C10L.ecScalarMult_nat_ok hpX hxc]
    simp only [Outcome.ok_bind]
    have := C17L.ecAdd_total C alpha xc
    generalize C.ecAdd alpha xc = o at this ⊢
    cases o with
    | ok r => exact ⟨_, rfl⟩
    | err e => exact ⟨_, rfl⟩
    | panic e => cases this

end schnorr

section kg
variable {P : Type} (C : Curve P) (H : HashFn)

/-- the verdict "this peer failed a check" -/
def badKg : PeerVerdict → Bool
  | .bad _ => true
  | .ok _ => false

theorem ok_badKg_iff {o : Outcome PeerVerdict} :
    (∃ v, o = .ok v ∧ badKg v = true) ↔ ∃ why, o = .ok (.bad why) :=
  ⟨fun ⟨v, hv, hb⟩ => by cases v with | ok _ => cases hb | bad why => exact ⟨why, hv⟩,
    fun ⟨why, hw⟩ => ⟨_, hw, rfl⟩⟩

theorem kgRound3_eq (zcfg : Zk.Cfg) (vcfg : Vss.VerifyCfg) (lenGuard : Bool) (cof cofInv threshold ownId
    ownShare : Nat) (ssid : Bytes) (peers : List KgPeer) :
    kgRound3 C H zcfg vcfg lenGuard cof cofInv threshold ownId ownShare ssid peers =
      namingRound (·.idx) badKg (kgCheckPeer C H zcfg vcfg lenGuard cof cofInv threshold ownId ssid)
        (fun cs _ => ⟨cs, (peers.foldl (fun acc p => acc + p.share) ownShare) % C.q⟩) peers := by
  unfold kgRound3 namingRound zipNamed
  dsimp only
  congr 1
  funext vs
  congr 3
  funext ⟨p, v⟩
  cases v <;> rfl

theorem foldl_share (peers : List KgPeer) (s : Nat) :
    peers.foldl (fun acc p => acc + p.share) s = s + (peers.map (·.share)).sum := by
  induction peers generalizing s with
  | nil => simp
  | cons p ps ih => rw [List.foldl_cons, ih, List.map_cons, List.sum_cons]; omega

/-- **the result of `kgRound3`**, when it returns one: every per-peer check returned a verdict, the culprits
are the indices of the peers whose verdict is `.bad`, in peer order, and `xi` is the reduced sum -/
theorem kgRound3_ok (zcfg : Zk.Cfg) (vcfg : Vss.VerifyCfg) (lenGuard : Bool) (cof cofInv threshold ownId
    ownShare : Nat) (ssid : Bytes) (peers : List KgPeer) (res : KgResult)
    (h : kgRound3 C H zcfg vcfg lenGuard cof cofInv threshold ownId ownShare ssid peers = .ok res) :
    (∀ p ∈ peers, ∃ v, kgCheckPeer C H zcfg vcfg lenGuard cof cofInv threshold ownId ssid p = .ok v) ∧
    res.culprits = named (·.idx) badKg (kgCheckPeer C H zcfg vcfg lenGuard cof cofInv threshold ownId ssid) peers ∧
    res.xi = (ownShare + (peers.map (·.share)).sum) % C.q := by
  rw [kgRound3_eq, namingRound_ok_iff] at h
  obtain ⟨vs, hvs, rfl⟩ := h
  exact ⟨forall₂_left hvs, rfl, by rw [foldl_share]⟩

theorem kgRound3_no_panic_of (zcfg : Zk.Cfg) (vcfg : Vss.VerifyCfg) (lenGuard : Bool) (cof cofInv threshold
    ownId ownShare : Nat) (ssid : Bytes) (peers : List KgPeer)
    (h : ∀ p ∈ peers, ∀ t, kgCheckPeer C H zcfg vcfg lenGuard cof cofInv threshold ownId ssid p ≠ .panic t)
    (t : String) :
    kgRound3 C H zcfg vcfg lenGuard cof cofInv threshold ownId ownShare ssid peers ≠ .panic t := by
  rw [kgRound3_eq]
  exact namingRound_noPanic _ _ _ _ peers h t

/-- what `kgCheckPeer` does once the commitment points are decoded and cleared -/
def kgTail (zcfg : Zk.Cfg) (vcfg : Vss.VerifyCfg) (lenGuard : Bool) (threshold ownId : Nat) (ssid : Bytes)
    (p : KgPeer) (vs : List ECPoint) : Outcome PeerVerdict :=
  if lenGuard && vs.length != threshold + 1 then .ok (.bad "wrong number of commitment points") else
  match vs with
  | [] => .panic "index-out-of-range"
  | v0 :: _ =>
    match C.ecNew p.alpha.1 p.alpha.2 with
    | none => .ok (.bad "failed to unmarshal schnorr proof")
    | some al =>
      Zk.schnorrVerify C H zcfg (contextJ ssid p.idx) v0 al p.t >>= fun okS =>
      if !okS then .ok (.bad "failed to prove schnorr proof") else
      Vss.verify C vcfg threshold ⟨threshold, ownId, p.share⟩ vs >>= fun okV =>
      if !okV then .ok (.bad "vss verify failed") else .ok (.ok vs)

variable (zcfg : Zk.Cfg) (vcfg : Vss.VerifyCfg) (lenGuard : Bool) (cof cofInv threshold ownId : Nat)
  (ssid : Bytes) (p : KgPeer)

theorem kgCheckPeer_eq :
    kgCheckPeer C H zcfg vcfg lenGuard cof cofInv threshold ownId ssid p =
      decommitWith H p.commitment (p.decommitment.map Int.ofNat) >>= fun o =>
        match o with
        | none => .ok (.bad "de-commitment verify failed")
        | some flat =>
          match C.unflatten (flat.map Int.toNat) with
          | none => .ok (.bad "unflatten")
          | some pts =>
            pts.mapM (clear C cof cofInv) >>= kgTail C H zcfg vcfg lenGuard threshold ownId ssid p := by
  unfold kgCheckPeer
  cases decommitWith H p.commitment (p.decommitment.map Int.ofNat) with
  | ok o => cases o <;> rfl
  | err e => rfl
  | panic t => rfl

theorem kgCheckPeer_points (flat : List Int) (pts : List ECPoint)
    (h : decommitWith H p.commitment (p.decommitment.map Int.ofNat) = .ok (some flat))
    (hu : C.unflatten (flat.map Int.toNat) = some pts) :
    kgCheckPeer C H zcfg vcfg lenGuard cof cofInv threshold ownId ssid p =
      pts.mapM (clear C cof cofInv) >>= kgTail C H zcfg vcfg lenGuard threshold ownId ssid p := by
  rw [kgCheckPeer_eq, h]
  simp only [Outcome.ok_bind, hu]

theorem kgTail_wrong_length {vs : List ECPoint} (hg : lenGuard = true) (hl : vs.length ≠ threshold + 1) :
    kgTail C H zcfg vcfg lenGuard threshold ownId ssid p vs =
      .ok (.bad "wrong number of commitment points") := by
  unfold kgTail
  rw [if_pos (by simp [hg, hl])]

theorem kgTail_cons {v0 : ECPoint} {rest : List ECPoint}
    (hl : lenGuard = true → (v0 :: rest).length = threshold + 1) :
    kgTail C H zcfg vcfg lenGuard threshold ownId ssid p (v0 :: rest) =
      match C.ecNew p.alpha.1 p.alpha.2 with
      | none => .ok (.bad "failed to unmarshal schnorr proof")
      | some al =>
        Zk.schnorrVerify C H zcfg (contextJ ssid p.idx) v0 al p.t >>= fun okS =>
        if !okS then .ok (.bad "failed to prove schnorr proof") else
        Vss.verify C vcfg threshold ⟨threshold, ownId, p.share⟩ (v0 :: rest) >>= fun okV =>
        if !okV then .ok (.bad "vss verify failed") else .ok (.ok (v0 :: rest)) := by
  unfold kgTail
  rw [if_neg (by cases lenGuard with | false => simp | true => simp [hl rfl])]

theorem kgTail_nil_panics (hl : lenGuard = false) :
    kgTail C H zcfg vcfg lenGuard threshold ownId ssid p [] = .panic "index-out-of-range" := by
  subst hl; rfl

/-- the points a passing peer is accepted with, and everything that was checked on them -/
structure KgAccepted (vs : List ECPoint) : Prop where
  len : lenGuard = true → vs.length = threshold + 1
  schnorr : ∃ v0 rest al, vs = v0 :: rest ∧ C.ecNew p.alpha.1 p.alpha.2 = some al ∧
    Zk.schnorrVerify C H zcfg (contextJ ssid p.idx) v0 al p.t = .ok true
  share : Vss.verify C vcfg threshold ⟨threshold, ownId, p.share⟩ vs = .ok true

theorem kgTail_ok_iff (vs ws : List ECPoint) :
    kgTail C H zcfg vcfg lenGuard threshold ownId ssid p vs = .ok (.ok ws) ↔
      ws = vs ∧ KgAccepted C H zcfg vcfg lenGuard threshold ownId ssid p vs := by
  constructor
  · intro h
    have hl : lenGuard = true → vs.length = threshold + 1 := by
      intro hg
      by_contra hne
      rw [kgTail_wrong_length C H zcfg vcfg lenGuard threshold ownId ssid p hg hne] at h
      cases h
    cases vs with
    | nil =>
      cases lenGuard with
      | false => cases h
      | true => cases hl rfl
    | cons v0 rest =>
      rw [kgTail_cons C H zcfg vcfg lenGuard threshold ownId ssid p hl] at h
      cases ha : C.ecNew p.alpha.1 p.alpha.2 with
      | none => rw [ha] at h; cases h
      | some al =>
        rw [ha] at h
        obtain ⟨okS, hs, h⟩ := Outcome.bind_eq_ok.1 h
        cases okS with
        | false => cases h
        | true =>
          obtain ⟨okV, hv, h⟩ := Outcome.bind_eq_ok.1 h
          cases okV with
          | false => cases h
          | true =>
            injection h with h
            injection h with h
            exact ⟨h.symm, hl, ⟨v0, rest, al, rfl, ha, hs⟩, hv⟩
  · rintro ⟨rfl, hl, ⟨v0, rest, al, rfl, ha, hs⟩, hv⟩
    rw [kgTail_cons C H zcfg vcfg lenGuard threshold ownId ssid p hl, ha]
    simp only [hs, hv, Outcome.ok_bind]
    rfl

theorem kgCheckPeer_ok_iff (vs : List ECPoint) :
    kgCheckPeer C H zcfg vcfg lenGuard cof cofInv threshold ownId ssid p = .ok (.ok vs) ↔
      ∃ flat pts, decommitWith H p.commitment (p.decommitment.map Int.ofNat) = .ok (some flat) ∧
        C.unflatten (flat.map Int.toNat) = some pts ∧
        pts.mapM (clear C cof cofInv) = .ok vs ∧
        KgAccepted C H zcfg vcfg lenGuard threshold ownId ssid p vs := by
  rw [kgCheckPeer_eq, Outcome.bind_eq_ok]
  constructor
  · rintro ⟨o, hd, h⟩
    cases o with
    | none => cases h
    | some flat =>
      dsimp only at h
      cases hu : C.unflatten (flat.map Int.toNat) with
      | none => rw [hu] at h; cases h
      | some pts =>
        rw [hu] at h
        obtain ⟨ws, hm, h⟩ := Outcome.bind_eq_ok.1 h
        obtain ⟨rfl, hacc⟩ := (kgTail_ok_iff C H zcfg vcfg lenGuard threshold ownId ssid p ws vs).1 h
        exact ⟨flat, pts, hd, hu, hm, hacc⟩
  · rintro ⟨flat, pts, hd, hu, hm, hacc⟩
    refine ⟨some flat, hd, ?_⟩
    simp only [hu]
    exact Outcome.bind_eq_ok.2 ⟨vs, hm, (kgTail_ok_iff C H zcfg vcfg lenGuard threshold ownId ssid p vs vs).2 ⟨rfl, hacc⟩⟩

end kg

section honest
variable {P : Type} {C : Curve P}

theorem map_toNat_ofNat (l : List Nat) : (l.map Int.ofNat).map Int.toNat = l := by
  rw [List.map_map]
  conv_rhs => rw [← List.map_id l]
  apply List.map_congr_left
  intro a _
  rfl

theorem schnorrProve_alpha_onCurve (hC : C.Lawful) (H : HashFn) (sess : Bytes) (x : Int) (X : ECPoint)
    (a : Nat) (al : ECPoint) (t : Nat) (h : Zk.schnorrProve C H sess x X a = .ok (al, t)) :
    C.ecIsOnCurve al = true := by
  unfold Zk.schnorrProve at h
  split at h
  · cases h
  · obtain ⟨r, hb, h⟩ := Outcome.bind_eq_ok.1 h
    injection h with h
    injection h with h1 _
    subst h1
    unfold Curve.ecBaseMult at hb
    cases hr : C.toAffine (C.smul (a : Int).natAbs C.base) with
    | none => rw [hr] at hb; cases hb
    | some r' =>
      rw [hr] at hb
      injection hb with hb
      subst hb
      exact onCurve_of_toAffine hC hr

/-- an honest Schnorr proof with a good coin: the prover returns `(al, t)`, `al` is a curve point as sent, and the
verifier of the current tree accepts (`C10.schnorr_complete_nat`) -/
theorem schnorrProve_accepted (hC : C.Lawful) (H : HashFn) (sess : Bytes) (x : Nat) (X : ECPoint) (coin : Nat)
    (hX : C.toAffine (C.smul x C.base) = some X) (hgood : C10L.SchnorrGood C H sess (x : Int) X coin) :
    ∃ al t, Zk.schnorrProve C H sess (x : Int) X coin = .ok (al, t) ∧ C.ecNew al.1 al.2 = some al ∧
      Zk.schnorrVerify C H Zk.cur sess X al t = .ok true := by
  have hsc := C10.schnorr_complete_nat hC H sess x X coin hX hgood
  cases hp : Zk.schnorrProve C H sess (x : Int) X coin with
  | err e => rw [hp] at hsc; cases hsc
  | panic e => rw [hp] at hsc; cases hsc
  | ok pf =>
    obtain ⟨al, t⟩ := pf
    rw [hp] at hsc
    exact ⟨al, t, rfl, C17L.ecNew_of_onCurve C (schnorrProve_alpha_onCurve hC H _ _ _ _ al t hp), hsc⟩

end honest

section consistent
variable {P : Type} {C : Curve P} (H : HashFn)
variable (zcfg : Zk.Cfg) (vcfg : Vss.VerifyCfg) (lenGuard : Bool) (cof cofInv threshold ownId ownShare : Nat)
  (ssid : Bytes)

theorem kgRound3_no_culprits (peers : List KgPeer) (res : KgResult)
    (h : kgRound3 C H zcfg vcfg lenGuard cof cofInv threshold ownId ownShare ssid peers = .ok res)
    (hnil : res.culprits = []) :
    ∀ p ∈ peers, ∃ vs, kgCheckPeer C H zcfg vcfg lenGuard cof cofInv threshold ownId ssid p = .ok (.ok vs) := by
  obtain ⟨hall, hc, _⟩ := kgRound3_ok C H zcfg vcfg lenGuard cof cofInv threshold ownId ownShare ssid peers res h
  intro p hp
  obtain ⟨v, hv⟩ := hall p hp
  cases v with
  | ok vs => exact ⟨vs, hv⟩
  | bad why =>
    exfalso
    have : p.idx ∈ res.culprits := by
      rw [hc]
      exact (mem_named _ _ _ peers _).2 ⟨p, hp, rfl, _, hv, rfl⟩
    rw [hnil] at this
    cases this

/-- the share each dealer (`none` = the party itself) gave to the party -/
def kgShareOf : Option KgPeer → Vss.Share
  | none => ⟨threshold, ownId, ownShare⟩
  | some p => ⟨threshold, ownId, p.share⟩

/-- the commitment points each dealer is accepted with (`[]` for a peer that was not accepted) -/
def kgPointsOf (chk : KgPeer → Outcome PeerVerdict) (ownVs : List ECPoint) : Option KgPeer → List ECPoint
  | none => ownVs
  | some p => match chk p with
    | .ok (.ok vs) => vs
    | _ => []

theorem sum_shares (peers : List KgPeer) :
    ((none :: peers.map some).map fun i => (kgShareOf threshold ownId ownShare i).share).sum =
      ownShare + (peers.map (·.share)).sum := by
  rw [List.map_cons, List.sum_cons, List.map_map]
  rfl

/-- the dealers are `none` (the party itself, with `ownVs`, `ownShare`) and `some p` for the peers; `kgPointsOf` gives the
points each was accepted with -/
theorem kgRound3_consistent (hC : C.Lawful) (peers : List KgPeer) (res : KgResult)
    (h : kgRound3 C H zcfg vcfg lenGuard cof cofInv threshold ownId ownShare ssid peers = .ok res)
    (hnil : res.culprits = []) (ownVs : List ECPoint)
    (hown : Vss.verify C vcfg threshold ⟨threshold, ownId, ownShare⟩ ownVs = .ok true) :
    C.smul res.xi C.base =
      AlgL.pubShare C (AlgL.combined C (none :: peers.map some) fun i c =>
        ((kgPointsOf (kgCheckPeer C H zcfg vcfg lenGuard cof cofInv threshold ownId ssid) ownVs i).map
          (AlgL.liftD C)).getD c C.zero) threshold ownId := by
  have hpass := kgRound3_no_culprits H zcfg vcfg lenGuard cof cofInv threshold ownId ownShare ssid peers res h hnil
  obtain ⟨_, _, hxi⟩ := kgRound3_ok C H zcfg vcfg lenGuard cof cofInv threshold ownId ownShare ssid peers res h
  have key := (C03.verify_accept_implies_consistent hC vcfg (none :: peers.map some) threshold ownId
    (kgShareOf threshold ownId ownShare)
    (kgPointsOf (kgCheckPeer C H zcfg vcfg lenGuard cof cofInv threshold ownId ssid) ownVs)
    (fun i _ => by cases i <;> rfl)
    (by
      intro i hi
      cases i with
      | none => exact hown
      | some p =>
        have hp : p ∈ peers := by
          rcases List.mem_cons.1 hi with h0 | h0
          · cases h0
          · obtain ⟨p', hp', he⟩ := List.mem_map.1 h0
            injection he with he
            subst he
            exact hp'
        obtain ⟨vs, hvs⟩ := hpass p hp
        have hacc := ((kgCheckPeer_ok_iff C H zcfg vcfg lenGuard cof cofInv threshold ownId ssid p vs).1 hvs)
        obtain ⟨_, _, _, _, _, hacc⟩ := hacc
        have e : kgPointsOf (kgCheckPeer C H zcfg vcfg lenGuard cof cofInv threshold ownId ssid) ownVs
            (some p) = vs := by
          simp only [kgPointsOf, hvs]
        rw [e]
        exact hacc.share)).2
  rw [sum_shares] at key
  rw [hxi]
  exact key

end consistent

section poly
variable {P : Type} {C : Curve P}

/-- an accepted share lies on the polynomial its row commits to (`C15.vss_verify_sound`) -/
theorem accepted_on_polynomial (hC : C.Lawful) (t' ownId share : Nat) (vs : List ECPoint)
    (hv : Vss.verify C ⟨true⟩ t' ⟨t', ownId, share⟩ vs = .ok true)
    (as : List Nat) (hcom : Vss.IsCommitment C as vs) :
    as.length = t' + 1 ∧ ownId % C.q ≠ 0 ∧ share % C.q ≠ 0 ∧ Vss.polyNat as ownId ≡ share [MOD C.q] := by
  have hlen : as.length = t' + 1 := by
    rw [hcom.length_eq]
    by_contra hne
    rw [Vss.verify_unfold, if_pos (by simp [hne])] at hv
    cases hv
  obtain ⟨_, h2, h3, h4⟩ := C15.vss_verify_sound hC as vs hcom t' hlen _ hv
  exact ⟨hlen, h2, h3, h4⟩

end poly

section sg
variable {P : Type} (C : Curve P) (H : HashFn)
variable (zcfg : Zk.Cfg) (blameDecommit errFirst : Bool) (cof cofInv : Nat) (ssid : Bytes)

/-- the loop body as a step of `seqLoop`: a rejected peer stops the loop -/
def sgStep (p : SgPeer) : Outcome (Option (Nat × Bool) ⊕ Unit) :=
  sgCheckPeer C H zcfg blameDecommit errFirst cof cofInv ssid p >>= fun v =>
    match v with
    | .bad _ blamed => .ok (.inl (some (p.idx, blamed)))
    | .ok _ => .ok (.inr ())

theorem sgRound3_eq (peers : List SgPeer) :
    sgRound3 C H zcfg blameDecommit errFirst cof cofInv ssid peers =
      seqLoop (fun _ => sgStep C H zcfg blameDecommit errFirst cof cofInv ssid) (fun _ => .ok none) () peers := by
  induction peers with
  | nil => rfl
  | cons p rest ih =>
    rw [sgRound3, seqLoop, ih]
    unfold sgStep
    cases sgCheckPeer C H zcfg blameDecommit errFirst cof cofInv ssid p with
    | ok v => cases v <;> rfl
    | err e => rfl
    | panic t => rfl

theorem sgStep_go_iff (p : SgPeer) :
    sgStep C H zcfg blameDecommit errFirst cof cofInv ssid p = .ok (.inr ()) ↔
      ∃ r, sgCheckPeer C H zcfg blameDecommit errFirst cof cofInv ssid p = .ok (.ok r) := by
  unfold sgStep
  cases sgCheckPeer C H zcfg blameDecommit errFirst cof cofInv ssid p with
  | ok v => cases v <;> simp
  | err e => simp
  | panic t => simp

theorem sgStep_halt_ok_iff (p : SgPeer) (o : Option (Nat × Bool)) :
    halt (sgStep C H zcfg blameDecommit errFirst cof cofInv ssid p) = some (.ok o) ↔
      ∃ why b, sgCheckPeer C H zcfg blameDecommit errFirst cof cofInv ssid p = .ok (.bad why b) ∧
        o = some (p.idx, b) := by
  unfold sgStep
  cases sgCheckPeer C H zcfg blameDecommit errFirst cof cofInv ssid p with
  | ok v =>
    cases v with
    | ok r => simp [halt]
    | bad w bl =>
      show (some (Outcome.ok (some (p.idx, bl))) = some (.ok o)) ↔ _
      constructor
      · intro h; injection h with h; injection h with h; exact ⟨w, bl, rfl, h.symm⟩
      · rintro ⟨w', b', hw, rfl⟩; injection hw with hw; injection hw with _ hb; rw [hb]
  | err e => simp [halt]
  | panic t => simp [halt]

variable (p : SgPeer)

/-- what `sgCheckPeer` does once the nonce point `rj0` is decoded -/
def sgTail (rj0 : ECPoint) : Outcome SgVerdict :=
  clear C cof cofInv rj0 >>= fun rj =>
  match C.ecNew p.alpha.1 p.alpha.2 with
  | none => .ok (.bad "failed to unmarshal Rj proof" true)
  | some al =>
    Zk.schnorrVerify C H zcfg (contextJ ssid p.idx) rj al p.t >>= fun okS =>
    if !okS then .ok (.bad "failed to prove Rj" true) else .ok (.ok rj)

theorem sgCheckPeer_eq :
    sgCheckPeer C H zcfg blameDecommit errFirst cof cofInv ssid p =
      decommitWith H p.commitment (p.decommitment.map Int.ofNat) >>= fun o =>
        match o with
        | none => .ok (.bad "de-commitment verify failed" blameDecommit)
        | some [x, y] =>
          match C.ecNew x.toNat y.toNat with
          | none => if errFirst then .ok (.bad "NewECPoint(Rj)" true) else .panic "nil-Rj"
          | some rj0 => sgTail C H zcfg cof cofInv ssid p rj0
        | some _ => .ok (.bad "length of de-commitment should be 2" blameDecommit) := by
  unfold sgCheckPeer
  cases decommitWith H p.commitment (p.decommitment.map Int.ofNat) with
  | err e => rfl
  | panic t => rfl
  | ok o =>
    match o with
    | none => rfl
    | some [] => rfl
    | some [_] => rfl
    | some [_, _] => rfl
    | some (_ :: _ :: _ :: _) => rfl

theorem sgCheckPeer_coords (x y : Int)
    (h : decommitWith H p.commitment (p.decommitment.map Int.ofNat) = .ok (some [x, y])) :
    sgCheckPeer C H zcfg blameDecommit errFirst cof cofInv ssid p =
      match C.ecNew x.toNat y.toNat with
      | none => if errFirst then .ok (.bad "NewECPoint(Rj)" true) else .panic "nil-Rj"
      | some rj0 => sgTail C H zcfg cof cofInv ssid p rj0 := by
  rw [sgCheckPeer_eq, h]
  rfl

theorem sgCheckPeer_off_curve (x y : Int)
    (h : decommitWith H p.commitment (p.decommitment.map Int.ofNat) = .ok (some [x, y]))
    (hn : C.ecNew x.toNat y.toNat = none) :
    sgCheckPeer C H zcfg blameDecommit errFirst cof cofInv ssid p =
      if errFirst then .ok (.bad "NewECPoint(Rj)" true) else .panic "nil-Rj" := by
  rw [sgCheckPeer_coords C H zcfg blameDecommit errFirst cof cofInv ssid p x y h, hn]

theorem sgTail_ok_iff (rj0 rj : ECPoint) :
    sgTail C H zcfg cof cofInv ssid p rj0 = .ok (.ok rj) ↔
      ∃ al, clear C cof cofInv rj0 = .ok rj ∧ C.ecNew p.alpha.1 p.alpha.2 = some al ∧
        Zk.schnorrVerify C H zcfg (contextJ ssid p.idx) rj al p.t = .ok true := by
  unfold sgTail
  rw [Outcome.bind_eq_ok]
  constructor
  · rintro ⟨rj', hc, h⟩
    cases ha : C.ecNew p.alpha.1 p.alpha.2 with
    | none => rw [ha] at h; cases h
    | some al =>
      rw [ha] at h
      obtain ⟨okS, hs, h⟩ := Outcome.bind_eq_ok.1 h
      cases okS with
      | false => cases h
      | true =>
        injection h with h
        injection h with h
        subst h
        exact ⟨al, hc, rfl, hs⟩
  · rintro ⟨al, hc, ha, hs⟩
    refine ⟨rj, hc, ?_⟩
    rw [ha]
    simp only [hs, Outcome.ok_bind]
    rfl

theorem sgTail_bad_true (rj0 : ECPoint) (why : String) (b : Bool)
    (h : sgTail C H zcfg cof cofInv ssid p rj0 = .ok (.bad why b)) : b = true := by
  unfold sgTail at h
  obtain ⟨rj, _, h⟩ := Outcome.bind_eq_ok.1 h
  cases ha : C.ecNew p.alpha.1 p.alpha.2 with
  | none => rw [ha] at h; injection h with h; injection h with _ h; exact h.symm
  | some al =>
    rw [ha] at h
    obtain ⟨okS, _, h⟩ := Outcome.bind_eq_ok.1 h
    cases okS with
    | true => cases h
    | false => injection h with h; injection h with _ h; exact h.symm

/-- **D1 repaired**: with `blameDecommit` and `errFirst` every failure verdict names the sender -/
theorem sgCheckPeer_bad_blamed (why : String) (b : Bool)
    (h : sgCheckPeer C H zcfg true true cof cofInv ssid p = .ok (.bad why b)) : b = true := by
  rw [sgCheckPeer_eq, Outcome.bind_eq_ok] at h
  obtain ⟨o, _, h⟩ := h
  split at h
  · injection h with h; injection h with _ h; exact h.symm
  · split at h
    · injection h with h; injection h with _ h; exact h.symm
    · exact sgTail_bad_true C H zcfg cof cofInv ssid p _ why b h
  · injection h with h; injection h with _ h; exact h.symm

theorem sgCheckPeer_ok_iff (rj : ECPoint) :
    sgCheckPeer C H zcfg blameDecommit errFirst cof cofInv ssid p = .ok (.ok rj) ↔
      ∃ x y rj0 al, decommitWith H p.commitment (p.decommitment.map Int.ofNat) = .ok (some [x, y]) ∧
        C.ecNew x.toNat y.toNat = some rj0 ∧ clear C cof cofInv rj0 = .ok rj ∧
        C.ecNew p.alpha.1 p.alpha.2 = some al ∧
        Zk.schnorrVerify C H zcfg (contextJ ssid p.idx) rj al p.t = .ok true := by
  constructor
  · intro h
    rw [sgCheckPeer_eq, Outcome.bind_eq_ok] at h
    obtain ⟨o, hd, h⟩ := h
    split at h
    · cases h
    · rename_i x y
      cases hn : C.ecNew x.toNat y.toNat with
      | none => rw [hn] at h; cases errFirst <;> cases h
      | some rj0 =>
        rw [hn] at h
        obtain ⟨al, hc, ha, hs⟩ := (sgTail_ok_iff C H zcfg cof cofInv ssid p rj0 rj).1 h
        exact ⟨x, y, rj0, al, hd, hn, hc, ha, hs⟩
    · cases h
  · rintro ⟨x, y, rj0, al, hd, hn, hc, ha, hs⟩
    rw [sgCheckPeer_coords C H zcfg blameDecommit errFirst cof cofInv ssid p x y hd, hn]
    exact (sgTail_ok_iff C H zcfg cof cofInv ssid p rj0 rj).2 ⟨al, hc, ha, hs⟩

theorem sgCheckPeer_total {C : Curve P} (hC : C.Lawful)
    (hcof : C.toAffine C.zero = none → ∀ p, C.smul C.q p = C.zero)
    (hnz : C.toAffine C.zero = none → cof % C.q ≠ 0 ∧ cofInv % C.q ≠ 0)
    (hd : p.decommitment ≠ []) :
    ∃ v, sgCheckPeer C H Zk.cur blameDecommit true cof cofInv ssid p = .ok v := by
  rw [sgCheckPeer_eq]
  refine total_bind (decommit_total H _ _ hd) fun o _ => ?_
  split
  · exact ⟨_, rfl⟩
  · rename_i x y _
    cases hn : C.ecNew x.toNat y.toNat with
    | none => exact ⟨_, rfl⟩
    | some rj0 =>
      dsimp only
      unfold sgTail
      have hon : C.ecIsOnCurve rj0 = true := by
        have := (C17L.ecNew_eq_some_iff C).1 hn
        rw [this.2]; exact this.1
      refine total_bind (clear_total hC hcof hnz hon) fun rj hrj => ?_
      cases C.ecNew p.alpha.1 p.alpha.2 with
      | none => exact ⟨_, rfl⟩
      | some al =>
        refine total_bind (schnorrVerify_total hC hcof H (contextJ ssid p.idx) rj al p.t
          (clear_onCurve hC hrj)) fun b _ => ?_
        cases b <;> exact ⟨_, rfl⟩
  · exact ⟨_, rfl⟩

end sg

end TssVerif.C05L
