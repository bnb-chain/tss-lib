import TssVerif.Core.BlameEc5
import TssVerif.Lemmas.Engine2
import TssVerif.Lemmas.Engine2Hist
import TssVerif.Lemmas.Engine2System
import TssVerif.Lemmas.Engine2Live
/-! Helpers for `Props/C05g.lean` (the last clause of C05: "a single deviating participant cannot make the honest
ones lose the key").

`newMemberEmits` joins the two models that each describe one half of the final
round of a new member of a resharing: the round engine (`Core/Engine2.lean`: WHEN the final round is started) and
the round-5 check of the ECDSA new member (`Core/BlameEc5.lean`: WHAT the final round does before it emits).
Then the general facts (derived from the C04b lemmas) and the concrete schedules of the counterexample. -/
set_option autoImplicit false
namespace TssVerif.C05LossL
open TssVerif TssVerif.Engine2 TssVerif.E2L TssVerif.BlameEc

/-- the member has started its final round (round 5) and signalled `end` exactly once: for an old member "has erased
its share", for a new member "is in the round that saves the key data" -/
def inFinalRound (p : Party) : Prop := p.rnd = 5 ∧ p.ended = 1

instance (p : Party) : Decidable (inFinalRound p) := by unfold inFinalRound; infer_instance

/-- the protocol lets the new members send one another something point-to-point (a `perNewOther` emission in the
new-role table): ECDSA resharing does (`DGRound4Message1`, the no-small-factor proofs that travel with the
acknowledgement and are checked in round 5), EdDSA resharing does not -/
def hasRound5Check (P : Proto) : Bool := P.new.any fun r => r.emits.any fun e => e.2 == Cnt.perNewOther

theorem hasRound5Check_ecdsa : hasRound5Check ecdsaResharing = true := by decide
theorem hasRound5Check_eddsa : hasRound5Check eddsaResharing = false := by decide

/-- what the round-5 check of one new member runs on: its own ring-Pedersen parameters, the session id, whether it
tolerates missing proofs, and what the other new members sent it (Paillier modulus, no-small-factor proof) -/
structure R5View where
  noFac : Bool
  ssid : Bytes
  nTilde : Nat
  h1 : Nat
  h2 : Nat
  peers : List RsR4Peer

/-- the round-5 check of new member `i` (its own index is the verifier index of the proofs) on its view -/
def round5Check {Pt : Type} (C : Curve Pt) (H : HashFn) (zcfg : Zk.Cfg) (view : Nat → R5View) (i : Nat) :
    Outcome (Option (Nat × String)) :=
  rsRound5Fac C H zcfg (view i).noFac i (view i).ssid (view i).nTilde (view i).h1 (view i).h2 (view i).peers

/-- **new member `i` emits key data**: it has started its final round in the engine and — in a protocol whose final
round checks something (ECDSA) — the check returns "emit" (`.ok none`). For EdDSA the second conjunct is void. -/
def newMemberEmits {Pt : Type} (C : Curve Pt) (H : HashFn) (zcfg : Zk.Cfg) (P : Proto) (view : Nat → R5View)
    (s : Sys2) (i : Nat) : Prop :=
  inFinalRound (s.new i) ∧ (hasRound5Check P = true → round5Check C H zcfg view i = .ok none)

theorem newMemberEmits_ecdsa_iff {Pt : Type} (C : Curve Pt) (H : HashFn) (zcfg : Zk.Cfg) (view : Nat → R5View)
    (s : Sys2) (i : Nat) :
    newMemberEmits C H zcfg ecdsaResharing view s i ↔
      inFinalRound (s.new i) ∧ round5Check C H zcfg view i = .ok none := by
  unfold newMemberEmits
  rw [hasRound5Check_ecdsa]
  exact ⟨fun h => ⟨h.1, h.2 rfl⟩, fun h => ⟨h.1, fun _ => h.2⟩⟩

theorem newMemberEmits_eddsa_iff {Pt : Type} (C : Curve Pt) (H : HashFn) (zcfg : Zk.Cfg) (view : Nat → R5View)
    (s : Sys2) (i : Nat) :
    newMemberEmits C H zcfg eddsaResharing view s i ↔ inFinalRound (s.new i) := by
  unfold newMemberEmits
  rw [hasRound5Check_eddsa]
  exact ⟨fun h => h.1, fun h => ⟨h, fun h' => by cases h'⟩⟩

theorem out_nil_of_rnd_zero {tbl : List RSpec} {p : Party} (hc : Canon tbl p) (h0 : p.rnd = 0) : p.out = [] := by
  rw [hc.2.1, h0, emitsUpTo_zero]

/-- if some old member has erased, every member of both committees has been started: every new member has
acknowledged (`erase_after_all_acks`), and a new member acknowledges only after every old member has sent it its
share (`ack_after_shares`) -/
theorem allStarted_of_erased {P : Proto} {ka ks : Nat} (F : AckFactsAt P ka ks) {nOld nNew : Nat} {s : Sys2} (hN : 0 < nNew)
    (hinv : SysInv P nOld nNew s) {i : Nat} (he : (s.old i).ended = 1) : AllStarted nOld nNew s := by
  have hack := erase_after_all_acks_inv F hinv he
  intro c j hj h0
  cases c
  · -- an old member: new member 0 holds its share, which it therefore has emitted
    have h := (ack_after_shares_inv F hinv (hack 0 hN)).2 j hj
    have hout : shareTy P ∈ (s.party false j).out := h.2.2.1
    rw [out_nil_of_rnd_zero (hinv false j).canon h0] at hout
    cases hout
  · have hout : finalAck P ∈ (s.party true j).out := hack j hj
    rw [out_nil_of_rnd_zero (hinv true j).canon h0] at hout
    cases hout

/-- **an old member has erased and nothing is left to deliver ⟹ every member of both committees is in its final
round** (closed system with the library's `Start`, `strict = true`, as `no_deadlock2` needs; `0 < nNew` as
`no_deadlock2` needs) -/
theorem all_final_of_erased_quiescent {P : Proto} (hP : IsLib P) {nOld nNew : Nat} {s : Sys2} (hN : 0 < nNew)
    (hreach : Reach2 P nOld nNew true s) (hq : Quiescent2 P nOld nNew s) {i : Nat} (hi : i < nOld)
    (he : (s.old i).ended = 1) :
    (∀ k, k < nOld → inFinalRound (s.old k)) ∧ (∀ j, j < nNew → inFinalRound (s.new j)) := by
  have hO : 0 < nOld := Nat.lt_of_le_of_lt (Nat.zero_le _) hi
  have F := liveFacts_of_isLib hP
  have A := ackFacts_of_isLib hP
  have hst := allStarted_of_erased A hN (reach2_inv hreach) he
  have h := no_deadlock2_gen F hO hN hreach hst hq
  rw [A.lenOld] at h
  exact ⟨fun k hk => h false k hk, fun j hj => h true j hj⟩

/-- the part about the new members needs no hypothesis on `nNew` (void without new members) -/
theorem new_final_of_erased_quiescent {P : Proto} (hP : IsLib P) {nOld nNew : Nat} {s : Sys2}
    (hreach : Reach2 P nOld nNew true s) (hq : Quiescent2 P nOld nNew s) {i : Nat} (hi : i < nOld)
    (he : (s.old i).ended = 1) : ∀ j, j < nNew → inFinalRound (s.new j) := by
  intro j hj
  exact (all_final_of_erased_quiescent hP (Nat.lt_of_le_of_lt (Nat.zero_le _) hj) hreach hq hi he).2 j hj

/-! The schedule of the counterexample (ECDSA resharing, 2 old + 2 new members).

Every member is started; every message any member emits is delivered to every member that needs it (nobody is sent
its own message). New member 0 is the deviator: its `DGRound4Message1` (type 6) for new member 1 carries a
no-small-factor proof that does not verify — the engine does not look at payloads, the ghost payload tag `1` marks
that delivery. -/

def lossRun : List Act :=
  [ .startOld 0 false, .startOld 1 false, .startNew 0 false, .startNew 1 false,
    -- DGRound1Message (1): every old member → every new member
    .toNew 0 false 0 1 0, .toNew 1 false 0 1 0, .toNew 0 false 1 1 0, .toNew 1 false 1 1 0,
    -- DGRound2Message1 (2): every new member → the other new members
    .toNew 1 true 0 2 0, .toNew 0 true 1 2 0,
    -- DGRound2Message2 (3): every new member → every old member
    .toOld 0 true 0 3 0, .toOld 1 true 0 3 0, .toOld 0 true 1 3 0, .toOld 1 true 1 3 0,
    -- DGRound3Message1 (4, the shares, point-to-point) and DGRound3Message2 (5): every old → every new member
    .toNew 0 false 0 4 0, .toNew 1 false 0 4 0, .toNew 0 false 1 4 0, .toNew 1 false 1 4 0,
    .toNew 0 false 0 5 0, .toNew 1 false 0 5 0, .toNew 0 false 1 5 0, .toNew 1 false 1 5 0,
    -- DGRound4Message1 (6, the no-small-factor proofs, point-to-point): new 0 → new 1 is the BAD one (tag 1)
    .toNew 1 true 0 6 1, .toNew 0 true 1 6 0,
    -- DGRound4Message2 (7, the acknowledgement): every new member → every old member, → the other new members
    .toOld 0 true 0 7 0, .toOld 1 true 0 7 0, .toOld 0 true 1 7 0, .toOld 1 true 1 7 0,
    .toNew 1 true 0 7 0, .toNew 0 true 1 7 0 ]

/-- the state the schedule ends in -/
def lossState : Sys2 := exec ecdsaResharing 2 2 true lossRun

theorem lossState_reachable : Reach2 ecdsaResharing 2 2 true lossState := reach2_exec _ _ _ _ _

/-- the same with ONE old member (the smallest committees the tables allow for a new-to-new message) -/
def lossRun12 : List Act :=
  [ .startOld 0 false, .startNew 0 false, .startNew 1 false,
    .toNew 0 false 0 1 0, .toNew 1 false 0 1 0,
    .toNew 1 true 0 2 0, .toNew 0 true 1 2 0,
    .toOld 0 true 0 3 0, .toOld 0 true 1 3 0,
    .toNew 0 false 0 4 0, .toNew 1 false 0 4 0, .toNew 0 false 0 5 0, .toNew 1 false 0 5 0,
    .toNew 1 true 0 6 1, .toNew 0 true 1 6 0,
    .toOld 0 true 0 7 0, .toOld 0 true 1 7 0,
    .toNew 1 true 0 7 0, .toNew 0 true 1 7 0 ]

def lossState12 : Sys2 := exec ecdsaResharing 1 2 true lossRun12

theorem lossState12_reachable : Reach2 ecdsaResharing 1 2 true lossState12 := reach2_exec _ _ _ _ _

/-- the state the schedule ends in, evaluated once: the logs hold all 26 deliveries, everybody has been started,
nothing is left to deliver, everybody is in the final round, and new member 1 holds the deviator's
`DGRound4Message1` (tag 1) -/
theorem lossState_eval :
    ((lossState.logOld 0).length = 4 ∧ (lossState.logOld 1).length = 4 ∧
     (lossState.logNew 0).length = 9 ∧ (lossState.logNew 1).length = 9) ∧
    allStartedB 2 2 lossState = true ∧ quiescentB ecdsaResharing 2 2 lossState = true ∧
    (inFinalRound (lossState.old 0) ∧ inFinalRound (lossState.old 1) ∧
     inFinalRound (lossState.new 0) ∧ inFinalRound (lossState.new 1) ∧
     (lossState.new 1).store 6 0 = some ⟨false, 1⟩) := by decide +kernel

theorem lossState_quiescent :
    ((lossState.logOld 0).length = 4 ∧ (lossState.logOld 1).length = 4 ∧
     (lossState.logNew 0).length = 9 ∧ (lossState.logNew 1).length = 9) ∧
    AllStarted 2 2 lossState ∧ Quiescent2 ecdsaResharing 2 2 lossState :=
  ⟨lossState_eval.1, allStartedB_spec lossState_eval.2.1, quiescentB_spec lossState_eval.2.2.1⟩

/-- a bound variable below 2 is 0 or 1 -/
theorem forall_lt_two {Q : Nat → Prop} (h0 : Q 0) (h1 : Q 1) : ∀ i, i < 2 → Q i := by
  intro i hi
  have : i = 0 ∨ i = 1 := by omega
  rcases this with rfl | rfl
  · exact h0
  · exact h1

theorem lossState_final :
    (∀ i, i < 2 → inFinalRound (lossState.old i)) ∧ (∀ j, j < 2 → inFinalRound (lossState.new j)) ∧
    (lossState.new 1).store 6 0 = some ⟨false, 1⟩ :=
  have h := lossState_eval.2.2.2
  ⟨forall_lt_two h.1 h.2.1, forall_lt_two h.2.2.1 h.2.2.2.1, h.2.2.2.2⟩

theorem lossState12_eval :
    ((lossState12.logOld 0).length = 4 ∧ (lossState12.logNew 0).length = 6 ∧ (lossState12.logNew 1).length = 6) ∧
    allStartedB 1 2 lossState12 = true ∧ quiescentB ecdsaResharing 1 2 lossState12 = true ∧
    (inFinalRound (lossState12.old 0) ∧ inFinalRound (lossState12.new 0) ∧ inFinalRound (lossState12.new 1) ∧
     (lossState12.new 1).store 6 0 = some ⟨false, 1⟩) := by decide +kernel

theorem lossState12_quiescent :
    ((lossState12.logOld 0).length = 4 ∧ (lossState12.logNew 0).length = 6 ∧ (lossState12.logNew 1).length = 6) ∧
    AllStarted 1 2 lossState12 ∧ Quiescent2 ecdsaResharing 1 2 lossState12 :=
  ⟨lossState12_eval.1, allStartedB_spec lossState12_eval.2.1, quiescentB_spec lossState12_eval.2.2.1⟩

theorem lossState12_final :
    inFinalRound (lossState12.old 0) ∧ (∀ j, j < 2 → inFinalRound (lossState12.new j)) ∧
    (lossState12.new 1).store 6 0 = some ⟨false, 1⟩ :=
  have h := lossState12_eval.2.2.2
  ⟨h.1, forall_lt_two h.2.1 h.2.2.1, h.2.2.2⟩

/-- new member `j` accepts the record `p` (what one other new member sent it) in its round-5 check -/
def peerAccepted {Pt : Type} (C : Curve Pt) (H : HashFn) (zcfg : Zk.Cfg) (view : Nat → R5View) (j : Nat)
    (p : RsR4Peer) : Prop :=
  rsFacPeer C H zcfg (view j).noFac j (view j).ssid (view j).nTilde (view j).h1 (view j).h2 p = .ok none

/-- **the last clause of C05** for protocol `P` with `nOld` + `nNew` members: in every reachable state of the closed
system in which some old member has erased its share and nothing is left to deliver, whichever ONE new member `dev`
deviates (in the view of every other new member every record that does not carry `dev`'s index is accepted; the
records of `dev` are arbitrary), every new member other than `dev` emits key data. -/
def LastClause {Pt : Type} (C : Curve Pt) (H : HashFn) (zcfg : Zk.Cfg) (P : Proto) (nOld nNew : Nat) : Prop :=
  ∀ (s : Sys2) (view : Nat → R5View) (dev : Nat),
    Reach2 P nOld nNew true s → Quiescent2 P nOld nNew s → (∃ i, i < nOld ∧ (s.old i).ended = 1) →
    (∀ j, j < nNew → j ≠ dev → ∀ p ∈ (view j).peers, p.idx ≠ dev → peerAccepted C H zcfg view j p) →
    ∀ j, j < nNew → j ≠ dev → newMemberEmits C H zcfg P view s j

theorem round5Check_none_iff {Pt : Type} (C : Curve Pt) (H : HashFn) (zcfg : Zk.Cfg) (view : Nat → R5View) (j : Nat) :
    round5Check C H zcfg view j = .ok none ↔ ∀ p ∈ (view j).peers, peerAccepted C H zcfg view j p := by
  unfold round5Check peerAccepted
  induction (view j).peers with
  | nil => simp [rsRound5Fac]
  | cons p rest ih =>
    constructor
    · intro h q hq
      rw [rsRound5Fac] at h
      cases hp : rsFacPeer C H zcfg (view j).noFac j (view j).ssid (view j).nTilde (view j).h1 (view j).h2 p with
      | ok v =>
        rw [hp] at h
        cases v with
        | none =>
          rcases List.mem_cons.mp hq with rfl | hq
          · exact hp
          · exact ih.mp h q hq
        | some why => cases h
      | err e => rw [hp] at h; cases h
      | panic t => rw [hp] at h; cases h
    · intro h
      have hp := h p (List.mem_cons_self ..)
      rw [rsRound5Fac, hp]
      exact ih.mpr fun q hq => h q (List.mem_cons_of_mem _ hq)

end TssVerif.C05LossL
