import TssVerif.Lemmas.EngineWait
/-! Critical sections and interleavings (the logic part of C09). -/
set_option autoImplicit false
namespace TssVerif.EngineL
open TssVerif.Engine

/-- `Interleave ls merged`: `merged` is obtained by repeatedly taking the head of one of the lists `ls`
(each caller's messages stay in the caller's order) until all are exhausted -/
inductive Interleave : List (List Msg) → List Msg → Prop
  | done (ls : List (List Msg)) : (∀ l ∈ ls, l = []) → Interleave ls []
  | pick (pre : List (List Msg)) (l : List Msg) (post : List (List Msg)) (m : Msg) (merged : List Msg) :
      Interleave (pre ++ l :: post) merged → Interleave (pre ++ (m :: l) :: post) (m :: merged)

theorem interleave_perm {ls : List (List Msg)} {merged : List Msg} (h : Interleave ls merged) :
    merged.Perm ls.flatten := by
  induction h with
  | done ls h => rw [List.flatten_eq_nil_iff.mpr h]
  | pick pre l post m merged _ ih =>
    have e1 : (pre ++ (m :: l) :: post).flatten = pre.flatten ++ m :: (l ++ post.flatten) := by simp
    have e2 : (pre ++ l :: post).flatten = pre.flatten ++ (l ++ post.flatten) := by simp
    rw [e1]
    rw [e2] at ih
    exact (List.Perm.cons m ih).trans List.perm_middle.symm

theorem interleave_flatten (ls : List (List Msg)) : Interleave ls ls.flatten := by
  induction ls with
  | nil => exact Interleave.done [] (by simp)
  | cons a ls ih =>
    induction a with
    | nil =>
      -- `[] :: ls` flattens like `ls`; lift the derivation
      have lift : ∀ {xs : List (List Msg)} {mg : List Msg}, Interleave xs mg → Interleave ([] :: xs) mg := by
        intro xs mg h
        induction h with
        | done xs h => exact Interleave.done _ (by intro l hl; rcases List.mem_cons.mp hl with h' | h'; exact h'; exact h l h')
        | pick pre l post m merged _ ih => exact Interleave.pick ([] :: pre) l post m merged ih
      exact lift ih
    | cons m a iha => exact Interleave.pick [] a ls m _ iha

/-- a critical section of the party's mutex: `Update` (store and settle) or a `WaitingFor` query -/
inductive Sec where
  | update : Msg → Sec
  | query : Sec

/-- run a history of critical sections: the state and the answers the queries got -/
def runSecs (tbl : List RoundSpec) : List Sec → Party → Party × List (List Nat)
  | [], p => (p, [])
  | .update m :: ss, p => runSecs tbl ss (deliver tbl m p)
  | .query :: ss, p => let r := runSecs tbl ss p; (r.1, waitingFor p :: r.2)

def msgsOf : List Sec → List Msg
  | [] => []
  | .update m :: ss => m :: msgsOf ss
  | .query :: ss => msgsOf ss

theorem runSecs_state (tbl : List RoundSpec) (ss : List Sec) (p : Party) :
    (runSecs tbl ss p).1 = delivers tbl (msgsOf ss) p := by
  induction ss generalizing p with
  | nil => rfl
  | cons s ss ih =>
    cases s with
    | update m => exact ih _
    | query => exact ih p

end TssVerif.EngineL
