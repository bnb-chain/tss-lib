import TssVerif.Lemmas.BlameBase
/-! A loop over the peers that stops at the first one whose check does not let it go on (`seqLoop`, `Runs`, `halt`): what
it returns (`seqLoop_eq_iff`), when it returns (`seqLoop_noPanic`, `seqLoop_noErr`, `seqLoop_total`), and one deviator:
if every peer other than `dev` lets the loop go on from the state in which the loop reaches it, the loop can only stop
at a record of `dev` (`seqLoop_single_deviator`), and with distinct indices it does stop there when `dev`'s step stops
it (`seqLoop_deviator_halts`). -/
set_option autoImplicit false
namespace TssVerif.C05L
open TssVerif Outcome C06L C05EcL
section seqLoop
variable {σ α ρ : Type}

/-- a loop over the peers in order that threads a state: a step either stops with the loop's result (`inl`) or goes on
with the next state (`inr`); after the last peer `fin` decides -/
def seqLoop (step : σ → α → Outcome (ρ ⊕ σ)) (fin : σ → Outcome ρ) : σ → List α → Outcome ρ
  | s, [] => fin s
  | s, p :: rest => step s p >>= fun x =>
    match x with
    | .inl r => .ok r
    | .inr s' => seqLoop step fin s' rest

/-- the steps on the peers of `l` all go on, leading from the state `s` to `s'` -/
def Runs (step : σ → α → Outcome (ρ ⊕ σ)) : σ → List α → σ → Prop
  | s, [], s' => s' = s
  | s, p :: l, s' => ∃ s1, step s p = .ok (.inr s1) ∧ Runs step s1 l s'

/-- what a step that does not go on makes of the loop -/
def halt : Outcome (ρ ⊕ σ) → Option (Outcome ρ)
  | .ok (.inl r) => some (.ok r)
  | .ok (.inr _) => none
  | .err e => some (.err e)
  | .panic t => some (.panic t)

variable (step : σ → α → Outcome (ρ ⊕ σ)) (fin : σ → Outcome ρ)

theorem seqLoop_cons_go {s s' : σ} {p : α} (rest : List α) (h : step s p = .ok (.inr s')) :
    seqLoop step fin s (p :: rest) = seqLoop step fin s' rest := by
  rw [seqLoop, h]; rfl

theorem seqLoop_cons_halt {s : σ} {p : α} (rest : List α) {X : Outcome ρ} (h : halt (step s p) = some X) :
    seqLoop step fin s (p :: rest) = X := by
  rw [seqLoop]
  cases hs : step s p with
  | ok x =>
    rw [hs] at h
    cases x with
    | inl r => cases h; rfl
    | inr s' => cases h
  | err e => rw [hs] at h; cases h; rfl
  | panic t => rw [hs] at h; cases h; rfl

theorem halt_eq_none_iff (o : Outcome (ρ ⊕ σ)) : halt o = none ↔ ∃ s', o = .ok (.inr s') := by
  cases o with
  | ok x => cases x <;> simp [halt]
  | err e => simp [halt]
  | panic t => simp [halt]

theorem halt_eq_some_ok_iff (o : Outcome (ρ ⊕ σ)) (r : ρ) : halt o = some (.ok r) ↔ o = .ok (.inl r) := by
  cases o with
  | ok x => cases x <;> simp [halt]
  | err e => simp [halt]
  | panic t => simp [halt]

theorem halt_eq_some_panic_iff (o : Outcome (ρ ⊕ σ)) (t : String) : halt o = some (.panic t) ↔ o = .panic t := by
  cases o with
  | ok x => cases x <;> simp [halt]
  | err e => simp [halt]
  | panic t => simp [halt]

theorem seqLoop_append {s s' : σ} {pre : List α} (rest : List α) (h : Runs step s pre s') :
    seqLoop step fin s (pre ++ rest) = seqLoop step fin s' rest := by
  induction pre generalizing s with
  | nil => cases h; rfl
  | cons p pre ih =>
    obtain ⟨s1, h1, h2⟩ := h
    rw [List.cons_append, seqLoop_cons_go step fin _ h1]
    exact ih h2

/-- the loop goes on through all of `l`, or there is a first peer at which it does not -/
theorem runs_or_halts (s : σ) (l : List α) :
    (∃ s', Runs step s l s') ∨
    ∃ pre p post s' X, l = pre ++ p :: post ∧ Runs step s pre s' ∧ halt (step s' p) = some X := by
  induction l generalizing s with
  | nil => exact Or.inl ⟨s, rfl⟩
  | cons p l ih =>
    cases hh : halt (step s p) with
    | some X => exact Or.inr ⟨[], p, l, s, X, rfl, rfl, hh⟩
    | none =>
      obtain ⟨s1, h1⟩ := (halt_eq_none_iff _).1 hh
      rcases ih s1 with ⟨s', hr⟩ | ⟨pre, q, post, s', X, he, hr, hq⟩
      · exact Or.inl ⟨s', s1, h1, hr⟩
      · exact Or.inr ⟨p :: pre, q, post, s', X, by rw [he]; rfl, ⟨s1, h1, hr⟩, hq⟩

/-- **what the loop returns**: what `fin` makes of the last state if every step goes on; otherwise what the first
step that does not go on makes of it -/
theorem seqLoop_eq_iff (s : σ) (l : List α) (X : Outcome ρ) :
    seqLoop step fin s l = X ↔
      (∃ s', Runs step s l s' ∧ fin s' = X) ∨
      ∃ pre p post s', l = pre ++ p :: post ∧ Runs step s pre s' ∧ halt (step s' p) = some X := by
  constructor
  · intro h
    rcases runs_or_halts step s l with ⟨s', hr⟩ | ⟨pre, p, post, s', Y, he, hr, hq⟩
    · have := seqLoop_append step fin [] hr
      rw [List.append_nil] at this
      exact Or.inl ⟨s', hr, by rw [← h, this]; rfl⟩
    · subst he
      rw [seqLoop_append step fin _ hr, seqLoop_cons_halt step fin _ hq] at h
      exact Or.inr ⟨pre, p, post, s', rfl, hr, by rw [hq, h]⟩
  · rintro (⟨s', hr, hf⟩ | ⟨pre, p, post, s', rfl, hr, hq⟩)
    · have := seqLoop_append step fin [] hr
      rw [List.append_nil] at this
      rw [this]; exact hf
    · rw [seqLoop_append step fin _ hr, seqLoop_cons_halt step fin _ hq]

theorem seqLoop_noPanic {l : List α} (hs : ∀ p ∈ l, ∀ s, NoPanic (step s p)) (hf : ∀ s, NoPanic (fin s)) (s : σ) :
    NoPanic (seqLoop step fin s l) := by
  induction l generalizing s with
  | nil => exact hf s
  | cons p l ih =>
    rw [seqLoop]
    refine NoPanic.bind (hs p (List.mem_cons_self ..) s) fun x _ => ?_
    cases x with
    | inl r => exact NoPanic.ok r
    | inr s' => exact ih (fun q hq => hs q (List.mem_cons_of_mem _ hq)) s'

theorem seqLoop_noErr {l : List α} (hs : ∀ p ∈ l, ∀ s, NoErr (step s p)) (hf : ∀ s, NoErr (fin s)) (s : σ) :
    NoErr (seqLoop step fin s l) := by
  induction l generalizing s with
  | nil => exact hf s
  | cons p l ih =>
    rw [seqLoop]
    refine NoErr.bind (hs p (List.mem_cons_self ..) s) fun x _ => ?_
    cases x with
    | inl r => exact NoErr.ok r
    | inr s' => exact ih (fun q hq => hs q (List.mem_cons_of_mem _ hq)) s'

theorem seqLoop_total {l : List α} (hs : ∀ p ∈ l, ∀ s, ∃ x, step s p = .ok x) (hf : ∀ s, ∃ r, fin s = .ok r) (s : σ) :
    ∃ r, seqLoop step fin s l = .ok r :=
  C05SgL.total_of
    (seqLoop_noPanic step fin (fun p hp s => NoPanic.of_exists_ok (hs p hp s)) (fun s => NoPanic.of_exists_ok (hf s)) s)
    (seqLoop_noErr step fin (fun p hp s => by obtain ⟨x, hx⟩ := hs p hp s; rw [hx]; exact NoErr.ok x)
      (fun s => by obtain ⟨r, hr⟩ := hf s; rw [hr]; exact NoErr.ok r) s)

variable (f : α → Nat) (s : σ) (l : List α)

/-- **the loop stops at the deviator or not at all** -/
theorem seqLoop_single_deviator (dev : Nat)
    (hothers : ∀ pre p post s', l = pre ++ p :: post → f p ≠ dev → Runs step s pre s' → halt (step s' p) = none)
    (X : Outcome ρ) (h : seqLoop step fin s l = X) :
    (∃ s', Runs step s l s' ∧ fin s' = X) ∨
    ∃ pre p post s', l = pre ++ p :: post ∧ f p = dev ∧ Runs step s pre s' ∧ halt (step s' p) = some X := by
  rcases (seqLoop_eq_iff step fin s l X).1 h with h | ⟨pre, p, post, s', he, hr, hq⟩
  · exact Or.inl h
  · refine Or.inr ⟨pre, p, post, s', he, ?_, hr, hq⟩
    apply Classical.byContradiction
    intro hne
    rw [hothers pre p post s' he hne hr] at hq
    cases hq

/-- **… and it does stop there**, with what the deviator's step makes of it, when the indices are distinct -/
theorem seqLoop_deviator_halts (d : α) (hnd : (l.map f).Nodup) (hd : d ∈ l)
    (hothers : ∀ pre p post s', l = pre ++ p :: post → f p ≠ f d → Runs step s pre s' → halt (step s' p) = none)
    (X : Outcome ρ) (hbad : ∀ s', halt (step s' d) = some X) : seqLoop step fin s l = X := by
  obtain ⟨pre, post, rfl⟩ := List.append_of_mem hd
  rcases runs_or_halts step s pre with ⟨s', hr⟩ | ⟨pre1, q, post1, s1, Y, he, hr, hq⟩
  · exact (seqLoop_eq_iff step fin s _ X).2 (Or.inr ⟨pre, d, post, s', rfl, hr, hbad s'⟩)
  · subst he
    have hne : f q ≠ f d := idx_ne_of_nodup f hnd q (by simp)
    rw [hothers pre1 q (post1 ++ d :: post) s1 (by simp) hne hr] at hq
    cases hq

end seqLoop

theorem runs_unit_iff {α ρ : Type} (step : Unit → α → Outcome (ρ ⊕ Unit)) (l : List α) (s s' : Unit) :
    Runs step s l s' ↔ ∀ p ∈ l, step () p = .ok (.inr ()) := by
  induction l with
  | nil => exact ⟨fun _ p hp => (nomatch hp), fun _ => rfl⟩
  | cons q l ih =>
    simp only [Runs, List.forall_mem_cons, ← ih]
    exact ⟨fun ⟨_, h1, h2⟩ => ⟨h1, h2⟩, fun ⟨h1, h2⟩ => ⟨(), h1, h2⟩⟩

end TssVerif.C05L
