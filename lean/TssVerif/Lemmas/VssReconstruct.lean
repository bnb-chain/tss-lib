import TssVerif.Core.Vss
import TssVerif.Lemmas.AlgLagrange
import TssVerif.Lemmas.Outcome
/-! `Vss.times` is the weight loop of `PrepareForSigning` run on the share `1` (a nil inverse there is a
crash here), so `Vss.reconstruct` is Lagrange interpolation at `0` over `ZMod q`. -/
set_option autoImplicit false
namespace TssVerif
namespace Vss
open Polynomial AlgL C01W

/-- Go's `ModInverse` reduces its argument first -/
theorem modInverse_emod (a : Int) (n : ℕ) : modInverse (a % (n : Int)) n = modInverse a n := by
  unfold modInverse
  rw [Int.emod_emod]

theorem times_fold_eq (q : ℕ) (xs : List ℕ) (i : ℕ) (l : List ℕ) : ∀ acc : ℕ,
    l.foldlM (fun acc j =>
        if j = i then (pure acc : Outcome ℕ) else
          match modInverse (((xs.getD j 0 : Int) - (xs.getD i 0 : Int)) % (q : Int)) q with
          | some inv => pure (acc * (xs.getD j 0 * inv % q) % q)
          | none => .panic "nil-mod-inverse") acc =
      Outcome.ofOption "nil-mod-inverse" (l.foldlM (wstep q xs i) acc) := by
  induction l with
  | nil => intro acc; rfl
  | cons j l ih =>
    intro acc
    rw [List.foldlM_cons, List.foldlM_cons, modInverse_emod]
    by_cases hj : j = i
    · rw [if_pos hj, hj, wstep_self]
      exact ih acc
    · rw [if_neg hj]
      unfold wstep Sign.coef
      rw [if_neg hj]
      cases modInverse ((xs.getD j 0 : Int) - (xs.getD i 0 : Int)) q with
      | none => rfl
      | some inv => exact ih _

/-- `times` is the weight of the share `1` -/
theorem times_eq (q : ℕ) (xs : List ℕ) (i : ℕ) :
    times q xs i = Outcome.ofOption "nil-mod-inverse" (Sign.weight q xs i 1) :=
  times_fold_eq q xs i _ 1

variable {q : ℕ}

/-- the accumulation loop of `reconstruct`; its result is reduced as soon as the starting value is
(Go starts from `0`) -/
theorem reconstruct_fold (shares : List Share) (xs : List ℕ) (lam : ℕ → ℕ) (l : List ℕ) (hq : 0 < q)
    (hlam : ∀ i ∈ l, Sign.weight q xs i 1 = some (lam i)) :
    ∀ acc : ℕ, ∃ r : ℕ, l.foldlM (fun secret i => do
        let t ← times q xs i
        pure ((secret + (shares.getD i ⟨0, 0, 0⟩).share * t % q) % q)) acc = .ok r ∧
      (r : ZMod q) = acc + (l.map fun i => ((shares.getD i ⟨0, 0, 0⟩).share : ZMod q) * lam i).sum ∧
      (acc < q → r < q) := by
  induction l with
  | nil => intro acc; exact ⟨acc, rfl, by simp, id⟩
  | cons i l ih =>
    intro acc
    rw [List.foldlM_cons, times_eq, hlam i (List.mem_cons_self ..)]
    obtain ⟨r, hr, hrc, hlt⟩ := ih (fun k hk => hlam k (List.mem_cons_of_mem _ hk))
      ((acc + (shares.getD i ⟨0, 0, 0⟩).share * lam i % q) % q)
    refine ⟨r, hr, ?_, fun _ => hlt (Nat.mod_lt _ hq)⟩
    rw [hrc, List.map_cons, List.sum_cons]
    push_cast [ZMod.natCast_mod]
    ring

variable [Fact q.Prime]

/-- **`reconstruct` is interpolation at 0**: for shares on a polynomial `f` of degree below the number
of shares, with ids distinct modulo `q` -/
theorem reconstruct_eq_eval (shares : List Share) (f : (ZMod q)[X]) (hne : shares ≠ [])
    (hthr : ∀ s0 ∈ shares.head?, s0.threshold ≤ shares.length)
    (hnd : (shares.map (fun s => s.id % q)).Nodup)
    (hdeg : f.degree < (shares.length : ℕ))
    (hval : ∀ sh ∈ shares, (sh.share : ZMod q) = f.eval (sh.id : ZMod q)) :
    reconstruct q shares = .ok (f.eval 0).val := by
  have hq : 0 < q := (Fact.out : q.Prime).pos
  have hxl : (shares.map (·.id)).length = shares.length := List.length_map ..
  have hndx : ((shares.map (·.id)).map (· % q)).Nodup := by rw [List.map_map]; exact hnd
  obtain ⟨lam, hlam⟩ : ∃ lam : ℕ → ℕ, ∀ i < shares.length,
      Sign.weight q (shares.map (·.id)) i 1 = some (lam i) :=
    ⟨fun i => (Sign.weight q (shares.map (·.id)) i 1).getD 0, fun i hi => by
      obtain ⟨w, hw⟩ := weight_isSome_of_nodup _ hndx (hxl.symm ▸ hi) 1
      simp only [hw, Option.getD_some]⟩
  have hfold := reconstruct_fold shares (shares.map (·.id)) lam (List.range shares.length) hq
  obtain ⟨r, hr, hrc, hlt⟩ := hfold (fun i hi => hlam i (List.mem_range.1 hi)) 0
  have hrec : reconstruct q shares = .ok r := by
    obtain ⟨s0, rest, hs⟩ := List.exists_cons_of_ne_nil hne
    have h0 : ¬ s0.threshold > shares.length := Nat.not_lt.2 (hthr s0 (by rw [hs]; rfl))
    have hunf : reconstruct q shares =
        if s0.threshold > shares.length then .err "not-enough-shares" else
        (List.range shares.length).foldlM (fun secret i => do
          let t ← times q (shares.map (·.id)) i
          pure ((secret + (shares.getD i ⟨0, 0, 0⟩).share * t % q) % q)) 0 := by
      rw [hs]; rfl
    rw [hunf, if_neg h0]
    exact hr
  rw [hrec, ← ZMod.val_natCast_of_lt (hlt hq), hrc, Nat.cast_zero, zero_add,
    ← List.sum_toFinset _ List.nodup_range, List.toFinset_range, ← hxl,
    ← sum_eval_mul_weight_one _ lam f (by simpa [hxl] using hdeg) (injOn_of_nodup _ hndx)
      (fun i hi => hlam i (hxl ▸ hi))]
  congr 2
  refine Finset.sum_congr rfl fun i hi => ?_
  have hi' : i < shares.length := hxl ▸ Finset.mem_range.1 hi
  have hid : (shares.map (·.id)).getD i 0 = (shares.getD i ⟨0, 0, 0⟩).id := by
    rw [getD_eq_getElem _ _ (hxl ▸ hi'), getD_eq_getElem _ _ hi', List.getElem_map]
  rw [hid, hval _ (by rw [getD_eq_getElem _ _ hi']; exact List.getElem_mem _)]

end Vss
end TssVerif
