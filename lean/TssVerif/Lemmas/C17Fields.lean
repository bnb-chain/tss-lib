import TssVerif.Lemmas.C17
/-! Helper lemmas for `TssVerif/Props/C17b.lean`: the curve check behind every decoder a modelled round applies to
a message field. -/
set_option autoImplicit false
namespace TssVerif.C17FieldsL
open TssVerif

variable {P : Type} (C : Curve P)

/-- `NewECPoint` accepted the pair: it is a point of the curve, and it is returned unchanged -/
theorem onCurve_of_ecNew {x y : Nat} {g : ECPoint} (h : C.ecNew x y = some g) :
    C.ecIsOnCurve g = true ∧ g = (x, y) := by
  obtain ⟨h1, h2⟩ := (C17L.ecNew_eq_some_iff C).1 h
  exact ⟨by rw [h2]; exact h1, h2⟩

theorem onCurve_of_ecNew' {a g : ECPoint} (h : C.ecNew a.1 a.2 = some g) : C.ecIsOnCurve a = true := by
  obtain ⟨h1, _⟩ := (C17L.ecNew_eq_some_iff C).1 h
  exact h1

theorem onCurve_of_unflatten {xs : List Nat} {ps : List ECPoint} (h : C.unflatten xs = some ps) :
    ∀ p ∈ ps, C.ecIsOnCurve p = true :=
  ((C17L.unflatten_eq_some_iff C xs ps).1 h).2

/-- the raw lifting used by round 9 accepted the pair: it is a point of the curve -/
theorem onCurve_of_ofAffine {x y : Nat} {a : P} (h : C.ofAffine x y = some a) : C.ecIsOnCurve (x, y) = true := by
  unfold Curve.ecIsOnCurve; rw [h]; rfl

theorem ofAffine_ne_none_iff (x y : Nat) : C.ofAffine x y ≠ none ↔ C.ecIsOnCurve (x, y) = true := by
  unfold Curve.ecIsOnCurve
  cases C.ofAffine x y <;> simp

end TssVerif.C17FieldsL
