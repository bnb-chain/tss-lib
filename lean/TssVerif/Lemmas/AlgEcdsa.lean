import TssVerif.Core.Sign
import TssVerif.Lemmas.CurveLaw
import TssVerif.Lemmas.ModInverse
import TssVerif.Lemmas.AlgBytes
import Mathlib.Algebra.Field.ZMod
import Mathlib.Tactic.LinearCombination
/-! ECDSA verification: a complete description of `Sign.ecdsaVerify`, the inverse `ModInverse` returns on a
lawful curve, the negation lemmas behind `s ↦ q − s`, and exactly when and what `Sign.ecdsaFinalize` returns. -/
set_option autoImplicit false
set_option linter.style.haveILetI false
namespace TssVerif.AlgL
open TssVerif Sign

variable {P : Type} {C : Curve P}

/-- the x-coordinate of `−P` is that of `P` (true of Weierstrass and Edwards... curves in `y`/`x`
respectively; an explicit hypothesis of the low-S theorems) -/
def NegX (C : Curve P) : Prop :=
  ∀ p x y, C.toAffine p = some (x, y) → ∃ y', C.toAffine (C.neg p) = some (x, y')

theorem ecdsaVerify_iff (C : Curve P) (pub : ECPoint) (m r s : Nat) :
    ecdsaVerify C pub m r s = true ↔
      r ≠ 0 ∧ s ≠ 0 ∧ r < C.q ∧ s < C.q ∧
      ∃ w pk x y, modInverse s C.q = some w ∧ C.lift pub = some pk ∧
        C.toAffine (C.add (C.smul (m % C.q * w % C.q) C.base) (C.smul (r * w % C.q) pk)) = some (x, y) ∧
        x % C.q = r := by
  unfold ecdsaVerify
  by_cases hg : r = 0 ∨ s = 0 ∨ r ≥ C.q ∨ s ≥ C.q
  · rw [if_pos hg]
    exact ⟨nofun, fun ⟨h1, h2, h3, h4, _⟩ => by omega⟩
  · rw [if_neg hg]
    have hg' : r ≠ 0 ∧ s ≠ 0 ∧ r < C.q ∧ s < C.q := by omega
    cases hw : modInverse (s : Int) C.q with
    | none => exact ⟨nofun, fun ⟨_, _, _, _, w, _, _, _, h5, _⟩ => by cases h5⟩
    | some w =>
      cases hpk : C.lift pub with
      | none => exact ⟨nofun, fun ⟨_, _, _, _, _, _, _, _, _, h6, _⟩ => by cases h6⟩
      | some pk =>
        simp only
        cases haff : C.toAffine (C.add (C.smul (m % C.q * w % C.q) C.base) (C.smul (r * w % C.q) pk)) with
        | none =>
          exact ⟨nofun, fun ⟨_, _, _, _, _, _, _, _, h5, h6, h7, _⟩ => by
            cases h5; cases h6; rw [haff] at h7; cases h7⟩
        | some xy =>
          simp only [beq_iff_eq]
          exact ⟨fun h => ⟨hg'.1, hg'.2.1, hg'.2.2.1, hg'.2.2.2, w, pk, xy.1, xy.2, rfl, rfl, haff, h⟩,
            fun ⟨_, _, _, _, _, _, _, _, h5, h6, h7, h8⟩ => by
              cases h5; cases h6; rw [haff] at h7; cases h7; exact h8⟩

theorem cast_of_modEq {q a b : ℕ} (h : a ≡ b [MOD q]) : (a : ZMod q) = (b : ZMod q) :=
  (ZMod.natCast_eq_natCast_iff a b q).2 h

theorem natCast_ne_zero_of_pos_lt {q s : ℕ} (h0 : s ≠ 0) (hq : s < q) : (s : ZMod q) ≠ 0 := by
  intro h
  rw [ZMod.natCast_eq_zero_iff] at h
  exact h0 (Nat.eq_zero_of_dvd_of_lt h hq)

theorem modInverse_nat_of_lawful (hC : C.Lawful) {s : ℕ} (h0 : s ≠ 0) (hq : s < C.q) :
    ∃ w, modInverse (s : Int) C.q = some w ∧ w < C.q ∧
      (w : ZMod C.q) = (s : ZMod C.q)⁻¹ := by
  haveI : Fact C.q.Prime := ⟨hC.q_prime⟩
  have hne : (((s : ℤ)) : ZMod C.q) ≠ 0 := by
    rw [Int.cast_natCast]; exact natCast_ne_zero_of_pos_lt h0 hq
  obtain ⟨w, hw, hc⟩ := modInverse_of_ne_zero hne
  refine ⟨w, hw, (modInverse_specV hw).2, ?_⟩
  rw [hc, Int.cast_natCast]

theorem smul_eq_neg_smul (hC : C.Lawful) {p : P} (hq : C.smul C.q p = C.zero) {a b : ℕ}
    (h : (a + b) % C.q = 0) : C.smul b p = C.neg (C.smul a p) := by
  rw [hC.smul_eq_neg_iff, Nat.add_comm]
  exact hC.smul_congr_of_order hq (b := 0) h

theorem neg_add_neg (hC : C.Lawful) (a b : P) : C.add (C.neg a) (C.neg b) = C.neg (C.add a b) := by
  letI := hC.groupLaws.addCommGroup
  exact (neg_add a b).symm

/-- the echoed message bytes of `finalize` (`fullLen = 0`: not requested) -/
def echo (m fullLen : ℕ) : Outcome Bytes :=
  if fullLen = 0 then .ok (natToBytesBE m)
  else if (natToBytesBE m).length > fullLen then .panic "fill-bytes"
  else .ok (padLeft fullLen (natToBytesBE m))

def lowS (q s : ℕ) : ℕ := if s > q / 2 then q - s else s

def recidOf (q rx ry s : ℕ) : ℕ :=
  let recid0 := (if rx > q then 2 else 0) ||| (if ry % 2 = 1 then 1 else 0)
  if s > q / 2 then recid0 ^^^ 1 else recid0

theorem ecdsaFinalize_eq (C : Curve P) (pub : ECPoint) (rx ry sumS m fullLen : ℕ) :
    ecdsaFinalize C pub rx ry sumS m fullLen =
      match echo m fullLen with
      | .ok mb =>
        if ecdsaVerify C pub (hashToInt C.q mb) rx (lowS C.q sumS) then
          .ok ⟨padLeft 32 (natToBytesBE rx), padLeft 32 (natToBytesBE (lowS C.q sumS)),
            padLeft 32 (natToBytesBE rx) ++ padLeft 32 (natToBytesBE (lowS C.q sumS)),
            recidOf C.q rx ry sumS, mb⟩
        else .err "signature verification failed"
      | .err e => .err e
      | .panic e => .panic e := by
  unfold ecdsaFinalize echo lowS recidOf
  by_cases h : sumS > C.q / 2
  · simp only [h, if_true]; rfl
  · simp only [h, if_false]; rfl

theorem echo_eq (m fullLen : ℕ) :
    echo m fullLen = if fullLen ≠ 0 ∧ fullLen < (natToBytesBE m).length then .panic "fill-bytes"
      else .ok (padLeft fullLen (natToBytesBE m)) := by
  unfold echo
  by_cases h0 : fullLen = 0
  · rw [if_pos h0, if_neg (fun h => h.1 h0), h0, padLeft_zero]
  · rw [if_neg h0]
    by_cases h1 : (natToBytesBE m).length > fullLen
    · rw [if_pos h1, if_pos ⟨h0, h1⟩]
    · rw [if_neg h1, if_neg (fun h => h1 h.2)]

theorem ecdsaFinalize_eq_ok_iff (C : Curve P) (pub : ECPoint) (rx ry sumS m fullLen : ℕ) (d : SigData) :
    ecdsaFinalize C pub rx ry sumS m fullLen = .ok d ↔
      (fullLen = 0 ∨ (natToBytesBE m).length ≤ fullLen) ∧
      ecdsaVerify C pub (hashToInt C.q (padLeft fullLen (natToBytesBE m))) rx (lowS C.q sumS) = true ∧
      d = ⟨padLeft 32 (natToBytesBE rx), padLeft 32 (natToBytesBE (lowS C.q sumS)),
        padLeft 32 (natToBytesBE rx) ++ padLeft 32 (natToBytesBE (lowS C.q sumS)),
        recidOf C.q rx ry sumS, padLeft fullLen (natToBytesBE m)⟩ := by
  rw [ecdsaFinalize_eq, echo_eq]
  by_cases hp : fullLen ≠ 0 ∧ fullLen < (natToBytesBE m).length
  · rw [if_pos hp]
    exact ⟨nofun, fun ⟨h, _⟩ => by omega⟩
  · rw [if_neg hp]
    have hfl : fullLen = 0 ∨ (natToBytesBE m).length ≤ fullLen := by omega
    by_cases hv : ecdsaVerify C pub (hashToInt C.q (padLeft fullLen (natToBytesBE m))) rx (lowS C.q sumS) = true
    · simp only [hv, if_true]
      exact ⟨fun h => ⟨hfl, trivial, by cases h; rfl⟩, fun ⟨_, _, h⟩ => by rw [h]⟩
    · simp only [hv]
      exact ⟨nofun, fun ⟨_, h, _⟩ => by cases h⟩

theorem lowS_le_half (q s : ℕ) : lowS q s ≤ q / 2 := by
  unfold lowS; split <;> omega

theorem lowS_lt_two_pow {q s : ℕ} (hq : q < 2 ^ 256) : lowS q s < 2 ^ 256 := by
  have := lowS_le_half q s
  omega

theorem recidOf_lt (q rx ry s : ℕ) : recidOf q rx ry s < 4 := by
  unfold recidOf
  by_cases h1 : rx > q <;> by_cases h2 : ry % 2 = 1 <;> by_cases h3 : s > q / 2 <;>
    simp only [h1, h2, h3, if_true, if_false] <;> decide

end TssVerif.AlgL
