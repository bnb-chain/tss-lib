import TssVerif.Lemmas.CurveLaw
import Mathlib.Data.Nat.ModEq
import Mathlib.Algebra.BigOperators.Group.Finset.Basic
import Mathlib.Algebra.BigOperators.Ring.Finset
import Mathlib.Tactic.Ring
/-! Scalars acting on a point of known order in an abstract commutative group: what the EdDSA share
algebra `Σ(r_i + h·w_i)·B = R + h·A` rests on. -/
set_option autoImplicit false
namespace TssVerif.AlgL

variable {G : Type*} [AddCommGroup G]

theorem nsmul_mod_of_order {B : G} {l : ℕ} (hl : l • B = 0) (a : ℕ) : (a % l) • B = a • B :=
  nsmul_congr_of_modEq hl (Nat.mod_modEq a l)

theorem sum_modEq {ι : Type*} (s : Finset ι) (f g : ι → ℕ) (l : ℕ)
    (h : ∀ i ∈ s, f i ≡ g i [MOD l]) : ∑ i ∈ s, f i ≡ ∑ i ∈ s, g i [MOD l] := by
  classical
  induction s using Finset.induction_on with
  | empty => rfl
  | insert a s ha ih =>
    rw [Finset.sum_insert ha, Finset.sum_insert ha]
    exact (h a (Finset.mem_insert_self a s)).add
      (ih fun i hi => h i (Finset.mem_insert_of_mem hi))

end TssVerif.AlgL
