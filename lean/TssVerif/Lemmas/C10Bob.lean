import TssVerif.Lemmas.C10Num
import TssVerif.Lemmas.ZkVerify
import TssVerif.Lemmas.Paillier
import TssVerif.Lemmas.C10Schnorr
/-! Completeness of Bob's proofs (`mta.ProofBob`, `mta.ProofBobWC`) on every lawful curve.
The verifier on natural-number inputs (`bobVerify_eq_true`), the Paillier response congruence, the prover's output in
closed form (`bobProve_some`), the point check, the side conditions `BobGood` and their necessity, toy runs. -/
set_option autoImplicit false
namespace TssVerif.C10L
open TssVerif Zk Vss

variable {P : Type} {C : Curve P}

/-- the verifier on a proof whose fields are (casts of) naturals: every guard and the four final equations as
hypotheses -/
theorem bobVerify_eq_true (H : HashFn) (sess : Bytes) (n ntilde h1 h2 c1 c2 : Nat)
    (z zP t v w s s1 s2 t1 t2 : Nat) (xu : Option (ECPoint × ECPoint))
    (hn : 0 < n) (hnt : 0 < ntilde)
    (hz : z < ntilde) (hzP : zP < ntilde) (ht : t < ntilde) (hv : v < n * n) (hw : w < ntilde) (hs : s < n)
    (gz : Nat.gcd z ntilde = 1) (gzP : Nat.gcd zP ntilde = 1) (gt : Nat.gcd t ntilde = 1)
    (gv2 : Nat.gcd v (n * n) = 1) (gw : Nat.gcd w ntilde = 1) (s0 : s ≠ 0) (gs : Nat.gcd s n = 1)
    (v0 : v ≠ 0) (gv : Nat.gcd v n = 1)
    (ls1 : C.q ≤ s1) (ls2 : C.q ≤ s2) (lt1 : C.q ≤ t1) (lt2 : C.q ≤ t2)
    (us1 : s1 ≤ C.q ^ 3) (ut1 : t1 ≤ C.q ^ 7)
    (e : Nat) (he : e = bobChallenge C H sess n c1 c2 xu ⟨z, zP, t, v, w, s, s1, s2, t1, t2⟩)
    (hpt : ∀ X U, xu = some (X, U) → s1 % C.q ≠ 0 ∧ e ≠ 0 ∧ ∃ g xe,
      C.ecBaseMult ((s1 % C.q : Nat) : Int) = .ok g ∧ C.ecScalarMult X (e : Int) = .ok xe ∧ C.ecAdd xe U = .ok g)
    (h5 : h1 ^ s1 * h2 ^ s2 ≡ z ^ e * zP [MOD ntilde])
    (h6 : h1 ^ t1 * h2 ^ t2 ≡ t ^ e * w [MOD ntilde])
    (h7 : c1 ^ s1 * s ^ n * (n + 1) ^ t1 ≡ c2 ^ e * v [MOD n * n]) :
    bobVerify C H cur sess n ntilde h1 h2 c1 c2 ⟨z, zP, t, v, w, s, s1, s2, t1, t2⟩ xu = .ok true := by
  have hnt0 : ntilde ≠ 0 := Nat.pos_iff_ne_zero.1 hnt
  have hn20 : n * n ≠ 0 := Nat.mul_ne_zero (Nat.pos_iff_ne_zero.1 hn) (Nat.pos_iff_ne_zero.1 hn)
  have e5 : h1 ^ s1 % ntilde * (h2 ^ s2 % ntilde) % ntilde = z ^ e % ntilde * zP % ntilde := by
    rw [← Nat.mul_mod, Nat.mod_mul_mod]; exact h5
  have e6 : h1 ^ t1 % ntilde * (h2 ^ t2 % ntilde) % ntilde = t ^ e % ntilde * w % ntilde := by
    rw [← Nat.mul_mod, Nat.mod_mul_mod]; exact h6
  have e7 : c1 ^ s1 % (n * n) * (s ^ n % (n * n)) % (n * n) * ((n + 1) ^ t1 % (n * n)) % (n * n)
      = c2 ^ e % (n * n) * v % (n * n) := by
    have l : c1 ^ s1 % (n * n) * (s ^ n % (n * n)) % (n * n) * ((n + 1) ^ t1 % (n * n))
        ≡ c1 ^ s1 * s ^ n * (n + 1) ^ t1 [MOD n * n] :=
      (mod_mul_mod_modEq _ _ _).mul (Nat.mod_modEq _ _)
    have r : c2 ^ e % (n * n) * v ≡ c2 ^ e * v [MOD n * n] := (Nat.mod_modEq _ _).mul_right _
    exact l.trans (h7.trans r.symm)
  have q3 : (C.q : Int) * C.q * C.q = ((C.q ^ 3 : Nat) : Int) := by push_cast; ring
  have q7 : ((C.q ^ 3 : Nat) : Int) * ((C.q ^ 3 : Nat) : Int) * C.q = ((C.q ^ 7 : Nat) : Int) := by
    push_cast; ring
  rw [bobVerify_eq_true_iff, ← he]
  refine ⟨?_, ?_, ?_⟩
  · unfold BobGuards
    simp only [natCast_sq n, q3, q7, Int.gcd_natCast_natCast, Nat.cast_nonneg, true_and, Nat.cast_lt, Nat.cast_le,
      ne_eq, Nat.cast_eq_zero]
    exact ⟨hz, hzP, ht, hv, hw, hs, gz, gzP, gt, gv2, gw, s0, gs, v0, gv, ls1, ls2, lt1, lt2, us1, ut1⟩
  · cases xu with
    | none => trivial
    | some XU =>
      obtain ⟨X, U⟩ := XU
      obtain ⟨hs1q, he0, g, xe, hg, hxe, hadd⟩ := hpt X U rfl
      simp only [BobPointOk, emod_natCast_toNat, ← he]
      exact ⟨fun _ => ⟨hs1q, he0⟩, g, xe, hg, hxe, hadd⟩
  · unfold bobTail
    simp only [natCast_sq n, natCast_succ, Int.natAbs_natCast, expP_nat _ _ hnt0, expP_nat _ _ hn20,
      Outcome.ok_bind, mulI_nat, e5, e6, e7, bne_self_eq_false, Bool.false_eq_true, if_false, beq_self_eq_true]

/-- the verification equation of the sigma protocol for `c2 = c1^x · (N+1)^y · r^N mod N²`, with the response
`s = r^e · be mod N` lifted to an `N`-th power modulo `N²` -/
theorem paillier_response_modEq {n c1 c2 x y r al ga be s v : Nat} (e : Nat)
    (hc2 : c2 ≡ c1 ^ x * (n + 1) ^ y * r ^ n [MOD n * n])
    (hv : v ≡ c1 ^ al * (n + 1) ^ ga * be ^ n [MOD n * n])
    (hs : s ≡ r ^ e * be [MOD n]) :
    c1 ^ (e * x + al) * s ^ n * (n + 1) ^ (e * y + ga) ≡ c2 ^ e * v [MOD n * n] := by
  have h := (hc2.pow e).mul hv
  have hsn : s ^ n ≡ (r ^ e * be) ^ n [MOD n * n] := pow_n_modEq_sq hs
  have e1 : (c1 ^ x * (n + 1) ^ y * r ^ n) ^ e * (c1 ^ al * (n + 1) ^ ga * be ^ n)
      = c1 ^ (e * x + al) * (r ^ e * be) ^ n * (n + 1) ^ (e * y + ga) := by ring
  rw [e1] at h
  exact (((Nat.ModEq.refl _).mul hsn).mul (Nat.ModEq.refl _)).trans h.symm

theorem bob_ne_zero_of_coprime {s n : Nat} (hn : 1 < n) (h : Nat.Coprime s n) : s ≠ 0 := by
  rintro rfl
  rw [Nat.Coprime, Nat.gcd_zero_left] at h
  omega

/-- the part of Bob's proof that enters the challenge (the other fields are `0`), as `bobProve` computes it -/
def bobPf0 (n ntilde h1 h2 c1 x y : Nat) (k : BobCoins) : BobProof :=
  let n2 := n * n
  let z := modPow h1 x ntilde * modPow h2 k.rho ntilde % ntilde
  let zPrm := modPow h1 k.alpha ntilde * modPow h2 k.rhoPrm ntilde % ntilde
  let t := modPow h1 y ntilde * modPow h2 k.sigma ntilde % ntilde
  let v := modPow c1 k.alpha n2 * modPow (n + 1) k.gamma n2 % n2 * modPow k.beta n n2 % n2
  let w := modPow h1 k.gamma ntilde * modPow h2 k.tau ntilde % ntilde
  ⟨z, zPrm, t, v, w, 0, 0, 0, 0, 0⟩

/-- Bob's proof for the challenge `e`: the commitments of `bobPf0` and the responses `s = r^e·beta mod n`,
`s1 = e·x + alpha`, `s2 = e·rho + rhoPrm`, `t1 = e·y + gamma`, `t2 = e·sigma + tau`. With `e = bobE …` this is what
`bobProve` returns (`bobProve_none`, `bobProve_some`); `e` is a parameter so that the verifier can be run on it before
the two challenges are identified. -/
def bobPfE (n ntilde h1 h2 c1 x y r : Nat) (k : BobCoins) (e : Nat) : BobProof :=
  { bobPf0 n ntilde h1 h2 c1 x y k with
    s := modPow r e n * k.beta % n, s1 := e * x + k.alpha, s2 := e * k.rho + k.rhoPrm,
    t1 := e * y + k.gamma, t2 := e * k.sigma + k.tau }

/-- the point `U = alpha·G` of the "with check" variant (`none` without check, or where `ScalarBaseMult` crashes) -/
def bobU (C : Curve P) (X : Option ECPoint) (alpha : Nat) : Option ECPoint :=
  match X with
  | none => none
  | some _ => C.toAffine (C.smul alpha C.base)

/-- the pair the verifier of the variant with check receives: the statement's `X` and the prover's `U`; `none` (no
check) unless both are present -/
def bobXU (X u : Option ECPoint) : Option (ECPoint × ECPoint) :=
  match X, u with
  | some X, some U => some (X, U)
  | _, _ => none

/-- the prover's challenge, computed exactly as in `bobProve` -/
def bobE (C : Curve P) (H : HashFn) (sess : Bytes) (n ntilde h1 h2 c1 c2 x y : Nat) (X : Option ECPoint)
    (k : BobCoins) : Nat :=
  bobChallenge C H sess n c1 c2 (bobXU X (bobU C X k.alpha)) (bobPf0 n ntilde h1 h2 c1 x y k)

/-- with check, the prover's challenge is the verifier's challenge for `(X, U)`, `U = alpha·G` -/
theorem bobE_some (H : HashFn) (sess : Bytes) (n ntilde h1 h2 c1 c2 x y : Nat) (Xp : ECPoint) (k : BobCoins)
    {U : ECPoint} (hU : C.toAffine (C.smul k.alpha C.base) = some U) :
    bobE C H sess n ntilde h1 h2 c1 c2 x y (some Xp) k =
      bobChallenge C H sess n c1 c2 (some (Xp, U)) (bobPf0 n ntilde h1 h2 c1 x y k) := by
  unfold bobE bobU; simp only [hU]; rfl

theorem bobChallenge_lt (hC : C.Lawful) (H : HashFn) (sess : Bytes) (n c1 c2 : Int)
    (xu : Option (ECPoint × ECPoint)) (pf : BobProof) : bobChallenge C H sess n c1 c2 xu pf < C.q :=
  Nat.mod_lt _ hC.q_pos

theorem bobProve_none (H : HashFn) (sess : Bytes) (n ntilde h1 h2 c1 c2 x y r : Nat) (k : BobCoins) :
    bobProve C H sess n ntilde h1 h2 c1 c2 x y r none k =
      .ok (bobPfE n ntilde h1 h2 c1 x y r k (bobE C H sess n ntilde h1 h2 c1 c2 x y none k), none) := rfl

theorem bobProve_some (H : HashFn) (sess : Bytes) (n ntilde h1 h2 c1 c2 x y r : Nat) (Xp U : ECPoint)
    (k : BobCoins) (hU : C.toAffine (C.smul k.alpha C.base) = some U) :
    bobProve C H sess n ntilde h1 h2 c1 c2 x y r (some Xp) k =
      .ok (bobPfE n ntilde h1 h2 c1 x y r k (bobE C H sess n ntilde h1 h2 c1 c2 x y (some Xp) k), some U) := by
  unfold bobProve bobE bobU
  simp only [ecBaseMult_nat_ok hU, Outcome.bind, Outcome.pure_eq, Outcome.ok_bind, hU]
  rfl

/-- the fields of `bobPfE` as casts of naturals, `modPow` evaluated -/
theorem bobPfE_eq (n ntilde h1 h2 c1 x y r : Nat) (k : BobCoins) (e : Nat) :
    bobPfE n ntilde h1 h2 c1 x y r k e =
      ⟨((h1 ^ x % ntilde * (h2 ^ k.rho % ntilde) % ntilde : Nat) : Int),
       ((h1 ^ k.alpha % ntilde * (h2 ^ k.rhoPrm % ntilde) % ntilde : Nat) : Int),
       ((h1 ^ y % ntilde * (h2 ^ k.sigma % ntilde) % ntilde : Nat) : Int),
       ((c1 ^ k.alpha % (n * n) * ((n + 1) ^ k.gamma % (n * n)) % (n * n) * (k.beta ^ n % (n * n)) % (n * n) : Nat) : Int),
       ((h1 ^ k.gamma % ntilde * (h2 ^ k.tau % ntilde) % ntilde : Nat) : Int),
       ((r ^ e % n * k.beta % n : Nat) : Int),
       ((e * x + k.alpha : Nat) : Int), ((e * k.rho + k.rhoPrm : Nat) : Int),
       ((e * y + k.gamma : Nat) : Int), ((e * k.sigma + k.tau : Nat) : Int)⟩ := by
  unfold bobPfE bobPf0
  simp only [modPow_spec]
  push_cast
  rfl

/-- the verifier accepts the honest proof computed with the challenge it will recompute; the point equation
of the "with check" variant is a hypothesis here -/
theorem bob_core (H : HashFn) (sess : Bytes) (n ntilde h1 h2 c1 c2 x y r : Nat) (k : BobCoins)
    (xu : Option (ECPoint × ECPoint)) (e : Nat)
    (hn : 1 < n) (hnt : 0 < ntilde)
    (hh1 : Nat.Coprime h1 ntilde) (hh2 : Nat.Coprime h2 ntilde)
    (hc1 : Nat.Coprime c1 n) (hr : Nat.Coprime r n) (hbeta : Nat.Coprime k.beta n)
    (hc2 : c2 ≡ c1 ^ x * (n + 1) ^ y * r ^ n [MOD n * n])
    (he : e = bobChallenge C H sess n c1 c2 xu (bobPf0 n ntilde h1 h2 c1 x y k))
    (ls1 : C.q ≤ e * x + k.alpha) (ls2 : C.q ≤ e * k.rho + k.rhoPrm)
    (lt1 : C.q ≤ e * y + k.gamma) (lt2 : C.q ≤ e * k.sigma + k.tau)
    (us1 : e * x + k.alpha ≤ C.q ^ 3) (ut1 : e * y + k.gamma ≤ C.q ^ 7)
    (hpt : ∀ X U, xu = some (X, U) → (e * x + k.alpha) % C.q ≠ 0 ∧ e ≠ 0 ∧ ∃ g xe,
      C.ecBaseMult (((e * x + k.alpha) % C.q : Nat) : Int) = .ok g ∧ C.ecScalarMult X (e : Int) = .ok xe ∧
        C.ecAdd xe U = .ok g) :
    bobVerify C H cur sess n ntilde h1 h2 c1 c2 (bobPfE n ntilde h1 h2 c1 x y r k e) xu = .ok true := by
  have hn0 : 0 < n := by omega
  have hn2 : 0 < n * n := Nat.mul_pos hn0 hn0
  have cn1 : Nat.Coprime (n + 1) (n * n) := coprime_sq (PaillierL.coprime_succ_self n)
  have cV : Nat.Coprime
      (c1 ^ k.alpha % (n * n) * ((n + 1) ^ k.gamma % (n * n)) % (n * n) * (k.beta ^ n % (n * n)) % (n * n))
      (n * n) :=
    coprime_mod (Nat.Coprime.mul_left (coprime_mul_pow_mod k.alpha k.gamma (coprime_sq hc1) cn1)
      (coprime_mod ((coprime_sq hbeta).pow_left n)))
  have cS : Nat.Coprime (r ^ e % n * k.beta % n) n :=
    coprime_mod (Nat.Coprime.mul_left (coprime_mod (hr.pow_left e)) hbeta)
  have cVn : Nat.Coprime
      (c1 ^ k.alpha % (n * n) * ((n + 1) ^ k.gamma % (n * n)) % (n * n) * (k.beta ^ n % (n * n)) % (n * n)) n :=
    Nat.Coprime.coprime_mul_left_right cV
  rw [bobPfE_eq]
  refine bobVerify_eq_true (C := C) H sess n ntilde h1 h2 c1 c2 _ _ _ _ _ _ _ _ _ _ xu hn0 hnt
    (Nat.mod_lt _ hnt) (Nat.mod_lt _ hnt) (Nat.mod_lt _ hnt) (Nat.mod_lt _ hn2) (Nat.mod_lt _ hnt)
    (Nat.mod_lt _ hn0)
    (coprime_mul_pow_mod x k.rho hh1 hh2) (coprime_mul_pow_mod k.alpha k.rhoPrm hh1 hh2)
    (coprime_mul_pow_mod y k.sigma hh1 hh2) cV (coprime_mul_pow_mod k.gamma k.tau hh1 hh2)
    (bob_ne_zero_of_coprime hn cS) cS (bob_ne_zero_of_coprime hn cVn) cVn
    ls1 ls2 lt1 lt2 us1 ut1 e ?_ hpt ?_ ?_ ?_
  · rw [he]
    unfold bobChallenge bobPf0
    simp only [modPow_spec]
  · exact ped_response_modEq e (mod_mul_mod_modEq _ _ _) (mod_mul_mod_modEq _ _ _)
  · exact ped_response_modEq e (mod_mul_mod_modEq _ _ _) (mod_mul_mod_modEq _ _ _)
  · refine paillier_response_modEq (be := k.beta) e hc2 ?_ ?_
    · exact (Nat.mod_modEq _ _).trans ((mod_mul_mod_modEq _ _ _).mul (Nat.mod_modEq _ _))
    · exact (Nat.mod_modEq _ _).trans ((Nat.mod_modEq _ _).mul_right _)

/-- The side conditions on Bob's coins `k` (and inputs) that the verifier checks and that do not follow from the
honest relation: `beta` is a unit modulo `N` (the Go prover samples it from `Z_N^*`); the responses `s1, s2, t1, t2`
are at least `q` and `s1 ≤ q³`, `t1 ≤ q⁷`; in the variant with check (`X = some _`) additionally the challenge is
non-zero, `s1 ≢ 0 (mod q)` (both guards of the verifier under `Cfg.bobWCGuards`), and on a curve whose identity has
no affine form `alpha ≢ 0 (mod q)` (the prover's `ScalarBaseMult(alpha)` would crash). `r` does not enter; the argument is kept so that `BobGood` takes the same list as `bobProve`. -/
def BobGood (C : Curve P) (H : HashFn) (sess : Bytes) (n ntilde h1 h2 c1 c2 x y _r : Nat) (X : Option ECPoint)
    (k : BobCoins) : Prop :=
  let q := C.q
  let e := bobE C H sess n ntilde h1 h2 c1 c2 x y X k
  Nat.gcd k.beta n = 1 ∧
  q ≤ e * x + k.alpha ∧ q ≤ e * k.rho + k.rhoPrm ∧ q ≤ e * y + k.gamma ∧ q ≤ e * k.sigma + k.tau ∧
  e * x + k.alpha ≤ q ^ 3 ∧ e * y + k.gamma ≤ q ^ 7 ∧
  (X.isSome = true →
    e ≠ 0 ∧ (e * x + k.alpha) % q ≠ 0 ∧ (C.toAffine C.zero = none → k.alpha % q ≠ 0))

instance (C : Curve P) (H : HashFn) (sess : Bytes) (n ntilde h1 h2 c1 c2 x y r : Nat) (X : Option ECPoint)
    (k : BobCoins) : Decidable (BobGood C H sess n ntilde h1 h2 c1 c2 x y r X k) := by
  unfold BobGood; infer_instance

/-- the point equation of the variant with check: `(s1 mod q)·G = e·X + U` with all three points affine -/
theorem bob_point (hC : C.Lawful) {x alpha e : Nat} {Xp U : ECPoint}
    (hX : C.toAffine (C.smul x C.base) = some Xp) (hU : C.toAffine (C.smul alpha C.base) = some U)
    (he0 : e ≠ 0) (helt : e < C.q) (hs1 : (e * x + alpha) % C.q ≠ 0) :
    ∃ g xe, C.ecBaseMult (((e * x + alpha) % C.q : Nat) : Int) = .ok g ∧
      C.ecScalarMult Xp (e : Int) = .ok xe ∧ C.ecAdd xe U = .ok g := by
  have hlX : C.lift Xp = some (C.smul x C.base) := lift_of_toAffine hC hX
  obtain ⟨g, hg⟩ := toAffine_smul_base_isSome hC (k := (e * x + alpha) % C.q) (by rw [Nat.mod_mod]; exact hs1)
  have heX : C.smul e (C.smul x C.base) = C.smul (e * x) C.base := (hC.smul_mul e x C.base).symm
  obtain ⟨xe, hxe⟩ := toAffine_smul_smul_base_some hC hX he0 helt
  have hsum : C.toAffine (C.add (C.smul e (C.smul x C.base)) (C.smul alpha C.base)) = some g := by
    rw [heX, ← hC.smul_add, hC.smul_base_mod]; exact hg
  exact ⟨g, xe, ecBaseMult_nat_ok hg, ecScalarMult_nat_ok hlX hxe,
    ecAdd_ok (lift_of_toAffine hC hxe) (lift_of_toAffine hC hU) hsum⟩

/-- **Completeness of Bob's proof**, without check (`X = none`: `ProveBob` / `(*ProofBob).Verify`) and with check
(`X = some Xp`: `ProveBobWC` / `(*ProofBobWC).Verify`, the verifier receives `(X, U)` with the prover's `U`).
`hc2` says `c2 = x ⊙ c1 ⊕ Enc(y; r)`; `hX` (used with check only) says `X = x·G`. `1 < n` cannot be weakened:
for `n = 1` the response `s` is `0`, which the verifier rejects (see the examples); `0 < ntilde` suffices. -/
theorem bob_complete_aux (hC : C.Lawful) (H : HashFn) (sess : Bytes) (n ntilde h1 h2 c1 c2 x y r : Nat)
    (X : Option ECPoint) (k : BobCoins)
    (hn : 1 < n) (hnt : 0 < ntilde)
    (hh1 : Nat.Coprime h1 ntilde) (hh2 : Nat.Coprime h2 ntilde)
    (hc1 : Nat.Coprime c1 n) (hr : Nat.Coprime r n)
    (hc2 : c2 ≡ c1 ^ x * (n + 1) ^ y * r ^ n [MOD n * n])
    (hX : ∀ Xp, X = some Xp → C.toAffine (C.smul x C.base) = some Xp)
    (hg : BobGood C H sess n ntilde h1 h2 c1 c2 x y r X k) :
    (bobProve C H sess n ntilde h1 h2 c1 c2 x y r X k >>= fun pu =>
      bobVerify C H cur sess n ntilde h1 h2 c1 c2 pu.1 (bobXU X pu.2)) = .ok true := by
  obtain ⟨hbeta, ls1, ls2, lt1, lt2, us1, ut1, hwc⟩ := hg
  cases X with
  | none =>
    rw [bobProve_none]
    exact bob_core H sess n ntilde h1 h2 c1 c2 x y r k none _ hn hnt hh1 hh2 hc1 hr hbeta hc2 rfl
      ls1 ls2 lt1 lt2 us1 ut1 (fun _ _ h => by cases h)
  | some Xp =>
    obtain ⟨he0, hs1, halpha⟩ := hwc rfl
    have hXp := hX Xp rfl
    obtain ⟨U, hU⟩ := toAffine_some_of hC (C.smul k.alpha C.base) fun hz h0 =>
      halpha hz ((hC.smul_base_eq_zero_iff k.alpha).1 h0)
    have hE := bobE_some H sess n ntilde h1 h2 c1 c2 x y Xp k hU
    rw [bobProve_some H sess n ntilde h1 h2 c1 c2 x y r Xp U k hU]
    have helt : bobE C H sess n ntilde h1 h2 c1 c2 x y (some Xp) k < C.q := by
      rw [hE]; exact bobChallenge_lt hC ..
    refine bob_core H sess n ntilde h1 h2 c1 c2 x y r k (some (Xp, U)) _ hn hnt hh1 hh2 hc1 hr hbeta hc2 hE
      ls1 ls2 lt1 lt2 us1 ut1 ?_
    intro X' U' h
    cases h
    exact ⟨hs1, he0, bob_point hC hXp hU he0 helt hs1⟩

theorem bobProve_some_panic (H : HashFn) (sess : Bytes) (n ntilde h1 h2 c1 c2 x y r : Nat) (Xp : ECPoint)
    (k : BobCoins) (hU : C.toAffine (C.smul k.alpha C.base) = none) :
    bobProve C H sess n ntilde h1 h2 c1 c2 x y r (some Xp) k = .panic "scalar-base-mult-identity" := by
  unfold bobProve
  simp only [ecBaseMult_none C hU, Outcome.bind]
  rfl

/-- extraction of `BobGood` from the guard facts about the honest proof -/
theorem bobGood_of_guards (H : HashFn) (sess : Bytes) (n ntilde h1 h2 c1 c2 x y r : Nat)
    (X : Option ECPoint) (k : BobCoins) (xu : Option (ECPoint × ECPoint)) (e : Nat)
    (he : e = bobE C H sess n ntilde h1 h2 c1 c2 x y X k)
    (hce : bobChallenge C H sess n c1 c2 xu (bobPfE n ntilde h1 h2 c1 x y r k e) = e)
    (hxu : X.isSome = true → xu.isSome = true)
    (halpha : X.isSome = true → C.toAffine C.zero = none → k.alpha % C.q ≠ 0)
    (h : bobVerify C H cur sess n ntilde h1 h2 c1 c2 (bobPfE n ntilde h1 h2 c1 x y r k e) xu = .ok true) :
    BobGood C H sess n ntilde h1 h2 c1 c2 x y r X k := by
  obtain ⟨⟨-, -, -, -, -, -, -, -, -, -, -, -, gs, -, -, b1, b2, b3, b4, b5, b6⟩, hp, -⟩ :=
    (bobVerify_eq_true_iff C H cur sess n ntilde h1 h2 c1 c2 _ xu).1 h
  simp only [bobPfE, bobPf0] at gs b1 b2 b3 b4 b5 b6
  rw [← Nat.cast_mul, ← Int.natCast_mod, Int.gcd_natCast_natCast] at gs
  have hbeta : Nat.gcd k.beta n = 1 :=
    eq_one_of_dvd_of_coprime_mul_mod (Nat.gcd_dvd_right _ _) (Nat.gcd_dvd_left _ _) gs
  have q3 : C.q ^ 3 = C.q * C.q * C.q := by ring
  have q7 : C.q ^ 7 = C.q * C.q * C.q * (C.q * C.q * C.q) * C.q := by ring
  unfold BobGood
  dsimp only
  rw [← he, q3, q7]
  refine ⟨hbeta, by exact_mod_cast b1, by exact_mod_cast b2, by exact_mod_cast b3, by exact_mod_cast b4,
    by exact_mod_cast b5, by exact_mod_cast b6, fun hX => ?_⟩
  cases xu with
  | none => exact absurd (hxu hX) (by simp)
  | some XU =>
    obtain ⟨X', U'⟩ := XU
    obtain ⟨w1, w2⟩ := hp.1 rfl
    rw [hce] at w2
    simp only [bobPfE, bobPf0] at w1
    have ec : (e : Int) * (x : Int) + (k.alpha : Int) = ((e * x + k.alpha : Nat) : Int) := by push_cast; rfl
    rw [ec, emod_natCast_toNat] at w1
    exact ⟨w2, w1, halpha hX⟩

/-- **`BobGood` is necessary**: if the honest prover runs and the verifier accepts, then `BobGood` holds.
Together with `bob_complete_aux`: under the hypotheses of that theorem, acceptance ↔ `BobGood`. Only lawfulness
of the curve is needed (for: `alpha ≡ 0 (mod q)` makes `ScalarBaseMult(alpha)` crash when the identity has no
affine form). -/
theorem bob_good_of_accept (hC : C.Lawful) (H : HashFn) (sess : Bytes) (n ntilde h1 h2 c1 c2 x y r : Nat)
    (X : Option ECPoint) (k : BobCoins)
    (h : (bobProve C H sess n ntilde h1 h2 c1 c2 x y r X k >>= fun pu =>
      bobVerify C H cur sess n ntilde h1 h2 c1 c2 pu.1 (bobXU X pu.2)) = .ok true) :
    BobGood C H sess n ntilde h1 h2 c1 c2 x y r X k := by
  cases X with
  | none =>
    rw [bobProve_none] at h
    exact bobGood_of_guards H sess n ntilde h1 h2 c1 c2 x y r none k none _ rfl rfl
      (fun hX => by cases hX) (fun hX => by cases hX) h
  | some Xp =>
    cases hr : C.toAffine (C.smul k.alpha C.base) with
    | none =>
      rw [bobProve_some_panic H sess n ntilde h1 h2 c1 c2 x y r Xp k hr] at h
      cases h
    | some U =>
      rw [bobProve_some H sess n ntilde h1 h2 c1 c2 x y r Xp U k hr] at h
      refine bobGood_of_guards H sess n ntilde h1 h2 c1 c2 x y r (some Xp) k (some (Xp, U)) _ rfl
        (bobE_some H sess n ntilde h1 h2 c1 c2 x y Xp k hr).symm
        (fun _ => rfl) ?_ h
      intro _ hz h0
      have := (toAffine_smul_base_eq_none_iff hC k.alpha).2 ⟨h0, hz⟩
      rw [hr] at this
      cases this

/-- under the hypotheses of `bob_complete_aux`, the honest run is accepted exactly when `BobGood` holds -/
theorem bob_accept_iff (hC : C.Lawful) (H : HashFn) (sess : Bytes) (n ntilde h1 h2 c1 c2 x y r : Nat)
    (X : Option ECPoint) (k : BobCoins)
    (hn : 1 < n) (hnt : 0 < ntilde)
    (hh1 : Nat.Coprime h1 ntilde) (hh2 : Nat.Coprime h2 ntilde)
    (hc1 : Nat.Coprime c1 n) (hr : Nat.Coprime r n)
    (hc2 : c2 ≡ c1 ^ x * (n + 1) ^ y * r ^ n [MOD n * n])
    (hX : ∀ Xp, X = some Xp → C.toAffine (C.smul x C.base) = some Xp) :
    (bobProve C H sess n ntilde h1 h2 c1 c2 x y r X k >>= fun pu =>
      bobVerify C H cur sess n ntilde h1 h2 c1 c2 pu.1 (bobXU X pu.2)) = .ok true ↔
    BobGood C H sess n ntilde h1 h2 c1 c2 x y r X k :=
  ⟨bob_good_of_accept hC H sess n ntilde h1 h2 c1 c2 x y r X k,
   bob_complete_aux hC H sess n ntilde h1 h2 c1 c2 x y r X k hn hnt hh1 hh2 hc1 hr hc2 hX⟩

/-! ### non-vacuity: tiny instances on the proved-lawful toy curves of order 23

`N = 35`, `NTilde = 33`, `h1 = 2`, `h2 = 5`, `c1 = 2`, `x = 4`, `y = 6`, `r = 3`,
`c2 = c1^x · (N+1)^y · r^N mod N² = 1032`; a constant hash gives the challenge `e = 3`; coins
`alpha = 20, rho = 7, sigma = 5, tau = 11, rhoPrm = 10, beta = 2, gamma = 9`, hence
`s1 = 32, s2 = 31, t1 = 27, t2 = 26` (all in `[23, 23³]`), `s1 mod 23 = 9`. -/
section examples

local instance bobFact23 : Fact (Nat.Prime 23) := ⟨by decide⟩

def bobExCoins : BobCoins := ⟨20, 7, 5, 11, 10, 2, 9⟩

/-- without check, on the curve whose identity has an affine form -/
example : (bobProve (zmodCurve 23) (fun _ => [3]) [] 35 33 2 5 2 1032 4 6 3 none bobExCoins >>= fun pu =>
    bobVerify (zmodCurve 23) (fun _ => [3]) cur [] 35 33 2 5 2 1032 pu.1 (bobXU none pu.2)) = .ok true :=
  bob_complete_aux (zmodCurve_lawful 23) (fun _ => [3]) [] 35 33 2 5 2 1032 4 6 3 none bobExCoins
    (by decide) (by decide) (by decide) (by decide) (by decide) (by decide) (by decide)
    (fun _ h => by cases h) (by decide)

/-- with check, on the curve whose identity has no affine form; `X = 4·G = (4, 0)` -/
example : (bobProve (zmodCurveW 23) (fun _ => [3]) [] 35 33 2 5 2 1032 4 6 3 (some (4, 0)) bobExCoins >>= fun pu =>
    bobVerify (zmodCurveW 23) (fun _ => [3]) cur [] 35 33 2 5 2 1032 pu.1 (bobXU (some (4, 0)) pu.2)) = .ok true :=
  bob_complete_aux (zmodCurveW_lawful 23) (fun _ => [3]) [] 35 33 2 5 2 1032 4 6 3 (some (4, 0)) bobExCoins
    (by decide) (by decide) (by decide) (by decide) (by decide) (by decide) (by decide)
    (fun Xp h => by cases h; decide) (by decide)

/-- with check, on the curve whose identity has an affine form -/
example : BobGood (zmodCurve 23) (fun _ => [3]) [] 35 33 2 5 2 1032 4 6 3 (some (4, 0)) bobExCoins := by decide

/-- the prover's challenge and output in the example with check -/
example : bobE (zmodCurveW 23) (fun _ => [3]) [] 35 33 2 5 2 1032 4 6 (some (4, 0)) bobExCoins = 3 := by decide

example : bobProve (zmodCurveW 23) (fun _ => [3]) [] 35 33 2 5 2 1032 4 6 3 (some (4, 0)) bobExCoins =
    .ok (⟨26, 1, 20, 688, 19, 19, 32, 31, 27, 26⟩, some (20, 0)) := by decide

/-- the model runs agree with the theorem -/
example : (bobProve (zmodCurve 23) (fun _ => [3]) [] 35 33 2 5 2 1032 4 6 3 none bobExCoins >>= fun pu =>
    bobVerify (zmodCurve 23) (fun _ => [3]) cur [] 35 33 2 5 2 1032 pu.1 (bobXU none pu.2)) = .ok true := by
  decide

example : (bobProve (zmodCurveW 23) (fun _ => [3]) [] 35 33 2 5 2 1032 4 6 3 (some (4, 0)) bobExCoins >>= fun pu =>
    bobVerify (zmodCurveW 23) (fun _ => [3]) cur [] 35 33 2 5 2 1032 pu.1 (bobXU (some (4, 0)) pu.2)) = .ok true := by
  decide

/-- a coin violating `BobGood` (`alpha = 11` makes `s1 = 23 ≡ 0 (mod q)`): the verifier with check rejects -/
example : ¬ BobGood (zmodCurveW 23) (fun _ => [3]) [] 35 33 2 5 2 1032 4 6 3 (some (4, 0))
    ⟨11, 7, 5, 11, 10, 2, 9⟩ := by decide

example : (bobProve (zmodCurveW 23) (fun _ => [3]) [] 35 33 2 5 2 1032 4 6 3 (some (4, 0)) ⟨11, 7, 5, 11, 10, 2, 9⟩
    >>= fun pu => bobVerify (zmodCurveW 23) (fun _ => [3]) cur [] 35 33 2 5 2 1032 pu.1
      (bobXU (some (4, 0)) pu.2)) = .ok false := by
  decide

/-- `1 < n` is needed: with `n = 1` every other hypothesis (including `BobGood`) holds and the verifier rejects -/
example : BobGood (zmodCurve 23) (fun _ => [3]) [] 1 33 2 5 0 0 4 6 0 none bobExCoins := by decide

example : (bobProve (zmodCurve 23) (fun _ => [3]) [] 1 33 2 5 0 0 4 6 0 none bobExCoins >>= fun pu =>
    bobVerify (zmodCurve 23) (fun _ => [3]) cur [] 1 33 2 5 0 0 pu.1 (bobXU none pu.2)) = .ok false := by
  decide

end examples

end TssVerif.C10L
