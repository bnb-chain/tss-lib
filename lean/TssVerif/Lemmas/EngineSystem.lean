import TssVerif.Lemmas.EngineWait
/-! A closed system of `n` parties over one all-to-all table: no quiescent state short of the final round. -/
set_option autoImplicit false
namespace TssVerif.EngineL
open TssVerif.Engine

variable {tbl : List RoundSpec} {p : Party} {r : RoundSpec} {n : Nat}

/-- the flag a genuine message of type `ty` carries: broadcast unless the type is emitted once per peer -/
def flagOf (tbl : List RoundSpec) (ty : Nat) : Bool :=
  match (tbl.flatMap (·.emits)).find? (fun e => e.1 == ty) with
  | some e => !e.2
  | none => true

/-- channel discipline: every round requires a type with the flag its genuine messages carry -/
def disciplined (tbl : List RoundSpec) : Bool :=
  tbl.all fun r => r.needs.all fun tf => tf.2 == flagOf tbl tf.1

/-- all-to-all: every type a non-final round needs (from every sender) is emitted by every party in that round
or an earlier one, and the party's own share of the requirement is met by its own `Start`
(`ok[self]` is set, or own copies of everything needed are put into the own slot) -/
def allToAll (tbl : List RoundSpec) : Bool :=
  (List.range tbl.length).all fun k => match tbl[k]? with
    | none => true
    | some r => r.final ||
        (r.needs.all (fun tf => (tbl.take (k + 1)).any fun r' => r'.emits.any fun e => e.1 == tf.1) &&
         (r.selfOk || r.needs.all fun tf => r.selfStore.find? (fun x => x.1 == tf.1) == some tf))

theorem disciplined_spec (h : disciplined tbl = true) (hr : r ∈ tbl)
    {tf : Nat × Bool} (htf : tf ∈ r.needs) : tf.2 = flagOf tbl tf.1 := by
  simp only [disciplined, List.all_eq_true] at h
  exact eq_of_beq (h r hr tf htf)

theorem allToAll_spec (h : allToAll tbl = true) {k : Nat} {r : RoundSpec}
    (hr : tbl[k]? = some r) (hf : r.final = false) :
    (∀ tf ∈ r.needs, ∃ k' r', k' ≤ k ∧ tbl[k']? = some r' ∧ ∃ e ∈ r'.emits, e.1 = tf.1) ∧
    (r.selfOk = true ∨ ∀ tf ∈ r.needs, r.selfStore.find? (fun x => x.1 == tf.1) = some tf) := by
  unfold allToAll at h
  rw [List.all_eq_true] at h
  have := h k (List.mem_range.mpr (Loop.lt_of_getElem?_some hr))
  rw [hr] at this
  simp only [hf, Bool.false_or, Bool.and_eq_true, List.all_eq_true, List.any_eq_true, Bool.or_eq_true,
    beq_iff_eq] at this
  obtain ⟨h1, h2⟩ := this
  refine ⟨?_, h2⟩
  intro tf htf
  obtain ⟨r', hr', e, he, hee⟩ := h1 tf htf
  obtain ⟨i, hi, hr'⟩ := Loop.mem_take.mp hr'
  exact ⟨i, r', by omega, hr', e, he, hee⟩

/-- a per-peer type is logged `n - 1` times: it is in the log only if there is a peer -/
theorem mem_emitList {es : List (Nat × Bool)} {e : Nat × Bool} (he : e ∈ es) (hn : 2 ≤ n) :
    e.1 ∈ emitList n es := by
  unfold emitList
  rw [List.mem_flatMap]
  refine ⟨e, he, ?_⟩
  split
  · rw [List.mem_replicate]; exact ⟨by omega, rfl⟩
  · simp

theorem mem_emitsUpTo {n k k' : Nat} {r' : RoundSpec} {e : Nat × Bool}
    (hk : k' < k) (hr' : tbl[k']? = some r') (he : e ∈ r'.emits) (hn : 2 ≤ n) : e.1 ∈ emitsUpTo tbl n k :=
  Loop.mem_take_map_flatten.mpr ⟨k', r', hk, hr', mem_emitList he hn⟩

/-- own share of the current round's requirement -/
def SelfSat (tbl : List RoundSpec) (p : Party) : Prop :=
  ∀ r, cur tbl p = some r → r.final = false → cov r p p.self

/-- everything stored for another sender carries the genuine flag of its type -/
def FlagsOk (tbl : List RoundSpec) (p : Party) : Prop :=
  ∀ t j s, j ≠ p.self → p.store t j = some s → s.flag = flagOf tbl t

def DoneLast (tbl : List RoundSpec) (p : Party) : Prop := p.done = true → tbl.length ≤ p.rnd

/-- what the engine keeps when only genuine messages are delivered -/
structure Live (tbl : List RoundSpec) (p : Party) : Prop where
  doneLast : DoneLast tbl p
  flagsOk : FlagsOk tbl p
  selfSat : SelfSat tbl p

structure LocalInv (tbl : List RoundSpec) (p : Party) : Prop extends Live tbl p where
  canon : Canon tbl p
  settled : Settled tbl p

theorem live_startRound (ha : allToAll tbl = true) {k : Nat} {r' : RoundSpec}
    (hr' : tbl[k]? = some r') (hd : p.done = false) (h : Live tbl p) : Live tbl (startRound r' k p) where
  doneLast := fun hd' => by rw [show (startRound r' k p).done = p.done from rfl, hd] at hd'; cases hd'
  flagsOk := by
    intro t j s hj hst
    simp only [startRound, putSelf] at hst
    rw [if_neg (fun hc => hj hc.1)] at hst
    exact h.flagsOk t j s hj hst
  selfSat := by
    intro r hc hf
    have hr : tbl[k]? = some r := (cur_eq_some.mp hc).2.2
    obtain rfl : r' = r := Option.some.inj (hr'.symm.trans hr)
    rcases (allToAll_spec ha hr' hf).2 with h | h
    · left
      simp only [startRound, hf, h]
      simp
    · exact Or.inr (by rw [sat_eq]; exact Slots.sat_putSelf_self p.self k p.store h)

theorem live_moves (ha : allToAll tbl = true) : Loop.Moves ops tbl (Live tbl) where
  scan := fun p r h _ _ _ =>
    ⟨h.doneLast, h.flagsOk, fun r1 hc hf => (h.selfSat r1 hc hf).imp (scanOk_of_ok (p := p)) id⟩
  adv := fun _ _ _ h _ hd _ _ hr' => live_startRound ha hr' hd h
  fin := fun _ h _ _ hn =>
    ⟨fun _ => List.getElem?_eq_none_iff.mp hn, h.flagsOk, fun _ hc => by cases (cur_of_not_started (Or.inr rfl)).symm.trans hc⟩

theorem localInv_fresh (tbl : List RoundSpec) (n self : Nat) : LocalInv tbl (fresh n self) :=
  { canon := canon_fresh tbl n self, settled := settled_fresh tbl n self
    doneLast := fun h => by cases h
    flagsOk := fun _ _ _ _ h => by cases h
    selfSat := fun _ hc => by cases (cur_of_not_started (Or.inl rfl)).symm.trans hc }

/-- a genuine message from another party: the flag is the one its type is emitted with -/
def Genuine (tbl : List RoundSpec) (self : Nat) (m : Msg) : Prop := m.frm ≠ self ∧ m.slot.flag = flagOf tbl m.ty

theorem live_storeMsg {m : Msg} (hg : Genuine tbl p.self m) (h : Live tbl p) :
    Live tbl (storeMsg m p) where
  doneLast := h.doneLast
  flagsOk := by
    intro t j s hj hst
    by_cases hc : t = m.ty ∧ j = m.frm
    · rw [hc.1, hc.2, storeMsg_store_same] at hst
      rw [← Option.some.inj hst, hc.1]; exact hg.2
    · rw [storeMsg_store_other m p hc] at hst
      exact h.flagsOk t j s hj hst
  selfSat := by
    intro r hc hf
    refine (h.selfSat r hc hf).imp id fun hs => ?_
    rw [sat_iff] at *
    intro tf htf
    show ∃ s, (storeMsg m p).store tf.1 p.self = some s ∧ s.flag = tf.2
    rw [storeMsg_store_other m p (fun hc => hg.1 hc.2.symm)]
    exact hs tf htf

theorem localInv_deliver (ha : allToAll tbl = true) {m : Msg}
    (hg : Genuine tbl p.self m) (h : LocalInv tbl p) : LocalInv tbl (deliver tbl m p) :=
  { (show Live tbl (deliver tbl m p) by
      rw [deliver_loop]; exact (live_moves ha).deliver frame m (live_storeMsg hg h.toLive)) with
    canon := canon_deliver m h.canon, settled := settled_deliver tbl m p }

theorem localInv_start (ha : allToAll tbl = true) (h : LocalInv tbl p) :
    LocalInv tbl (start tbl p) :=
  { (show Live tbl (start tbl p) by
      rw [start_loop]
      exact (live_moves ha).start frame true h.toLive fun r h0 hr =>
        live_startRound ha hr (Loop.not_done_of_rnd_zero h.doneLast h0 hr) h.toLive) with
    canon := canon_start h.canon, settled := settled_start h.settled }

abbrev Sys := Nat → Party

def Sys.set (s : Sys) (i : Nat) (p : Party) : Sys := fun k => if k = i then p else s k

theorem Sys.set_same (s : Sys) (i : Nat) (p : Party) : s.set i p i = p := by simp [Sys.set]
theorem Sys.set_other (s : Sys) (i k : Nat) (p : Party) (h : k ≠ i) : s.set i p k = s k := by simp [Sys.set, h]

/-- states reachable in a closed system of `n` parties: any party may be started at any time, and the network may
deliver to any party `i` any message that some other party `j` has emitted (type in `j`'s emission log),
at any time (before `i` is started, rounds early), any number of times -/
inductive Reach (tbl : List RoundSpec) (n : Nat) : Sys → Prop
  | init : Reach tbl n (fun i => fresh n i)
  | start (s : Sys) (i : Nat) : Reach tbl n s → i < n → Reach tbl n (s.set i (start tbl (s i)))
  | deliver (s : Sys) (i j ty payload : Nat) : Reach tbl n s → i < n → j < n → j ≠ i → ty ∈ (s j).out →
      Reach tbl n (s.set i (deliver tbl ⟨ty, j, ⟨flagOf tbl ty, payload⟩⟩ (s i)))

theorem reach_inv (ha : allToAll tbl = true) {s : Sys} (h : Reach tbl n s) :
    ∀ i, (s i).self = i ∧ (s i).n = n ∧ LocalInv tbl (s i) := by
  -- only the party that moves has to be looked at
  have set : ∀ (s : Sys) (i : Nat) (q : Party), (∀ k, (s k).self = k ∧ (s k).n = n ∧ LocalInv tbl (s k)) →
      (q.self = i ∧ q.n = n ∧ LocalInv tbl q) → ∀ k, (s.set i q k).self = k ∧ (s.set i q k).n = n ∧ LocalInv tbl (s.set i q k) := by
    intro s i q hs hq k
    by_cases hk : k = i
    · rw [hk, Sys.set_same]; exact hq
    · rw [Sys.set_other _ _ _ _ hk]; exact hs k
  induction h with
  | init => intro i; exact ⟨rfl, rfl, localInv_fresh tbl n i⟩
  | start s i _ _ ih =>
    exact set s i _ ih ⟨(start_self tbl _).trans (ih i).1, (start_n tbl _).trans (ih i).2.1, localInv_start ha (ih i).2.2⟩
  | deliver s i j ty payload _ _ _ hji _ ih =>
    exact set s i _ ih ⟨(deliver_self tbl _ _).trans (ih i).1, (deliver_n tbl _ _).trans (ih i).2.1,
      localInv_deliver ha ⟨by rw [(ih i).1]; exact hji, rfl⟩ (ih i).2.2⟩

/-- every emitted message has reached every party other than its sender -/
def Quiescent (n : Nat) (s : Sys) : Prop :=
  ∀ i j, i < n → j < n → j ≠ i → ∀ ty ∈ (s j).out, ∃ slot, (s i).store ty j = some slot

/-- **key lemma**: if every other party has started round `k` (1-based) and all their messages have been
delivered, then the round-`k` requirements of party `i` are satisfied for every other sender -/
theorem others_satisfied (ha : allToAll tbl = true) (hd : disciplined tbl = true)
    {s : Sys} (hinv : ∀ i, (s i).self = i ∧ (s i).n = n ∧ LocalInv tbl (s i)) (hq : Quiescent n s)
    {i k : Nat} (hi : i < n) (hk : 0 < k) (hr : tbl[k - 1]? = some r) (hf : r.final = false)
    (hall : ∀ j, j < n → j ≠ i → k ≤ (s j).rnd) :
    ∀ j, j < n → j ≠ i → sat r (s i).store j = true := by
  intro j hj hji
  rw [sat_iff]
  intro tf htf
  obtain ⟨k', r', hk', hr', e, he, hee⟩ := (allToAll_spec ha hr hf).1 tf htf
  have hn : 2 ≤ n := by omega
  have hout : tf.1 ∈ (s j).out := by
    rw [(hinv j).2.2.canon.2.1, (hinv j).2.1, ← hee]
    exact mem_emitsUpTo (by have := hall j hj hji; omega) hr' he hn
  obtain ⟨slot, hslot⟩ := hq i j hi hj hji tf.1 hout
  refine ⟨slot, hslot, ?_⟩
  have := (hinv i).2.2.flagsOk tf.1 j slot (by rw [(hinv i).1]; exact hji) hslot
  rw [this, disciplined_spec hd (List.mem_of_getElem? hr) htf]

theorem all_reach_round (hfl : finalLast tbl = true) (ha : allToAll tbl = true)
    (hd : disciplined tbl = true) {s : Sys} (hinv : ∀ i, (s i).self = i ∧ (s i).n = n ∧ LocalInv tbl (s i))
    (hstarted : ∀ i, i < n → (s i).rnd ≠ 0) (hq : Quiescent n s) :
    ∀ k, k ≤ tbl.length → ∀ i, i < n → k ≤ (s i).rnd := by
  intro k
  induction k with
  | zero => intro _ i _; exact Nat.zero_le _
  | succ k ih =>
    intro hk i hi
    have hge : k ≤ (s i).rnd := ih (by omega) i hi
    rcases Nat.lt_or_ge k (s i).rnd with hlt | hle
    · exact hlt
    · -- party `i` sits in round `k`: not the last one, so not final, and the party has not finished
      exfalso
      obtain ⟨hself, hn, hI⟩ := hinv i
      have hik : (s i).rnd = k := by omega
      have h0 : (s i).rnd ≠ 0 := hstarted i hi
      have hklt : k - 1 < tbl.length := by omega
      have hr : tbl[(s i).rnd - 1]? = some tbl[k - 1] := by rw [hik]; exact List.getElem?_eq_getElem hklt
      have hf : (tbl[k - 1]).final = false := Bool.eq_false_iff.mpr fun hfin => by
        have := (Loop.lastOnly_map_getElem? (·.final) (finalLast_eq tbl ▸ hfl) (List.getElem?_eq_getElem hklt)).mp hfin
        omega
      have hdn : (s i).done = false := Bool.eq_false_iff.mpr fun hpd => by
        have := hI.doneLast hpd
        omega
      have hc : cur tbl (s i) = some tbl[k - 1] := cur_eq_some.mpr ⟨h0, hdn, hr⟩
      have hoth := others_satisfied ha hd hinv hq hi (by omega : 0 < k) (List.getElem?_eq_getElem hklt) hf
        (fun j hj _ => ih (by omega) j hj)
      -- every sender is covered, so the scan lets the party proceed: it is not at a fixpoint
      have hcp := (step_none_iff hc).mp hI.settled.1
      rw [(canProceed_scan_iff hf _).mpr fun j hj => ?_] at hcp
      · cases hcp
      by_cases hji : j = i
      · subst hji
        have := hI.selfSat _ hc hf
        rwa [hself] at this
      · exact Or.inr (hoth j (hn ▸ hj) hji)

end TssVerif.EngineL
