import TssVerif.Core.OpsCrypto
import TssVerif.Lemmas.VssPoly
import TssVerif.Lemmas.CurveLaw
import TssVerif.Lemmas.Outcome
/-! `Vss.create` (commitment part) and `Vss.verify` on a lawful curve. -/
set_option linter.style.haveILetI false
set_option autoImplicit false
namespace TssVerif

namespace Vss
open OpsCrypto (curVss)
variable {P : Type} {C : Curve P}

/-- `vs` are the affine forms of `a_i · G` for the coefficient list `as` -/
def IsCommitment (C : Curve P) (as : List Nat) (vs : List ECPoint) : Prop :=
  List.Forall₂ (fun a v => C.toAffine (C.smul a C.base) = some v) as vs

theorem IsCommitment.length_eq {as : List Nat} {vs : List ECPoint} (h : IsCommitment C as vs) :
    as.length = vs.length := List.Forall₂.length_eq h

/-- every element of `vs` is accepted by `NewECPoint` -/
def AllOnCurve (C : Curve P) (vs : List ECPoint) : Prop := ∀ v ∈ vs, C.ecIsOnCurve v = true

section scalar
variable (hC : C.Lawful)
include hC

theorem toAffine_smul_base_eq_none_iff (k : Nat) :
    C.toAffine (C.smul k C.base) = none ↔ k % C.q = 0 ∧ C.toAffine C.zero = none := by
  rw [hC.toAffine_eq_none_iff, hC.smul_base_eq_zero_iff]

theorem toAffine_smul_base_isSome {k : Nat} (hk : k % C.q ≠ 0) :
    ∃ r, C.toAffine (C.smul k C.base) = some r :=
  Option.ne_none_iff_exists'.1 fun hr => hk ((toAffine_smul_base_eq_none_iff hC k).1 hr).1

theorem toAffine_smul_base_isSome' (hz : C.toAffine C.zero ≠ none) (k : Nat) :
    ∃ r, C.toAffine (C.smul k C.base) = some r :=
  Option.ne_none_iff_exists'.1 fun hr => hz ((toAffine_smul_base_eq_none_iff hC k).1 hr).2

theorem one_mod_q_ne_zero : 1 % C.q ≠ 0 := by
  rw [Nat.mod_eq_of_lt hC.one_lt_q]; exact one_ne_zero

theorem toAffine_smul_base_eq_iff (a b : Nat) :
    C.toAffine (C.smul a C.base) = C.toAffine (C.smul b C.base) ↔ a % C.q = b % C.q :=
  ⟨fun h => (hC.smul_base_eq_iff a b).1 (hC.toAffine_inj _ _ h),
   fun h => congrArg _ ((hC.smul_base_eq_iff a b).2 h)⟩

theorem mul_mod_ne_zero {a b : Nat} (ha : a % C.q ≠ 0) (hb : b % C.q ≠ 0) : (a * b) % C.q ≠ 0 := by
  intro h
  rcases (Nat.Prime.dvd_mul hC.q_prime).1 (Nat.dvd_of_mod_eq_zero h) with h1 | h1
  · exact ha (Nat.mod_eq_zero_of_dvd h1)
  · exact hb (Nat.mod_eq_zero_of_dvd h1)

theorem lift_of_toAffine {a : P} {v : ECPoint} (h : C.toAffine a = some v) : C.lift v = some a :=
  hC.lift_of_toAffine h

end scalar

theorem ecBaseMult_some (C : Curve P) {a : Nat} {r : ECPoint}
    (h : C.toAffine (C.smul a C.base) = some r) : C.ecBaseMult (a : Int) = .ok r := by
  rw [Curve.ecBaseMult_natCast, h]

theorem ecBaseMult_none (C : Curve P) {a : Nat}
    (h : C.toAffine (C.smul a C.base) = none) :
    C.ecBaseMult (a : Int) = .panic "scalar-base-mult-identity" := by
  rw [Curve.ecBaseMult_natCast, h]

theorem lift_of_ecBaseMult (hC : C.Lawful) {x : Nat} {xj : ECPoint}
    (h : C.ecBaseMult (x : Int) = .ok xj) : C.lift xj = some (C.smul x C.base) := by
  rw [Curve.ecBaseMult_natCast] at h
  cases hr : C.toAffine (C.smul x C.base) with
  | none => rw [hr] at h; cases h
  | some r =>
    rw [hr] at h
    cases h
    exact hC.lift_of_toAffine hr

/-- `create`'s commitments: the coordinates of every `a·G` are returned, or some `a·G` has none and
`ScalarBaseMult` crashes -/
theorem mapM_baseMult_cases (C : Curve P) (l : List Nat) :
    (∃ vs, l.mapM (fun (a : Nat) => C.ecBaseMult (a : Int)) = .ok vs ∧ IsCommitment C l vs) ∨
    (l.mapM (fun (a : Nat) => C.ecBaseMult (a : Int)) = .panic "scalar-base-mult-identity" ∧
        ∃ a ∈ l, C.toAffine (C.smul a C.base) = none) := by
  induction l with
  | nil => exact Or.inl ⟨[], rfl, List.Forall₂.nil⟩
  | cons a l ih =>
    rw [List.mapM_cons]
    cases hr : C.toAffine (C.smul a C.base) with
    | none => exact Or.inr ⟨by rw [ecBaseMult_none C hr]; rfl, a, List.mem_cons_self .., hr⟩
    | some r =>
      rw [ecBaseMult_some C hr]
      rcases ih with ⟨vs, h1, h2⟩ | ⟨h1, b, hb, hn⟩
      · exact Or.inl ⟨r :: vs, by rw [h1]; rfl, List.Forall₂.cons hr h2⟩
      · exact Or.inr ⟨by rw [h1]; rfl, b, List.mem_cons_of_mem _ hb, hn⟩

/-- the three guards of `create` -/
def createGuards (q threshold : Nat) (ids : List Nat) : Bool :=
  !(decide (threshold < 1)) && checkIndexes q ids && !(decide (ids.length < threshold))

theorem create_of_guards_fail (C : Curve P) (t secret : Nat) (ids coeffs : List Nat)
    (h : createGuards C.q t ids = false) : ∃ e, create C t secret ids coeffs = .err e := by
  unfold create
  unfold createGuards at h
  split
  · exact ⟨_, rfl⟩
  · split
    · exact ⟨_, rfl⟩
    · split
      · exact ⟨_, rfl⟩
      · simp_all

theorem create_of_guards (C : Curve P) (t secret : Nat) (ids coeffs : List Nat)
    (h : createGuards C.q t ids = true) :
    create C t secret ids coeffs =
      match (secret :: coeffs).mapM (fun (a : Nat) => C.ecBaseMult (a : Int)) with
      | .ok vs => .ok (vs, ids.map fun id => ⟨t, id, evalPoly C.q (secret :: coeffs) id⟩)
      | .err e => .err e
      | .panic e => .panic e := by
  unfold createGuards at h
  simp only [Bool.and_eq_true, Bool.not_eq_true', decide_eq_false_iff_not] at h
  obtain ⟨⟨h1, h2⟩, h3⟩ := h
  unfold create
  rw [if_neg h1, if_neg (by simp [h2]), if_neg h3]
  rfl

/-- scalar shadow of `verifyLoop`: the exponent of the accumulator; `none` when a partial sum is the
identity and (`nz`) the identity has no affine form -/
def sLoop (q id : Nat) (nz : Bool) : List Nat → Nat → Nat → Option Nat
  | [], _, S => some S
  | a :: as, t, S =>
    let t' := t * id % q
    let S' := S + t' * a
    if nz && S' % q == 0 then none else sLoop q id nz as t' S'

theorem verifyLoop_cons (hC : C.Lawful) (id t : Nat) {vj v : ECPoint} (rest : List ECPoint) {pj pv : P}
    (hj : C.lift vj = some pj) (hv : C.lift v = some pv) :
    verifyLoop C id (vj :: rest) t v =
      match C.toAffine (C.smul (t * id % C.q) pj) with
      | none => .panic "scalar-mult-identity"
      | some _ =>
        match C.toAffine (C.add pv (C.smul (t * id % C.q) pj)) with
        | some v' => verifyLoop C id rest (t * id % C.q) v'
        | none => .ok none := by
  rw [verifyLoop, Curve.ecScalarMult_of_lift hj]
  cases hr : C.toAffine (C.smul (t * id % C.q) pj) with
  | none => rfl
  | some r =>
    simp only
    rw [Curve.ecAdd_of_lift hv (hC.lift_of_toAffine hr)]
    cases C.toAffine (C.add pv (C.smul (t * id % C.q) pj)) <;> rfl

theorem verifyLoop_eq (hC : C.Lawful) (id : Nat) (hid : id % C.q ≠ 0) :
    ∀ (as : List Nat) (vs : List ECPoint) (t S : Nat) (v : ECPoint), IsCommitment C as vs →
      t % C.q ≠ 0 → C.toAffine (C.smul S C.base) = some v →
      match sLoop C.q id (decide (C.toAffine C.zero = none)) as t S with
      | none => verifyLoop C id vs t v = .ok none
      | some S' =>
        ∃ v', C.toAffine (C.smul S' C.base) = some v' ∧ verifyLoop C id vs t v = .ok (some v') := by
  intro as
  induction as with
  | nil =>
    intro vs t S v hcom _ hv
    cases hcom
    exact ⟨v, hv, rfl⟩
  | cons a as ih =>
    intro vs t S v hcom ht hv
    cases hcom with
    | cons ha hrest =>
    rename_i vj rest
    have ht' : (t * id % C.q) % C.q ≠ 0 := by
      rw [Nat.mod_mod]; exact mul_mod_ne_zero hC ht hid
    -- `(t'·a)·G` has coordinates: if the identity has none then `a ≢ 0`, as `a·G` has some
    obtain ⟨vjt, hvjt⟩ : ∃ r, C.toAffine (C.smul (t * id % C.q * a) C.base) = some r := by
      refine Option.ne_none_iff_exists'.1 fun hr => ?_
      obtain ⟨h1, h2⟩ := (toAffine_smul_base_eq_none_iff hC _).1 hr
      refine mul_mod_ne_zero hC ht' (fun h0 => ?_) h1
      rw [(toAffine_smul_base_eq_none_iff hC a).2 ⟨h0, h2⟩] at ha
      cases ha
    rw [verifyLoop_cons hC id t rest (lift_of_toAffine hC ha) (lift_of_toAffine hC hv), ← hC.smul_mul,
      hvjt, ← hC.smul_add, sLoop]
    simp only [Bool.and_eq_true, decide_eq_true_eq, beq_iff_eq]
    cases hr : C.toAffine (C.smul (S + t * id % C.q * a) C.base) with
    | none => rw [if_pos ((toAffine_smul_base_eq_none_iff hC _).1 hr).symm]
    | some v' =>
      rw [if_neg fun h => by rw [(toAffine_smul_base_eq_none_iff hC _).2 h.symm] at hr; cases hr]
      exact ih rest (t * id % C.q) (S + t * id % C.q * a) v' hrest ht' hr

/-- the part of `verify` after its guards -/
def verifyTail (C : Curve P) (sh : Share) (vs : List ECPoint) : Outcome Bool :=
  match vs with
  | [] => .ok false
  | v0 :: rest =>
    match verifyLoop C sh.id rest 1 v0 with
    | .ok (some v) =>
      match C.ecBaseMult sh.share with
      | .ok sg => .ok (ecEquals sg v)
      | .err e => .err e
      | .panic e => .panic e
    | .ok none => .ok false
    | .err e => .err e
    | .panic e => .panic e

theorem verify_unfold (C : Curve P) (cfg : VerifyCfg) (t : Nat) (sh : Share) (vs : List ECPoint) :
    verify C cfg t sh vs =
      if sh.threshold != t || vs.length != t + 1 then .ok false else
      if cfg.rejectZero && (sh.share % C.q == 0 || sh.id % C.q == 0) then .ok false else
      verifyTail C sh vs := by
  unfold verify verifyTail
  rfl

theorem ecEquals_iff (a b : ECPoint) : ecEquals a b = true ↔ a = b := by
  obtain ⟨a1, a2⟩ := a
  obtain ⟨b1, b2⟩ := b
  simp [ecEquals]

theorem verifyTail_eq (hC : C.Lawful) (a0 : Nat) (as : List Nat) (vs : List ECPoint)
    (hcom : IsCommitment C (a0 :: as) vs) (sh : Share) (hid : sh.id % C.q ≠ 0) :
    verifyTail C sh vs =
      match sLoop C.q sh.id (decide (C.toAffine C.zero = none)) as 1 a0 with
      | none => .ok false
      | some S' =>
        if sh.share % C.q = 0 ∧ C.toAffine C.zero = none then .panic "scalar-base-mult-identity"
        else .ok (decide (sh.share % C.q = S' % C.q)) := by
  cases hcom with
  | cons h0 hrest =>
  rename_i v0 rest
  have h1 := one_mod_q_ne_zero hC
  unfold verifyTail
  simp only
  have hloop := verifyLoop_eq hC sh.id hid as rest 1 a0 v0 hrest h1 h0
  cases hs : sLoop C.q sh.id (decide (C.toAffine C.zero = none)) as 1 a0 with
  | none => rw [hs] at hloop; rw [hloop]
  | some S' =>
    rw [hs] at hloop
    obtain ⟨v, hv, hloop⟩ := hloop
    rw [hloop]
    simp only
    cases hsg : C.toAffine (C.smul sh.share C.base) with
    | none =>
      rw [ecBaseMult_none C hsg, if_pos ((toAffine_smul_base_eq_none_iff hC _).1 hsg)]
    | some sg =>
      rw [ecBaseMult_some C hsg,
        if_neg fun h => by rw [(toAffine_smul_base_eq_none_iff hC _).2 h] at hsg; cases hsg]
      simp only
      congr 1
      rw [Bool.eq_iff_iff, ecEquals_iff, decide_eq_true_iff, ← toAffine_smul_base_eq_iff hC, hsg, hv,
        Option.some.injEq]

section sloop
variable {q : Nat}

theorem sLoop_some (id : Nat) (nz : Bool) (as : List Nat) (t S R : Nat)
    (h : sLoop q id nz as t S = some R) :
    (R : ZMod q) = (S : ZMod q) + t * id * (polyNat as id : Nat) := by
  induction as generalizing t S with
  | nil =>
    simp only [sLoop, Option.some.injEq] at h
    subst h
    simp [polyNat]
  | cons a as ih =>
    rw [sLoop] at h
    split at h
    · cases h
    · rw [ih _ _ h, polyNat]
      push_cast [ZMod.natCast_mod]
      ring

theorem sLoop_none_iff (id : Nat) (nz : Bool) (as : List Nat) (t S : Nat) :
    sLoop q id nz as t S = none ↔
      nz = true ∧ ∃ k, k < as.length ∧ (S + t * id * polyNat (as.take (k + 1)) id) % q = 0 := by
  induction as generalizing t S with
  | nil => simp [sLoop]
  | cons a as ih =>
    -- one turn, read on the polynomial: `S + t'·a + t'·id·f(id) ≡ S + t·id·(a + id·f(id))`
    have key : ∀ l : List Nat, (S + t * id % q * a + t * id % q * id * polyNat l id) % q
        = (S + t * id * polyNat (a :: l) id) % q := fun l =>
      (ZMod.natCast_eq_natCast_iff' _ _ _).1 (by rw [polyNat]; push_cast [ZMod.natCast_mod]; ring)
    have h0 : (S + t * id % q * a) % q = (S + t * id * polyNat ((a :: as).take (0 + 1)) id) % q := key []
    rw [sLoop]
    split
    · rename_i hc
      simp only [Bool.and_eq_true, beq_iff_eq] at hc
      exact ⟨fun _ => ⟨hc.1, 0, by simp, h0 ▸ hc.2⟩, fun _ => rfl⟩
    · rename_i hc
      rw [ih]
      constructor
      · rintro ⟨hnz, k, hk, hz⟩
        exact ⟨hnz, k + 1, by simpa using hk, by rw [List.take_succ_cons, ← key]; exact hz⟩
      · rintro ⟨hnz, k, hk, hz⟩
        cases k with
        | zero => exact absurd (by simp [hnz, h0.trans hz]) hc
        | succ k =>
          rw [List.take_succ_cons, ← key] at hz
          exact ⟨hnz, k, by simpa using hk, hz⟩

end sloop

/-- no partial sum `a_0 + a_1 id + … + a_j id^j`, `1 ≤ j < t`, vanishes modulo `q`
(`as = [a_0, …, a_t]`); decidable -/
def PartialSumsNonzero (q : Nat) (as : List Nat) (id : Nat) : Prop :=
  ∀ j, j < as.length - 1 → 1 ≤ j → polyNat (as.take (j + 1)) id % q ≠ 0

instance (q : Nat) (as : List Nat) (id : Nat) : Decidable (PartialSumsNonzero q as id) :=
  inferInstanceAs (Decidable (∀ j, j < as.length - 1 → 1 ≤ j → polyNat (as.take (j + 1)) id % q ≠ 0))

theorem sLoop_start_some {q : Nat} (id : Nat) (nz : Bool) (a0 : Nat) (as : List Nat) (R : Nat)
    (h : sLoop q id nz as 1 a0 = some R) : R % q = polyNat (a0 :: as) id % q := by
  apply (ZMod.natCast_eq_natCast_iff' _ _ _).1
  rw [sLoop_some id nz as 1 a0 R h, polyNat]
  push_cast
  ring

/-- the scalar loop started as `verify` starts it stops exactly at a vanishing partial sum
`a_0 + … + a_j id^j`, `j ≥ 1` (and only if the identity has no affine form) -/
theorem sLoop_start_none_iff {q : Nat} (id : Nat) (nz : Bool) (a0 : Nat) (as : List Nat) :
    sLoop q id nz as 1 a0 = none ↔
      nz = true ∧ ∃ j, 1 ≤ j ∧ j < (a0 :: as).length ∧ polyNat ((a0 :: as).take (j + 1)) id % q = 0 := by
  rw [sLoop_none_iff]
  constructor
  · rintro ⟨hnz, k, hk, hz⟩
    refine ⟨hnz, k + 1, by omega, by simpa using hk, ?_⟩
    rw [List.take_succ_cons, polyNat]
    rwa [Nat.one_mul] at hz
  · rintro ⟨hnz, j, hj1, hj2, hz⟩
    obtain ⟨k, rfl⟩ : ∃ k, j = k + 1 := ⟨j - 1, by omega⟩
    rw [List.take_succ_cons, polyNat] at hz
    exact ⟨hnz, k, by simpa using hj2, by rwa [Nat.one_mul]⟩

theorem sLoop_start_isSome {q : Nat} (id : Nat) (nz : Bool) (a0 : Nat) (as : List Nat)
    (h : nz = true → ∀ j, 1 ≤ j → j < (a0 :: as).length →
      polyNat ((a0 :: as).take (j + 1)) id % q ≠ 0) :
    ∃ R, sLoop q id nz as 1 a0 = some R := by
  cases hs : sLoop q id nz as 1 a0 with
  | some R => exact ⟨R, rfl⟩
  | none =>
    obtain ⟨hnz, j, h1, h2, h3⟩ := (sLoop_start_none_iff id nz a0 as).1 hs
    exact absurd h3 (h hnz j h1 h2)

theorem verify_curVss_eq (C : Curve P) (t : Nat) (sh : Share) (vs : List ECPoint) :
    verify C curVss t sh vs =
      if sh.threshold = t ∧ vs.length = t + 1 ∧ sh.share % C.q ≠ 0 ∧ sh.id % C.q ≠ 0
      then verifyTail C sh vs else .ok false := by
  rw [verify_unfold]
  by_cases h1 : sh.threshold = t <;> by_cases h2 : vs.length = t + 1 <;>
    by_cases h3 : sh.share % C.q = 0 <;> by_cases h4 : sh.id % C.q = 0 <;>
    simp [h1, h2, h3, h4, curVss]

/-- complete description of `verify` on well-formed commitments to `f = Σ a_i X^i`: it never fails or
panics, and accepts exactly when the share is `f(id)` modulo `q` and — on a curve whose identity has no
affine form — no partial sum `a_0 + … + a_j id^j`, `j ≥ 1`, vanishes modulo `q` -/
theorem verify_commitment (hC : C.Lawful) (as : List Nat) (vs : List ECPoint)
    (hcom : IsCommitment C as vs) (t : Nat) (hlen : as.length = t + 1) (sh : Share) :
    ∃ b, verify C curVss t sh vs = .ok b ∧
      (b = true ↔ sh.threshold = t ∧ sh.share % C.q ≠ 0 ∧ sh.id % C.q ≠ 0 ∧
        (C.toAffine C.zero = none → ∀ j, 1 ≤ j → j < as.length →
          polyNat (as.take (j + 1)) sh.id % C.q ≠ 0) ∧
        polyNat as sh.id ≡ sh.share [MOD C.q]) := by
  rw [verify_curVss_eq]
  have hvl : vs.length = t + 1 := by rw [← hcom.length_eq, hlen]
  by_cases hg : sh.threshold = t ∧ vs.length = t + 1 ∧ sh.share % C.q ≠ 0 ∧ sh.id % C.q ≠ 0
  · rw [if_pos hg]
    obtain ⟨h1, _, h3, h4⟩ := hg
    obtain ⟨a0, as, rfl⟩ := List.exists_cons_of_length_eq_add_one hlen
    rw [verifyTail_eq hC a0 as vs hcom sh h4]
    cases hs : sLoop C.q sh.id (decide (C.toAffine C.zero = none)) as 1 a0 with
    | none =>
      obtain ⟨hnz, j, hj1, hj2, hj0⟩ := (sLoop_start_none_iff _ _ a0 as).1 hs
      exact ⟨false, rfl, ⟨nofun, fun h => absurd hj0 (h.2.2.2.1 (by simpa using hnz) j hj1 hj2)⟩⟩
    | some R =>
      simp only
      rw [if_neg (fun h => h3 h.1)]
      refine ⟨_, rfl, ?_⟩
      have hps : C.toAffine C.zero = none → ∀ j, 1 ≤ j → j < (a0 :: as).length →
          polyNat ((a0 :: as).take (j + 1)) sh.id % C.q ≠ 0 := fun hz j hj1 hj2 h0 => by
        rw [(sLoop_start_none_iff _ _ a0 as).2 ⟨by simpa using hz, j, hj1, hj2, h0⟩] at hs
        cases hs
      rw [decide_eq_true_iff, sLoop_start_some _ _ a0 as R hs]
      exact ⟨fun h => ⟨h1, h3, h4, hps, h.symm⟩, fun h => h.2.2.2.2.symm⟩
  · rw [if_neg hg]
    exact ⟨false, rfl, nofun, fun ⟨h1, h3, h4, _⟩ => absurd ⟨h1, hvl, h3, h4⟩ hg⟩

theorem verifyLoop_no_panic (hC : C.Lawful)
    (hcof : C.toAffine C.zero = none → ∀ p, C.smul C.q p = C.zero)
    (id : Nat) (hid : id % C.q ≠ 0) :
    ∀ (vs : List ECPoint) (t : Nat) (v : ECPoint), AllOnCurve C vs → C.ecIsOnCurve v = true →
      t % C.q ≠ 0 → ∃ r, verifyLoop C id vs t v = .ok r := by
  intro vs
  induction vs with
  | nil => intro t v _ _ _; exact ⟨_, rfl⟩
  | cons vj rest ih =>
    intro t v hvs hv ht
    obtain ⟨pj, hpj⟩ : ∃ pj, C.lift vj = some pj := Option.isSome_iff_exists.1 (hvs vj (List.mem_cons_self ..))
    obtain ⟨pv, hpv⟩ : ∃ pv, C.lift v = some pv := Option.isSome_iff_exists.1 hv
    have ht' : (t * id % C.q) % C.q ≠ 0 := by
      rw [Nat.mod_mod]; exact mul_mod_ne_zero hC ht hid
    rw [verifyLoop_cons hC id t rest hpj hpv]
    cases hr : C.toAffine (C.smul (t * id % C.q) pj) with
    | none =>
      -- a point of order dividing `q` killed by `t' ≢ 0` is the identity, which `vj` is not
      exfalso
      obtain ⟨h1, h2⟩ := (hC.toAffine_eq_none_iff _).1 hr
      have hpa := hC.toAffine_of_lift hpj
      rw [hC.eq_zero_of_smul_eq_zero (hcof h2 pj) ht' h1, h2] at hpa
      cases hpa
    | some r =>
      simp only
      cases hr2 : C.toAffine (C.add pv (C.smul (t * id % C.q) pj)) with
      | none => exact ⟨none, rfl⟩
      | some v' =>
        exact ih _ v' (fun w hw => hvs w (List.mem_cons_of_mem _ hw))
          (Option.isSome_iff_exists.2 ⟨_, lift_of_toAffine hC hr2⟩) ht'

/-- with the guard `rejectZero` (a share or id `≡ 0 (mod q)` is refused before any curve operation) the
verifier returns a verdict on every input whose commitments are curve points (`hcof`: if the identity has no affine form, the group has prime order `q`) -/
theorem verify_no_panic (hC : C.Lawful)
    (hcof : C.toAffine C.zero = none → ∀ p, C.smul C.q p = C.zero)
    (t : Nat) (sh : Share) (vs : List ECPoint) (hvs : AllOnCurve C vs) :
    ∃ b, verify C curVss t sh vs = .ok b := by
  rw [verify_curVss_eq]
  split
  · rename_i hg
    obtain ⟨_, _, h3, h4⟩ := hg
    unfold verifyTail
    cases vs with
    | nil => exact ⟨_, rfl⟩
    | cons v0 rest =>
      simp only
      have h1 := one_mod_q_ne_zero hC
      obtain ⟨r, hr⟩ := verifyLoop_no_panic hC hcof sh.id h4 rest 1 v0
        (fun w hw => hvs w (List.mem_cons_of_mem _ hw)) (hvs v0 (List.mem_cons_self ..)) h1
      rw [hr]
      cases r with
      | none => exact ⟨_, rfl⟩
      | some v =>
        simp only
        obtain ⟨sg, hsg⟩ := toAffine_smul_base_isSome hC h3
        rw [ecBaseMult_some C hsg]
        exact ⟨_, rfl⟩
  · exact ⟨_, rfl⟩

theorem IsCommitment.allOnCurve (hC : C.Lawful) {as : List Nat} {vs : List ECPoint}
    (h : IsCommitment C as vs) : AllOnCurve C vs := by
  induction h with
  | nil => intro v hv; cases hv
  | cons ha _ ih =>
    intro v hv
    rcases List.mem_cons.1 hv with rfl | hv
    · exact Option.isSome_iff_exists.2 ⟨_, lift_of_toAffine hC ha⟩
    · exact ih v hv

end Vss
end TssVerif
