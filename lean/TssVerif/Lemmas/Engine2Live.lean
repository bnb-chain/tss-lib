import TssVerif.Lemmas.Engine2System
import TssVerif.Lemmas.Engine2Order
/-! No deadlock in the closed two-committee system: if every member of both committees has been started and every
emitted message has reached every member whose table needs its type, every member has started the final round. -/
set_option autoImplicit false
namespace TssVerif.E2L
open TssVerif.Engine (Slot)
open TssVerif.Engine2

variable {P : Proto} {nOld nNew : Nat} {c : Bool} {r : RSpec} {p : Party} {tbl : List RSpec} {s : Sys2}

/-- exactly one final round, and it is the last one (`Loop.lastOnly` of the `final` flags, `finalLast2_eq`) -/
def finalLast2 : List RSpec → Bool
  | [] => false
  | [r] => r.final
  | r :: r' :: rs => !r.final && finalLast2 (r' :: rs)

theorem finalLast2_eq : ∀ tbl : List RSpec, finalLast2 tbl = Loop.lastOnly (tbl.map (·.final))
  | [] => rfl
  | [_] => rfl
  | r :: r' :: rs => by
    show (!r.final && finalLast2 (r' :: rs)) = (!r.final && Loop.lastOnly ((r' :: rs).map (·.final)))
    rw [finalLast2_eq (r' :: rs)]

def notOther : Cnt → Bool
  | .perNewOther => false
  | _ => true

/-- type `ty` is emitted by `tbl` in a round with index `≤ k`. A `perNewOther` emission reaches every new member but
the sender, so it supplies a requirement only where the sender's own share is met otherwise: `allowOther` says
whether such an emission counts (new sender, new recipient) -/
def emitsBy (tbl : List RSpec) (k ty : Nat) (allowOther : Bool) : Bool :=
  (tbl.take (k + 1)).any fun r' => r'.emits.any fun e => e.1 == ty && (allowOther || notOther e.2)

/-- `Start` puts own copies of everything in `needs` into the own slot -/
def selfCovers (r : RSpec) (needs : List (Nat × Bool)) : Bool :=
  needs.all fun tf => r.selfStore.find? (fun x => x.1 == tf.1) == some tf

/-- what round `k` of role `c` needs is supplied: a non-preset requirement on a committee names only types that
committee's table emits in that round or earlier, and the member's own share of a requirement on its own
committee is met by its own `Start` -/
def suppliedRound (P : Proto) (c : Bool) (k : Nat) (r : RSpec) : Bool :=
  r.final ||
  ((r.presetOld || (!r.needsOld.isEmpty && r.needsOld.all (fun tf => emitsBy P.old k tf.1 false) &&
      (c || selfCovers r r.needsOld))) &&
   (r.presetNew || (!r.needsNew.isEmpty && r.needsNew.all (fun tf => emitsBy P.new k tf.1 c) &&
      (!c || r.selfOkNew || selfCovers r r.needsNew))))

def supplied (P : Proto) (c : Bool) : Bool :=
  (List.range (tblOf P c).length).all fun k => match (tblOf P c)[k]? with
    | none => true
    | some r => suppliedRound P c k r

/-- channel discipline: every requirement and every own copy carries the flag genuine messages of its type carry -/
def disciplined2 (P : Proto) : Bool :=
  (P.old ++ P.new).all fun r => (r.needsOld ++ r.needsNew ++ r.selfStore).all fun tf => tf.2 == flagOf2 P tf.1

/-- some round of `tbl` needs type `ty` (from either committee) -/
def needsTy (tbl : List RSpec) (ty : Nat) : Bool :=
  tbl.any fun r => (r.needsOld.any fun tf => tf.1 == ty) || (r.needsNew.any fun tf => tf.1 == ty)

/-- the old members' first `Start` emits something the new members need (so a started new member is woken up) -/
def wakeNew (P : Proto) : Bool :=
  match P.old[0]? with
  | some r0 => r0.emits.any fun e => needsTy P.new e.1 && !ownTy P.new e.1 && notOther e.2
  | none => false

/-- the new members' first two rounds emit something the old members need (two: a new member's first round emits
nothing in the library's tables) -/
def wakeOld (P : Proto) : Bool :=
  (P.new.take 2).any fun r' => r'.emits.any fun e => needsTy P.old e.1 && !ownTy P.old e.1 && notOther e.2

/-- what `no_deadlock2` needs of a protocol (all decidable) -/
structure LiveFacts (P : Proto) : Prop where
  finOld : finalLast2 P.old = true
  finNew : finalLast2 P.new = true
  sameLen : P.old.length = P.new.length
  supOld : supplied P false = true
  supNew : supplied P true = true
  disc : disciplined2 P = true
  wakeN : wakeNew P = true
  wakeO : wakeOld P = true

theorem liveFacts_of_isLib (h : IsLib P) : LiveFacts P := by
  rcases h with rfl | rfl <;> (refine ⟨?_, ?_, ?_, ?_, ?_, ?_, ?_, ?_⟩ <;> decide)

theorem LiveFacts.fin (F : LiveFacts P) (c : Bool) : finalLast2 (tblOf P c) = true := by
  cases c; exact F.finOld; exact F.finNew

theorem LiveFacts.sup (F : LiveFacts P) (c : Bool) : supplied P c = true := by
  cases c; exact F.supOld; exact F.supNew

theorem LiveFacts.len (F : LiveFacts P) (c : Bool) : (tblOf P c).length = P.old.length := by
  cases c; rfl; exact F.sameLen.symm

/-- what `disciplined2` says of one round of either role: requirements on either committee and own copies carry
the genuine flag -/
theorem disc_spec (hd : disciplined2 P = true) (hr : r ∈ tblOf P c)
    {tf : Nat × Bool} (htf : (∃ c', tf ∈ needsC r c') ∨ tf ∈ r.selfStore) : tf.2 = flagOf2 P tf.1 := by
  simp only [disciplined2, List.all_eq_true] at hd
  refine eq_of_beq (hd r (by cases c; exact List.mem_append_left _ hr; exact List.mem_append_right _ hr) tf ?_)
  rcases htf with ⟨c', h⟩ | h
  · cases c'
    · exact List.mem_append_left _ (List.mem_append_left _ h)
    · exact List.mem_append_left _ (List.mem_append_right _ h)
  · exact List.mem_append_right _ h

theorem supplied_spec (h : supplied P c = true) {k : Nat} {r : RSpec}
    (hr : (tblOf P c)[k]? = some r) : suppliedRound P c k r = true := by
  unfold supplied at h
  rw [List.all_eq_true] at h
  have := h k (List.mem_range.mpr (Loop.lt_of_getElem?_some hr))
  rw [hr] at this
  exact this

theorem emitsBy_spec {k ty : Nat} {ao : Bool} (h : emitsBy tbl k ty ao = true) :
    ∃ k' r' e, k' ≤ k ∧ tbl[k']? = some r' ∧ e ∈ r'.emits ∧ e.1 = ty ∧ (ao = true ∨ notOther e.2 = true) := by
  simp only [emitsBy, List.any_eq_true, Bool.and_eq_true, beq_iff_eq, Bool.or_eq_true] at h
  obtain ⟨r', hr', e, he, h3⟩ := h
  obtain ⟨i, hi, hr'⟩ := Loop.mem_take.mp hr'
  exact ⟨i, r', e, by omega, hr', he, h3.1, h3.2⟩

/-- a party beyond round index `k'` has every type round `k'` emits in its log (the committee sizes permitting) -/
theorem mem_out_of_round (hc : Canon tbl p) {k' : Nat} {r' : RSpec} {e : Nat × Cnt}
    (hk : k' < p.rnd) (hr' : tbl[k']? = some r') (he : e ∈ r'.emits)
    (hn : e.2 = Cnt.once ∨ (e.2 = Cnt.perNew ∧ 0 < p.nNew) ∨ (e.2 = Cnt.perNewOther ∧ 1 < p.nNew)) :
    e.1 ∈ p.out := by
  rw [hc.2.1, mem_emitsUpTo_iff]
  exact ⟨k', r', hk, hr', mem_emitList_iff.mpr ⟨e, he, rfl, hn⟩⟩

theorem cnt_cases {e : Nat × Cnt} {n : Nat} (h1 : 0 < n) (h2 : notOther e.2 = true ∨ 1 < n) :
    e.2 = Cnt.once ∨ (e.2 = Cnt.perNew ∧ 0 < n) ∨ (e.2 = Cnt.perNewOther ∧ 1 < n) := by
  rcases e with ⟨t, c⟩
  cases c
  · exact Or.inl rfl
  · exact Or.inr (Or.inl ⟨rfl, h1⟩)
  · rcases h2 with h | h
    · simp [notOther] at h
    · exact Or.inr (Or.inr ⟨rfl, h⟩)

/-- everything stored carries the genuine flag of its type -/
def FlagsOk2 (P : Proto) (p : Party) : Prop := ∀ t j s, p.store t j = some s → s.flag = flagOf2 P t

/-- what `Start` of the current round marks ok is ok -/
def StartOk (tbl : List RSpec) (p : Party) : Prop :=
  p.rnd ≠ 0 → ∀ r, tbl[p.rnd - 1]? = some r →
    (∀ j, (r.presetOld || r.final) = true → p.okOld j = true) ∧
    (∀ j, (r.presetNew || r.final || (r.selfOkNew && j == p.self)) = true → p.okNew j = true)

/-- own share of the current round's requirement on the own committee -/
def SelfSat2 (tbl : List RSpec) (c : Bool) (p : Party) : Prop :=
  ∀ r, cur tbl p = some r → r.final = false → cov r p c p.self

def DoneLast2 (tbl : List RSpec) (p : Party) : Prop := p.done = true → tbl.length ≤ p.rnd

structure LInv (P : Proto) (c : Bool) (p : Party) : Prop where
  flagsOk : FlagsOk2 P p
  startOk : StartOk (tblOf P c) p
  selfSat : SelfSat2 (tblOf P c) c p
  doneLast : DoneLast2 (tblOf P c) p

theorem sat_putSelf_self {needs : List (Nat × Bool)} (self k : Nat) (store : Nat → Nat → Option Slot)
    (h : selfCovers r needs = true) : sat needs (putSelf self k r.selfStore store) self = true := by
  simp only [selfCovers, List.all_eq_true, beq_iff_eq] at h
  exact Slots.sat_putSelf_self self k store h

theorem flagsOk_startRound (hd : disciplined2 P = true) (hr : r ∈ tblOf P c)
    (k : Nat) (h : FlagsOk2 P p) : FlagsOk2 P (startRound r k p) := by
  intro t j s hs
  simp only [startRound, putSelf] at hs
  split at hs
  · cases hf : r.selfStore.find? (fun tf => tf.1 == t) with
    | none => rw [hf] at hs; cases hs
    | some tf =>
      rw [hf] at hs
      simp only [Option.map_some] at hs
      injection hs with hs
      subst hs
      have h2 : tf.1 = t := by
        have := List.find?_some hf
        exact eq_of_beq this
      show tf.2 = flagOf2 P t
      rw [← h2]
      exact disc_spec hd hr (Or.inr (List.mem_of_find?_eq_some hf))
  · exact h t j s hs

theorem startOk_startRound (tbl : List RSpec) {k : Nat} (hr : tbl[k]? = some r) (p : Party) :
    StartOk tbl (startRound r k p) := by
  intro _ r1 hr1
  obtain rfl : r = r1 := Option.some.inj (hr.symm.trans hr1)
  exact ⟨fun _ h => h, fun _ h => h⟩

theorem selfSat_startRound (hs : supplied P c = true) {k : Nat}
    (hr : (tblOf P c)[k]? = some r) (p : Party) : SelfSat2 (tblOf P c) c (startRound r k p) := by
  intro r1 hc hf
  obtain rfl : r = r1 := Option.some.inj (hr.symm.trans (cur_eq_some.mp hc).2.2)
  have hsr := supplied_spec hs hr
  unfold suppliedRound at hsr
  simp only [hf, Bool.false_or, Bool.and_eq_true, Bool.or_eq_true, Bool.not_eq_true', List.isEmpty_eq_false_iff] at hsr
  cases c
  · rcases hsr.1 with h | ⟨⟨h1, _⟩, h3⟩
    · left
      show (r.presetOld || r.final) = true
      rw [h]; rfl
    · simp only [Bool.false_eq_true, false_or] at h3
      exact Or.inr ⟨h1, sat_putSelf_self p.self k p.store h3⟩
  · rcases hsr.2 with h | ⟨⟨h1, _⟩, h3⟩
    · left
      show (r.presetNew || r.final || (r.selfOkNew && p.self == p.self)) = true
      rw [h]; rfl
    · simp only [Bool.true_eq_false, false_or] at h3
      rcases h3 with h3 | h3
      · left
        show (r.presetNew || r.final || (r.selfOkNew && p.self == p.self)) = true
        rw [h3]; simp
      · exact Or.inr ⟨h1, sat_putSelf_self p.self k p.store h3⟩

theorem linv_startRound (F : LiveFacts P) {k : Nat}
    (hr : (tblOf P c)[k]? = some r) (hd : p.done = false) (h : LInv P c p) : LInv P c (startRound r k p) := by
  refine ⟨flagsOk_startRound F.disc (List.mem_of_getElem? hr) _ h.flagsOk, startOk_startRound _ hr p,
    selfSat_startRound (F.sup c) hr p, fun hd' => ?_⟩
  rw [show (startRound r k p).done = p.done from rfl, hd] at hd'
  cases hd'

theorem linv_moves (F : LiveFacts P) (c : Bool) : Moves (tblOf P c) (LInv P c) where
  scan := by
    intro p r h h0 hd hr
    refine ⟨?_, ?_, ?_, ?_⟩
    · intro t j s hs; rw [scan_store] at hs; exact h.flagsOk t j s hs
    · intro _ r1 hr1
      rw [scan_rnd] at hr1
      obtain ⟨a, b⟩ := h.startOk h0 r1 hr1
      rw [scan_self]
      exact ⟨fun j hj => okC_scan_of_ok (c := false) (a j hj), fun j hj => okC_scan_of_ok (c := true) (b j hj)⟩
    · intro r1 hc hf
      have hc := (Loop.cur_scan frame r p).symm.trans hc
      rw [scan_self]
      exact (h.selfSat r1 hc hf).imp okC_scan_of_ok (by rw [scan_store]; exact id)
    · intro hd'
      rw [scan_done, hd] at hd'; cases hd'
  adv := fun _ _ _ h _ hd _ _ hr' => linv_startRound F hr' hd h
  fin := fun p h _ _ hn =>
    ⟨h.flagsOk, h.startOk, fun _ hc => (by cases (cur_of_not_started (Or.inr rfl)).symm.trans hc),
      fun _ => List.getElem?_eq_none_iff.mp hn⟩

theorem linv_fresh (P : Proto) (c : Bool) (nOld nNew : Nat) (isNew : Bool) (self : Nat) :
    LInv P c (fresh nOld nNew isNew self) where
  flagsOk := fun _ _ _ h => by cases h
  startOk := fun h => absurd rfl h
  selfSat := fun _ hc => by cases (cur_of_not_started (Or.inl rfl)).symm.trans hc
  doneLast := fun h => by cases h

theorem linv_storeMsg (F : LiveFacts P) {m : Msg}
    (hm : m.slot.flag = flagOf2 P m.ty) (h : LInv P c p) : LInv P c (storeMsg m p) := by
  refine ⟨?_, h.startOk, ?_, h.doneLast⟩
  · intro t j s hs
    by_cases hc : t = m.ty ∧ j = m.frm
    · rw [hc.1, hc.2, storeMsg_store_same] at hs
      rw [← Option.some.inj hs, hc.1]; exact hm
    · rw [storeMsg_store_other m p hc] at hs
      exact h.flagsOk t j s hs
  · intro r hc hf
    have hrm : r ∈ tblOf P c := List.mem_of_getElem? (cur_eq_some.mp hc).2.2
    refine (h.selfSat r hc hf).imp id fun h2 => ⟨h2.1, sat_storeMsg ?_ _ h2.2⟩
    intro tf htf hty
    rw [hm, ← hty]
    exact disc_spec F.disc hrm (Or.inl ⟨c, htf⟩)

theorem linv_start (F : LiveFacts P) (pre : Bool) (h : LInv P c p) :
    LInv P c (start (tblOf P c) pre p) := by
  exact (linv_moves F c).start pre h fun r h0 hr => linv_startRound F hr (Loop.not_done_of_rnd_zero h.doneLast h0 hr) h

/-- at the fixpoint, or never woken: started without the advance loop and nothing delivered since. `Start` with
`pre = false` scans once and may leave a party that could advance; the first delivery runs the loop. `wakeNew` and
`wakeOld` say that such a delivery comes -/
def Idle (tbl : List RSpec) (log : List Msg) (p : Party) : Prop := Settled tbl p ∨ (log = [] ∧ p.rnd ≤ 1)

theorem idle_start {log : List Msg} (pre : Bool) (hpre : log ≠ [] → pre = true)
    (h : Idle tbl log p) : Idle tbl log (start tbl pre p) := by
  rcases start_cases tbl pre p with e | ⟨r, _, _, ⟨_, e⟩ | ⟨hf, e⟩⟩
  · rw [e]; exact h
  · rw [e]; exact Or.inl (settled_settleF tbl _)
  · rw [e]
    right
    refine ⟨?_, ?_⟩
    · cases log with
      | nil => rfl
      | cons a l => have := hpre (by simp); rw [hf] at this; cases this
    · rw [rest_rnd]; exact Nat.le_refl _

def SysLInv (P : Proto) (s : Sys2) : Prop :=
  ∀ c i, LInv P c (s.party c i) ∧ Idle (tblOf P c) (s.log c i) (s.party c i)

theorem sysLInv_transition (c : Bool) (i : Nat) (q' : Party) (l' : List Msg)
    (hinv : SysLInv P s) (h1 : LInv P c q') (h2 : Idle (tblOf P c) l' q') : SysLInv P (s.set c i q' l') := by
  intro c' k
  by_cases hc : c' = c ∧ k = i
  · obtain ⟨rfl, rfl⟩ := hc
    obtain ⟨hq, hl⟩ := s.set_same c' k q' l'
    rw [hq, hl]; exact ⟨h1, h2⟩
  · obtain ⟨e1, e2⟩ := s.set_other c i q' l' c' k hc
    rw [e1, e2]; exact hinv c' k

theorem reach2_linv (F : LiveFacts P) (h : Reach2 P nOld nNew true s) :
    SysLInv P s := by
  refine Reach2.induction_c ?_ ?_ ?_ h
  · intro c i
    cases c
    · exact ⟨linv_fresh _ _ _ _ _ _, Or.inl (settled_of_not_started (Or.inl rfl))⟩
    · exact ⟨linv_fresh _ _ _ _ _ _, Or.inl (settled_of_not_started (Or.inl rfl))⟩
  · intro s c i pre _ ih _ hpre
    exact sysLInv_transition c i _ _ ih (linv_start F pre (ih c i).1) (idle_start pre (hpre rfl) (ih c i).2)
  · intro s c' i c j ty payload _ ih _ _ _
    exact sysLInv_transition c' i _ _ ih ((linv_moves F c').deliver _ (linv_storeMsg F rfl (ih c' i).1)) (Or.inl (settled_deliver _ _ _))

/-- every emitted message has reached every member (other than its sender) whose table needs its type -/
def Quiescent2 (P : Proto) (nOld nNew : Nat) (s : Sys2) : Prop :=
  ∀ c j, j < csize nOld nNew c → ∀ ty ∈ (s.party c j).out, ∀ c' i, i < csize nOld nNew c' → ¬ (c' = c ∧ i = j) →
    needsTy (tblOf P c') ty = true → ∃ slot, (s.party c' i).store ty j = some slot

def AllStarted (nOld nNew : Nat) (s : Sys2) : Prop := ∀ c i, i < csize nOld nNew c → (s.party c i).rnd ≠ 0

theorem needsTy_of_needsC (hr : r ∈ tbl) {tf : Nat × Bool}
    (h : tf ∈ needsC r c) : needsTy tbl tf.1 = true := by
  unfold needsTy
  rw [List.any_eq_true]
  refine ⟨r, hr, ?_⟩
  rw [Bool.or_eq_true, List.any_eq_true, List.any_eq_true]
  cases c
  · exact Or.inl ⟨tf, h, by simp⟩
  · exact Or.inr ⟨tf, h, by simp⟩

/-- quiescent, and member `(c, j)` has started a round in which its table emits `ty` to everybody (to every other new
member, if both are new): member `(c', i)`, whose table needs `ty`, holds it from `j`, with the genuine flag -/
theorem stored_of_emitted (hN : 0 < nNew) (hinv : SysInv P nOld nNew s) (hl : SysLInv P s)
    (hq : Quiescent2 P nOld nNew s) {c' : Bool} {i : Nat} (hi : i < csize nOld nNew c') {j : Nat}
    (hj : j < csize nOld nNew c) (hne : ¬ (c' = c ∧ i = j)) {k ty : Nat} (hk : k < (s.party c j).rnd)
    (hneed : needsTy (tblOf P c') ty = true) (hem : emitsBy (tblOf P c) k ty (c && c') = true) :
    ∃ sl, (s.party c' i).store ty j = some sl ∧ sl.flag = flagOf2 P ty := by
  obtain ⟨k', r', e, hk', hr', he, rfl, hao⟩ := emitsBy_spec hem
  have hS := hinv c j
  have hout : e.1 ∈ (s.party c j).out := by
    refine mem_out_of_round hS.canon (by omega) hr' he (cnt_cases (by rw [hS.cfgNew]; exact hN) ?_)
    rcases hao with hao | hao
    · -- a per-other-new-member emission between two new members: they are two, so there is another one
      right
      rw [hS.cfgNew]
      simp only [Bool.and_eq_true] at hao
      obtain ⟨rfl, rfl⟩ := hao
      have hi' : i < nNew := hi
      have hj' : j < nNew := hj
      have : i ≠ j := fun e => hne ⟨rfl, e⟩
      omega
    · exact Or.inl hao
  obtain ⟨sl, hsl⟩ := hq c j hj e.1 hout c' i hi hne hneed
  exact ⟨sl, hsl, (hl c' i).1.flagsOk _ _ _ hsl⟩

/-- **key lemma**: if every member of both committees has started round `k` (1-based) and all their messages have
been delivered, a member sitting in round `k` (not final) has every member of both committees covered -/
theorem requirements_met (F : LiveFacts P) (hN : 0 < nNew)
    (hinv : SysInv P nOld nNew s) (hl : SysLInv P s) (hq : Quiescent2 P nOld nNew s)
    {c' : Bool} {i : Nat} (hi : i < csize nOld nNew c')
    (hc : cur (tblOf P c') (s.party c' i) = some r) (hf : r.final = false)
    (hall : ∀ c j, j < csize nOld nNew c → (s.party c' i).rnd ≤ (s.party c j).rnd) :
    ∀ c j, j < csize nOld nNew c → cov r (s.party c' i) c j := by
  obtain ⟨h0, _, hr⟩ := cur_eq_some.mp hc
  have hsr := supplied_spec (F.sup c') hr
  unfold suppliedRound at hsr
  simp only [hf, Bool.false_or, Bool.and_eq_true, Bool.or_eq_true, Bool.not_eq_true', List.isEmpty_eq_false_iff,
    List.all_eq_true] at hsr
  have hrm : r ∈ tblOf P c' := List.mem_of_getElem? hr
  obtain ⟨so1, so2⟩ := (hl c' i).1.startOk h0 r hr
  intro c j hj
  by_cases hself : c' = c ∧ i = j
  · obtain ⟨rfl, rfl⟩ := hself
    have := (hl c' i).1.selfSat r hc hf
    rwa [(hinv c' i).cfgSelf] at this
  · -- what the round needs from `(c, j)` is emitted by `c`'s table in this round or earlier, and `(c, j)` is there
    have key : ∀ tf ∈ needsC r c, emitsBy (tblOf P c) ((s.party c' i).rnd - 1) tf.1 (c && c') = true →
        ∃ sl, (s.party c' i).store tf.1 j = some sl ∧ sl.flag = tf.2 := fun tf htf hem => by
      rw [disc_spec F.disc hrm (Or.inl ⟨c, htf⟩)]
      exact stored_of_emitted hN hinv hl hq hi hj hself (by have := hall c j hj; omega) (needsTy_of_needsC hrm htf) hem
    cases c
    · rcases hsr.1 with h | ⟨⟨h1, h2⟩, _⟩
      · exact Or.inl (so1 j (by rw [h]; rfl))
      · exact Or.inr ⟨h1, (sat_iff _ _ _).mpr fun tf htf => key tf htf (h2 tf htf)⟩
    · rcases hsr.2 with h | ⟨⟨h1, h2⟩, _⟩
      · exact Or.inl (so2 j (by rw [h]; rfl))
      · exact Or.inr ⟨h1, (sat_iff _ _ _).mpr fun tf htf => key tf htf (h2 tf htf)⟩

theorem not_settled_behind (F : LiveFacts P) (hN : 0 < nNew)
    (hinv : SysInv P nOld nNew s) (hl : SysLInv P s) (hq : Quiescent2 P nOld nNew s)
    {c' : Bool} {i : Nat} (hi : i < csize nOld nNew c') (h0 : (s.party c' i).rnd ≠ 0)
    (hlt : (s.party c' i).rnd < (tblOf P c').length)
    (hall : ∀ c j, j < csize nOld nNew c → (s.party c' i).rnd ≤ (s.party c j).rnd) :
    ¬ Settled (tblOf P c') (s.party c' i) := by
  intro hset
  have hk : (s.party c' i).rnd - 1 < (tblOf P c').length := by omega
  have hr := List.getElem?_eq_getElem hk
  have hf : ((tblOf P c')[(s.party c' i).rnd - 1]).final = false := Bool.eq_false_iff.mpr fun hfin => by
    have := (Loop.lastOnly_map_getElem? (·.final) (finalLast2_eq _ ▸ F.fin c') hr).mp hfin
    omega
  have hdn : (s.party c' i).done = false := Bool.eq_false_iff.mpr fun hpd => by
    have := (hl c' i).1.doneLast hpd
    omega
  have hc := cur_eq_some.mpr ⟨h0, hdn, hr⟩
  have hX := hinv c' i
  have hmet := requirements_met F hN hinv hl hq hi hc hf hall
  have := (step_none_iff hc).mp hset.1
  rw [(canProceed_scan_iff hf _).mpr fun c j hj => hmet c j (by cases c; exact hX.cfgOld ▸ hj; exact hX.cfgNew ▸ hj)] at this
  cases this

/-- a member is woken by a peer that has started a round in which the peer's table emits, to everybody, a type the
member needs and does not store itself -/
theorem log_ne_nil_of_peer (hN : 0 < nNew) (hinv : SysInv P nOld nNew s)
    (hq : Quiescent2 P nOld nNew s) {c c' : Bool} {i j : Nat} (hi : i < csize nOld nNew c')
    (hj : j < csize nOld nNew c) (hne : ¬ (c' = c ∧ i = j)) {k' : Nat} {r' : RSpec} {e : Nat × Cnt}
    (hr' : (tblOf P c)[k']? = some r') (he : e ∈ r'.emits) (hk : k' < (s.party c j).rnd)
    (hneed : needsTy (tblOf P c') e.1 = true) (hown : ownTy (tblOf P c') e.1 = false) (hno : notOther e.2 = true) :
    s.log c' i ≠ [] := by
  have hS := hinv c j
  have hout := mem_out_of_round hS.canon hk hr' he (cnt_cases (by rw [hS.cfgNew]; exact hN) (Or.inl hno))
  obtain ⟨sl, hsl⟩ := hq c j hj e.1 hout c' i hi hne hneed
  -- the slot is not one the member writes itself, so its content was delivered
  rcases (hinv c' i).hist.store e.1 j sl hsl with ⟨_, h⟩ | ⟨m, hm, _⟩
  · rw [hown] at h; cases h
  · intro e; rw [e] at hm; cases hm

theorem wakeNew_spec (h : wakeNew P = true) :
    ∃ r0 e, P.old[0]? = some r0 ∧ e ∈ r0.emits ∧ needsTy P.new e.1 = true ∧ ownTy P.new e.1 = false ∧
      notOther e.2 = true := by
  unfold wakeNew at h
  split at h
  · rename_i r0 hr0
    rw [List.any_eq_true] at h
    obtain ⟨e, he, h1⟩ := h
    simp only [Bool.and_eq_true, Bool.not_eq_true'] at h1
    exact ⟨r0, e, hr0, he, h1.1.1, h1.1.2, h1.2⟩
  · cases h

theorem wakeOld_spec (h : wakeOld P = true) :
    ∃ k r' e, k < 2 ∧ P.new[k]? = some r' ∧ e ∈ r'.emits ∧ needsTy P.old e.1 = true ∧ ownTy P.old e.1 = false ∧
      notOther e.2 = true := by
  simp only [wakeOld, List.any_eq_true, Bool.and_eq_true, Bool.not_eq_true'] at h
  obtain ⟨r', hr', e, he, h1⟩ := h
  obtain ⟨k, hk, hr'⟩ := Loop.mem_take.mp hr'
  exact ⟨k, r', e, hk, hr', he, h1.1.1, h1.1.2, h1.2⟩

/-- what wakes a member of committee `c'`: an emission to everybody by the other committee's table, in its first
round (for a new member) or in one of its first two (for an old one), of a type `c'` needs and does not store itself -/
theorem wake_spec (F : LiveFacts P) (c' : Bool) :
    ∃ k r' e, k < (if c' then 1 else 2) ∧ (tblOf P (!c'))[k]? = some r' ∧ e ∈ r'.emits ∧
      needsTy (tblOf P c') e.1 = true ∧ ownTy (tblOf P c') e.1 = false ∧ notOther e.2 = true := by
  cases c'
  · exact wakeOld_spec F.wakeO
  · obtain ⟨r0, e, h⟩ := wakeNew_spec F.wakeN
    exact ⟨0, r0, e, by decide, h⟩

theorem all_reach_round2 (F : LiveFacts P) (hO : 0 < nOld) (hN : 0 < nNew)
    (hinv : SysInv P nOld nNew s) (hl : SysLInv P s) (hst : AllStarted nOld nNew s)
    (hq : Quiescent2 P nOld nNew s) :
    ∀ k, k ≤ P.old.length → ∀ c i, i < csize nOld nNew c → k ≤ (s.party c i).rnd := by
  intro k
  induction k with
  | zero => intro _ _ i _; exact Nat.zero_le _
  | succ k ih =>
    intro hk
    have ihk := ih (by omega)
    -- a member sitting exactly in round `k` is not at the fixpoint, hence never woken: `k = 1` and its log is empty;
    -- but member 0 of the other committee, once far enough, has sent it what wakes it
    have next : ∀ c i, i < csize nOld nNew c → (k = 1 → (if c then 1 else 2) ≤ (s.party (!c) 0).rnd) →
        k + 1 ≤ (s.party c i).rnd := by
      intro c i hi hpeer
      rcases Nat.lt_or_ge k (s.party c i).rnd with hlt | hle
      · exact hlt
      · exfalso
        have hrk : (s.party c i).rnd = k := Nat.le_antisymm hle (ihk c i hi)
        have h0 := hst c i hi
        have hns := not_settled_behind F hN hinv hl hq hi h0 (by rw [F.len, hrk]; omega)
          (fun c2 j hj => by rw [hrk]; exact ihk c2 j hj)
        rcases (hl c i).2 with h | ⟨hlog, _⟩
        · exact hns h
        · obtain ⟨k', r', e, hk', hr', he, hneed, hown, hno⟩ := wake_spec F c
          exact log_ne_nil_of_peer (c := !c) (c' := c) hN hinv hq hi (by cases c; exact hN; exact hO) (by cases c <;> simp)
            hr' he (by have := hpeer (by omega); omega) hneed hown hno hlog
    -- the new members first: the old members' wake-up may come from the new members' second round
    have hnew : ∀ i, i < nNew → k + 1 ≤ (s.party true i).rnd := fun i hi =>
      next true i hi fun h1 => by have := ihk false 0 hO; simp only [if_true, Bool.not_true]; omega
    intro c i hi
    cases c
    · exact next false i hi fun h1 => by have := hnew 0 hN; simp only [Bool.false_eq_true, if_false, Bool.not_false]; omega
    · exact hnew i hi

/-- **no quiescent state short of the end** (any protocol with `LiveFacts`) -/
theorem no_deadlock2_gen (F : LiveFacts P) (hO : 0 < nOld) (hN : 0 < nNew)
    (hreach : Reach2 P nOld nNew true s) (hst : AllStarted nOld nNew s) (hq : Quiescent2 P nOld nNew s) :
    ∀ c i, i < csize nOld nNew c → (s.party c i).rnd = P.old.length ∧ (s.party c i).ended = 1 := by
  intro c i hi
  have hinv := reach2_inv hreach
  have hl := reach2_linv F hreach
  have hge := all_reach_round2 F hO hN hinv hl hst hq P.old.length (Nat.le_refl _) c i hi
  have hc := (hinv c i).canon
  have hrnd : (s.party c i).rnd = (tblOf P c).length := Nat.le_antisymm hc.1 (by rw [F.len]; exact hge)
  exact ⟨by rw [hrnd, F.len], (ended_of_lastOnly (finalLast2_eq _ ▸ F.fin c) hc).2.mpr hrnd⟩

/-- executable form of `Quiescent2` -/
def quiescentB (P : Proto) (nOld nNew : Nat) (s : Sys2) : Bool :=
  [false, true].all fun c => (List.range (csize nOld nNew c)).all fun j => (s.party c j).out.all fun ty =>
    [false, true].all fun c' => (List.range (csize nOld nNew c')).all fun i =>
      (c' == c && i == j) || !needsTy (tblOf P c') ty || ((s.party c' i).store ty j).isSome

theorem quiescentB_spec (h : quiescentB P nOld nNew s = true) :
    Quiescent2 P nOld nNew s := by
  intro c j hj ty hty c' i hi hne hneed
  simp only [quiescentB, List.all_eq_true, List.mem_range] at h
  have h5 := h c (by cases c <;> simp) j hj ty hty c' (by cases c' <;> simp) i hi
  simp only [Bool.or_eq_true, Bool.and_eq_true, beq_iff_eq, Bool.not_eq_true'] at h5
  rcases h5 with (h5 | h5) | h5
  · exact absurd h5 hne
  · rw [hneed] at h5; cases h5
  · exact Option.isSome_iff_exists.mp h5

/-- executable form of `AllStarted` -/
def allStartedB (nOld nNew : Nat) (s : Sys2) : Bool :=
  [false, true].all fun c => (List.range (csize nOld nNew c)).all fun i => (s.party c i).rnd != 0

theorem allStartedB_spec (h : allStartedB nOld nNew s = true) : AllStarted nOld nNew s := by
  intro c i hi
  simp only [allStartedB, List.all_eq_true, List.mem_range] at h
  simpa using h c (by cases c <;> simp) i hi

end TssVerif.E2L
