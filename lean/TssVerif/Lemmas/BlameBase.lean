import TssVerif.Core.Commit
import TssVerif.Lemmas.Outcome
import TssVerif.Lemmas.C06
/-! What the round-level blame lemmas share.
* outcomes that are not a reported error (`NoErr` with its bind/ite rules and the abbreviations `ne_guard`, `ne_bind`,
  beside `C06L.NoPanic`); a value from "no crash, no error" (`total_of`) or along a bind (`total_bind`);
* `List.mapM` in `Outcome` as `Forall₂`, its crash-, error-freedom and totality; a few facts on lists;
* `DeCommit` on a non-empty opening: it fails or returns the tail (`decommit_cases`), hence returns a value;
* the rounds that check every peer and name all those with a bad verdict: `named` (the names as a filter of the peer
  list), `namingRound` (the round itself), `boolRound` (verdicts `true`/`false`, result the names), each with its
  exact result, who can be named, and the one-deviator statement.
The loops that stop at the first failing peer are in `Lemmas/BlameLoop.lean`.
The three namespaces are those of the round files in which these names are used (`C05EcL.NoErr`, `C05SgL.named`,
`C05SgL.flagged`, `C05SgL.total_of`, `C05L.mapM_ok_iff` …). -/
set_option autoImplicit false

namespace TssVerif.C05EcL
open TssVerif C06L

/-- the outcome is a value or a crash, not a reported error -/
def NoErr {α : Type} (o : Outcome α) : Prop := ∀ e, o ≠ .err e

theorem NoErr.ok {α : Type} (a : α) : NoErr (Outcome.ok a) := fun _ => nofun

theorem NoErr.panic {α : Type} (t : String) : NoErr (Outcome.panic t : Outcome α) := fun _ => nofun

theorem NoErr.bind {α β : Type} {x : Outcome α} {f : α → Outcome β} (hx : NoErr x)
    (hf : ∀ a, x = .ok a → NoErr (f a)) : NoErr (x >>= f) := by
  cases x with
  | ok a => exact hf a rfl
  | err e => exact absurd rfl (hx e)
  | panic t => exact NoErr.panic t

theorem NoErr.ite {α : Type} {c : Prop} [Decidable c] {a b : Outcome α} (ha : c → NoErr a)
    (hb : ¬ c → NoErr b) : NoErr (if c then a else b) := by
  split
  · exact ha ‹_›
  · exact hb ‹_›

/-- `ne_guard`: the goal is `NoErr (if c then .ok _ else k)`; go on with `k`.
`ne_bind h`: the goal is `NoErr (x >>= f)` and `h : NoErr x`; go on with `f _`. -/
macro "ne_guard" : tactic =>
  `(tactic| refine NoErr.ite (fun _ => NoErr.ok _) (fun _ => ?_))
macro "ne_bind " t:term : tactic =>
  `(tactic| refine NoErr.bind $t (fun _ _ => ?_))

end TssVerif.C05EcL

theorem TssVerif.C05SgL.total_of {α : Type} {o : TssVerif.Outcome α} (h1 : TssVerif.C06L.NoPanic o)
    (h2 : TssVerif.C05EcL.NoErr o) : ∃ v, o = .ok v :=
  TssVerif.Outcome.exists_ok_iff.2 ⟨h1, h2⟩

theorem TssVerif.C05SgL.total_bind {α β : Type} {x : TssVerif.Outcome α} {f : α → TssVerif.Outcome β}
    (hx : ∃ a, x = .ok a) (hf : ∀ a, x = .ok a → ∃ b, f a = .ok b) : ∃ b, x >>= f = .ok b := by
  obtain ⟨a, rfl⟩ := hx
  exact hf a rfl

namespace TssVerif.C05L
open TssVerif Outcome C06L C05EcL

section mapM
variable {α β : Type}

theorem mapM_ok_iff (f : α → Outcome β) : ∀ (l : List α) (vs : List β),
    l.mapM f = .ok vs ↔ List.Forall₂ (fun a v => f a = .ok v) l vs := by
  intro l
  induction l with
  | nil =>
    intro vs
    rw [List.mapM_nil, pure_eq, Outcome.ok.injEq, List.forall₂_nil_left_iff, eq_comm]
  | cons a l ih =>
    intro vs
    rw [List.mapM_cons, List.forall₂_cons_left_iff]
    simp only [bind_eq_ok, pure_eq, Outcome.ok.injEq, ih]
    exact ⟨fun ⟨v, hv, ws, hws, e⟩ => ⟨v, ws, hv, hws, e.symm⟩, fun ⟨v, ws, hv, hws, e⟩ => ⟨v, hv, ws, hws, e.symm⟩⟩

theorem mapM_noPanic (f : α → Outcome β) (l : List α) (h : ∀ a ∈ l, NoPanic (f a)) : NoPanic (l.mapM f) := by
  induction l with
  | nil => exact NoPanic.ok _
  | cons a l ih =>
    rw [List.mapM_cons]
    exact NoPanic.bind (h a (List.mem_cons_self ..)) fun _ _ =>
      NoPanic.bind (ih fun b hb => h b (List.mem_cons_of_mem _ hb)) fun _ _ => NoPanic.ok _

theorem mapM_noErr (f : α → Outcome β) (l : List α) (h : ∀ a ∈ l, NoErr (f a)) : NoErr (l.mapM f) := by
  induction l with
  | nil => exact NoErr.ok _
  | cons a l ih =>
    rw [List.mapM_cons]
    exact NoErr.bind (h a (List.mem_cons_self ..)) fun _ _ =>
      NoErr.bind (ih fun b hb => h b (List.mem_cons_of_mem _ hb)) fun _ _ => NoErr.ok _

theorem mapM_total (f : α → Outcome β) (l : List α) (h : ∀ a ∈ l, ∃ v, f a = .ok v) :
    ∃ vs, l.mapM f = .ok vs :=
  C05SgL.total_of (mapM_noPanic f l fun a ha => NoPanic.of_exists_ok (h a ha))
    (mapM_noErr f l fun a ha => by obtain ⟨v, hv⟩ := h a ha; rw [hv]; exact NoErr.ok v)

theorem mapM_panic_of (f : α → Outcome β) (pre post : List α) (p : α) (t : String)
    (hpre : ∀ q ∈ pre, ∃ v, f q = .ok v) (hp : f p = .panic t) : (pre ++ p :: post).mapM f = .panic t := by
  induction pre with
  | nil => rw [List.nil_append, List.mapM_cons, hp]; rfl
  | cons q pre ih =>
    obtain ⟨v, hv⟩ := hpre q (List.mem_cons_self ..)
    rw [List.cons_append, List.mapM_cons, hv, ih fun r hr => hpre r (List.mem_cons_of_mem _ hr)]
    rfl

end mapM

section lists
variable {α β : Type}

/-- four inequalities exclude the four-way clash -/
theorem not_or₄ {p q r s : Prop} (h : ¬ p ∧ ¬ q ∧ ¬ r ∧ ¬ s) : ¬ (p ∨ q ∨ r ∨ s) := by
  rintro (hp | hq | hr | hs)
  · exact h.1 hp
  · exact h.2.1 hq
  · exact h.2.2.1 hr
  · exact h.2.2.2 hs

theorem forall₂_mem_left {R : α → β → Prop} {l1 : List α} {l2 : List β}
    (h : List.Forall₂ R l1 l2) : ∀ a ∈ l1, ∃ b ∈ l2, R a b := by
  induction h with
  | nil => intro a ha; cases ha
  | cons h1 _ ih =>
    intro a ha
    rcases List.mem_cons.1 ha with rfl | ha
    · exact ⟨_, List.mem_cons_self .., h1⟩
    · obtain ⟨b, hb, hr⟩ := ih a ha
      exact ⟨b, List.mem_cons_of_mem _ hb, hr⟩

theorem forall₂_mem_right {R : α → β → Prop} {l1 : List α} {l2 : List β}
    (h : List.Forall₂ R l1 l2) : ∀ b ∈ l2, ∃ a ∈ l1, R a b :=
  fun b hb => forall₂_mem_left h.flip b hb

theorem forall₂_left {R : α → β → Prop} {l : List α} {vs : List β} (h : List.Forall₂ R l vs) :
    ∀ a ∈ l, ∃ v, R a v := fun a ha => by
  obtain ⟨v, _, hv⟩ := forall₂_mem_left h a ha
  exact ⟨v, hv⟩

theorem exists_forall₂ {R : α → β → Prop} : ∀ (l : List α), (∀ a ∈ l, ∃ b, R a b) → ∃ bs, List.Forall₂ R l bs
  | [], _ => ⟨[], .nil⟩
  | a :: l, h => by
    obtain ⟨b, hb⟩ := h a (List.mem_cons_self ..)
    obtain ⟨bs, hbs⟩ := exists_forall₂ l fun x hx => h x (List.mem_cons_of_mem _ hx)
    exact ⟨b :: bs, .cons hb hbs⟩

theorem eq_singleton_of_nodup {l : List Nat} {x : Nat} (hnd : l.Nodup) (hx : x ∈ l)
    (hall : ∀ c ∈ l, c = x) : l = [x] := by
  cases l with
  | nil => cases hx
  | cons a l =>
    have ha := hall a (List.mem_cons_self ..)
    subst ha
    cases l with
    | nil => rfl
    | cons b l =>
      have hb := hall b (List.mem_cons_of_mem _ (List.mem_cons_self ..))
      subst hb
      exact absurd (List.mem_cons_self ..) (List.nodup_cons.1 hnd).1

theorem idx_ne_of_nodup (f : α → Nat) {pre post : List α} {d : α}
    (hnd : ((pre ++ d :: post).map f).Nodup) : ∀ q ∈ pre, f q ≠ f d := by
  intro q hq
  rw [List.map_append, List.map_cons, List.nodup_append] at hnd
  exact hnd.2.2 (f q) (List.mem_map.2 ⟨q, hq, rfl⟩) (f d) (List.mem_cons_self ..)

end lists

/-- on a non-empty list `DeCommit` either fails or returns the tail -/
theorem decommit_cases (H : HashFn) (c : Nat) (d : List Int) (hd : d ≠ []) :
    decommitWith H c d = .ok none ∨ decommitWith H c d = .ok (some (d.drop 1)) := by
  cases d with
  | nil => exact absurd rfl hd
  | cons r s =>
    unfold decommitWith commitVerifyWith sha512_256iWith
    simp only [List.isEmpty_cons, Bool.false_eq_true, if_false]
    cases hb : (bytesToNat (H (frame ((r :: s).map intToBytesBE))) == c)
    · left; rfl
    · right; rfl

theorem decommit_total (H : HashFn) (c : Nat) (d : List Nat) (hd : d ≠ []) :
    ∃ o, decommitWith H c (d.map Int.ofNat) = .ok o :=
  (decommit_cases H c _ fun h => hd (List.map_eq_nil_iff.1 h)).elim (fun h => ⟨_, h⟩) (fun h => ⟨_, h⟩)

theorem decommit_no_err (H : HashFn) (c : Nat) (d : List Int) (e : String) : decommitWith H c d ≠ .err e := by
  cases d with
  | nil => intro h; cases h
  | cons r s =>
    rcases decommit_cases H c (r :: s) (by simp) with h | h <;> rw [h] <;> nofun

theorem decommit_noPanic (H : HashFn) (c : Nat) (d : List Nat) (hd : d ≠ []) :
    NoPanic (decommitWith H c (d.map Int.ofNat)) :=
  NoPanic.of_exists_ok (decommit_total H c d hd)

theorem decommit_some_length (H : HashFn) {c : Nat} {d v : List Int} (h : decommitWith H c d = .ok (some v)) :
    v.length = d.length - 1 := by
  cases d with
  | nil => cases h
  | cons r s =>
    rcases decommit_cases H c (r :: s) (by simp) with h' | h' <;> rw [h'] at h
    · cases h
    · injection h with h; injection h with h; subst h; simp

end TssVerif.C05L

namespace TssVerif.C05SgL
open TssVerif Outcome C06L C05EcL C05L
section generic
variable {α β γ : Type}

/-- the per-peer check returned a verdict and the verdict is a bad one -/
def flagged (bad : β → Bool) : Outcome β → Bool
  | .ok v => bad v
  | _ => false

theorem flagged_iff (bad : β → Bool) (o : Outcome β) : flagged bad o = true ↔ ∃ v, o = .ok v ∧ bad v = true := by
  cases o with
  | ok v => simp [flagged]
  | err e => simp [flagged]
  | panic e => simp [flagged]

theorem flagged_eq_false_iff (bad : β → Bool) {o : Outcome β} {v : β} (h : o = .ok v) :
    flagged bad o = false ↔ bad v = false := by
  rw [h]; rfl

/-- the culprit list of such a round: the indices of the flagged peers, in peer order -/
def named (f : α → Nat) (bad : β → Bool) (chk : α → Outcome β) (ps : List α) : List Nat :=
  (ps.filter fun p => flagged bad (chk p)).map f

/-- the names picked from the verdict list, as the rounds compute them -/
def zipNamed (f : α → Nat) (bad : β → Bool) (ps : List α) (vs : List β) : List Nat :=
  (ps.zip vs).filterMap fun pv => if bad pv.2 then some (f pv.1) else none

theorem zipNamed_eq_named (f : α → Nat) (bad : β → Bool) (chk : α → Outcome β) (ps : List α) (vs : List β)
    (h : List.Forall₂ (fun p v => chk p = .ok v) ps vs) : zipNamed f bad ps vs = named f bad chk ps := by
  unfold named zipNamed
  induction h with
  | nil => rfl
  | @cons p v ps vs h1 _ ih =>
    rw [List.zip_cons_cons, List.filterMap_cons, List.filter_cons, h1]
    have hb : flagged bad (Outcome.ok v) = bad v := rfl
    rw [hb]
    cases hv : bad v
    · simp only [Bool.false_eq_true, if_false]
      exact ih
    · simp only [if_true, List.map_cons]
      rw [← ih]

theorem mem_named (f : α → Nat) (bad : β → Bool) (chk : α → Outcome β) (ps : List α) (j : Nat) :
    j ∈ named f bad chk ps ↔ ∃ p ∈ ps, f p = j ∧ ∃ v, chk p = .ok v ∧ bad v = true := by
  unfold named
  simp only [List.mem_map, List.mem_filter, flagged_iff]
  exact ⟨fun ⟨p, ⟨hp, hv⟩, e⟩ => ⟨p, hp, e, hv⟩, fun ⟨p, hp, e, hv⟩ => ⟨p, ⟨hp, hv⟩, e⟩⟩

theorem named_sublist (f : α → Nat) (bad : β → Bool) (chk : α → Outcome β) (ps : List α) :
    (named f bad chk ps).Sublist (ps.map f) :=
  (List.filter_sublist).map _

theorem named_eq_nil_iff (f : α → Nat) (bad : β → Bool) (chk : α → Outcome β) (ps : List α) :
    named f bad chk ps = [] ↔ ∀ p ∈ ps, flagged bad (chk p) = false := by
  unfold named
  rw [List.map_eq_nil_iff, List.filter_eq_nil_iff]
  constructor
  · intro h p hp; simpa using h p hp
  · intro h p hp; simp [h p hp]

theorem named_subset_dev (f : α → Nat) (bad : β → Bool) (chk : α → Outcome β) (ps : List α) (dev : Nat)
    (hothers : ∀ p ∈ ps, f p ≠ dev → flagged bad (chk p) = false) : ∀ c ∈ named f bad chk ps, c = dev := by
  intro c hc
  obtain ⟨p, hp, rfl, hv⟩ := (mem_named f bad chk ps c).1 hc
  by_contra hne
  have := hothers p hp hne
  rw [(flagged_iff bad _).2 hv] at this
  cases this

theorem named_eq_singleton (f : α → Nat) (bad : β → Bool) (chk : α → Outcome β) (ps : List α) (dev : Nat)
    (hothers : ∀ p ∈ ps, f p ≠ dev → flagged bad (chk p) = false) (hnd : (ps.map f).Nodup)
    (d : α) (hd : d ∈ ps) (hdev : f d = dev) (hbad : flagged bad (chk d) = true) :
    named f bad chk ps = [dev] := by
  refine eq_singleton_of_nodup (hnd.sublist (named_sublist f bad chk ps)) ?_
    (named_subset_dev f bad chk ps dev hothers)
  exact (mem_named f bad chk ps dev).2 ⟨d, hd, hdev, (flagged_iff bad _).1 hbad⟩

/-- the shape of the rounds that name every failing peer: run the check on every peer, pick the names of the bad
verdicts, and return what `g` makes of the names and the verdicts -/
def namingRound (f : α → Nat) (bad : β → Bool) (chk : α → Outcome β) (g : List Nat → List β → γ) (ps : List α) :
    Outcome γ :=
  ps.mapM chk >>= fun vs => .ok (g (zipNamed f bad ps vs) vs)

variable (f : α → Nat) (bad : β → Bool) (chk : α → Outcome β) (g : List Nat → List β → γ) (ps : List α)

theorem namingRound_ok_iff (r : γ) :
    namingRound f bad chk g ps = .ok r ↔
      ∃ vs, List.Forall₂ (fun p v => chk p = .ok v) ps vs ∧ r = g (named f bad chk ps) vs := by
  unfold namingRound
  simp only [bind_eq_ok, mapM_ok_iff, Outcome.ok.injEq]
  constructor
  · rintro ⟨vs, hvs, rfl⟩
    exact ⟨vs, hvs, by rw [zipNamed_eq_named f bad chk ps vs hvs]⟩
  · rintro ⟨vs, hvs, rfl⟩
    exact ⟨vs, hvs, by rw [zipNamed_eq_named f bad chk ps vs hvs]⟩

theorem namingRound_of_checks_ok (h : ∀ p ∈ ps, ∃ v, chk p = .ok v) :
    ∃ vs, List.Forall₂ (fun p v => chk p = .ok v) ps vs ∧
      namingRound f bad chk g ps = .ok (g (named f bad chk ps) vs) := by
  obtain ⟨vs, hvs⟩ := exists_forall₂ ps h
  exact ⟨vs, hvs, (namingRound_ok_iff f bad chk g ps _).2 ⟨vs, hvs, rfl⟩⟩

theorem namingRound_noPanic (h : ∀ p ∈ ps, NoPanic (chk p)) : NoPanic (namingRound f bad chk g ps) :=
  NoPanic.bind (mapM_noPanic chk ps h) fun _ _ => NoPanic.ok _

theorem namingRound_noErr (h : ∀ p ∈ ps, NoErr (chk p)) : NoErr (namingRound f bad chk g ps) :=
  NoErr.bind (mapM_noErr chk ps h) fun _ _ => NoErr.ok _

theorem namingRound_panic_of (pre post : List α) (p : α) (t : String)
    (hpre : ∀ q ∈ pre, ∃ v, chk q = .ok v) (hp : chk p = .panic t) :
    namingRound f bad chk g (pre ++ p :: post) = .panic t := by
  unfold namingRound
  rw [mapM_panic_of chk pre post p t hpre hp]; rfl

/-- **one deviator.** Every peer other than `dev` gets a good verdict. Then (1) nobody but `dev` is among the names;
(2) with distinct indices the names are exactly `[dev]` iff a record of `dev` got a bad verdict; (3) if one did, the
round does return, with the names `[dev]`; (4) if `dev`'s records get good verdicts too, the round returns with no
name. -/
theorem namingRound_single_deviator (dev : Nat)
    (hothers : ∀ p ∈ ps, f p ≠ dev → ∃ v, chk p = .ok v ∧ bad v = false) :
    (∀ c ∈ named f bad chk ps, c = dev) ∧
    ((ps.map f).Nodup →
      (named f bad chk ps = [dev] ↔ ∃ d ∈ ps, f d = dev ∧ ∃ v, chk d = .ok v ∧ bad v = true)) ∧
    (∀ d ∈ ps, f d = dev → (ps.map f).Nodup → (∃ v, chk d = .ok v ∧ bad v = true) →
      ∃ vs, List.Forall₂ (fun p v => chk p = .ok v) ps vs ∧ namingRound f bad chk g ps = .ok (g [dev] vs)) ∧
    ((∀ d ∈ ps, f d = dev → ∃ v, chk d = .ok v ∧ bad v = false) →
      ∃ vs, List.Forall₂ (fun p v => chk p = .ok v) ps vs ∧ namingRound f bad chk g ps = .ok (g [] vs)) := by
  have ho : ∀ p ∈ ps, f p ≠ dev → flagged bad (chk p) = false := fun p hp hne => by
    obtain ⟨v, hv, hb⟩ := hothers p hp hne
    exact (flagged_eq_false_iff bad hv).2 hb
  have hone : ∀ d ∈ ps, f d = dev → (ps.map f).Nodup → (∃ v, chk d = .ok v ∧ bad v = true) →
      named f bad chk ps = [dev] := fun d hd hdev hnd hbad =>
    named_eq_singleton f bad chk ps dev ho hnd d hd hdev ((flagged_iff bad _).2 hbad)
  refine ⟨named_subset_dev f bad chk ps dev ho, fun hnd => ⟨fun h => ?_, fun ⟨d, hd, hdev, hbad⟩ => hone d hd hdev hnd hbad⟩,
    fun d hd hdev hnd hbad => ?_, fun hdev => ?_⟩
  · exact (mem_named f bad chk ps dev).1 (h ▸ List.mem_cons_self ..)
  · have hall : ∀ p ∈ ps, ∃ v, chk p = .ok v := fun p hp => by
      by_cases he : f p = dev
      · have : p = d := List.inj_on_of_nodup_map hnd hp hd (he.trans hdev.symm)
        obtain ⟨v, hv, _⟩ := hbad
        exact ⟨v, this ▸ hv⟩
      · obtain ⟨v, hv, _⟩ := hothers p hp he
        exact ⟨v, hv⟩
    obtain ⟨vs, hvs, h⟩ := namingRound_of_checks_ok f bad chk g ps hall
    rw [hone d hd hdev hnd hbad] at h
    exact ⟨vs, hvs, h⟩
  · have hall : ∀ p ∈ ps, ∃ v, chk p = .ok v ∧ bad v = false := fun p hp => by
      by_cases he : f p = dev
      · exact hdev p hp he
      · exact hothers p hp he
    obtain ⟨vs, hvs, h⟩ := namingRound_of_checks_ok f bad chk g ps fun p hp => by
      obtain ⟨v, hv, _⟩ := hall p hp
      exact ⟨v, hv⟩
    rw [(named_eq_nil_iff f bad chk ps).2 fun p hp => by
      obtain ⟨v, hv, hb⟩ := hall p hp
      exact (flagged_eq_false_iff bad hv).2 hb] at h
    exact ⟨vs, hvs, h⟩

end generic

section boolRound
variable {α : Type} (f : α → Nat) (chk : α → Outcome Bool) (ps : List α)

/-- "this peer failed": the verdict is `false` -/
abbrev bad2 : Bool → Bool := fun ok => !ok

theorem ok_bad2_iff {o : Outcome Bool} : (∃ v, o = .ok v ∧ bad2 v = true) ↔ o = .ok false :=
  ⟨fun ⟨v, hv, hb⟩ => (by cases v with | false => exact hv | true => cases hb), fun h => ⟨_, h, rfl⟩⟩

theorem ok_bad2_false_iff {o : Outcome Bool} : (∃ v, o = .ok v ∧ bad2 v = false) ↔ o = .ok true :=
  ⟨fun ⟨v, hv, hb⟩ => (by cases v with | true => exact hv | false => cases hb), fun h => ⟨_, h, rfl⟩⟩

/-- the round that returns the names of the peers whose check said `false` -/
abbrev boolRound : Outcome (List Nat) := namingRound f bad2 chk (fun cs _ => cs) ps

/-- `kgRound4` and signing `round2` are written in this form -/
theorem mapM_zip_eq_boolRound :
    (ps.mapM chk >>= fun oks =>
      (.ok ((ps.zip oks).filterMap fun (p, b) => if b then none else some (f p)) : Outcome (List Nat))) =
      boolRound f chk ps := by
  unfold boolRound namingRound zipNamed
  congr 1
  funext vs
  congr 2
  funext ⟨p, b⟩
  cases b <;> rfl

theorem boolRound_ok_iff (cs : List Nat) :
    boolRound f chk ps = .ok cs ↔ (∀ p ∈ ps, ∃ v, chk p = .ok v) ∧ cs = named f bad2 chk ps := by
  rw [namingRound_ok_iff]
  exact ⟨fun ⟨_, hvs, e⟩ => ⟨forall₂_left hvs, e⟩, fun ⟨hall, e⟩ => by
    obtain ⟨vs, hvs⟩ := exists_forall₂ ps hall
    exact ⟨vs, hvs, e⟩⟩

theorem boolRound_culprit_iff {cs : List Nat} (h : boolRound f chk ps = .ok cs) (j : Nat) :
    j ∈ cs ↔ ∃ p ∈ ps, f p = j ∧ chk p = .ok false := by
  simp only [((boolRound_ok_iff f chk ps cs).1 h).2, mem_named, ok_bad2_iff]

theorem boolRound_culprits_are_senders {cs : List Nat} (h : boolRound f chk ps = .ok cs) :
    cs.Sublist (ps.map f) ∧ (∀ c ∈ cs, c ∈ ps.map f) ∧ ((ps.map f).Nodup → cs.Nodup) := by
  have hs : cs.Sublist (ps.map f) := by
    rw [((boolRound_ok_iff f chk ps cs).1 h).2]; exact named_sublist f bad2 chk ps
  exact ⟨hs, fun c hc => hs.subset hc, fun hnd => hnd.sublist hs⟩

theorem boolRound_pass_iff : boolRound f chk ps = .ok [] ↔ ∀ p ∈ ps, chk p = .ok true := by
  rw [boolRound_ok_iff, eq_comm, named_eq_nil_iff]
  constructor
  · rintro ⟨hall, hnil⟩ p hp
    obtain ⟨v, hv⟩ := hall p hp
    exact ok_bad2_false_iff.1 ⟨v, hv, (flagged_eq_false_iff bad2 hv).1 (hnil p hp)⟩
  · exact fun hall => ⟨fun p hp => ⟨true, hall p hp⟩, fun p hp => (flagged_eq_false_iff bad2 (hall p hp)).2 rfl⟩

theorem boolRound_single_deviator (dev : Nat) (hothers : ∀ p ∈ ps, f p ≠ dev → chk p = .ok true) :
    (∀ cs, boolRound f chk ps = .ok cs → ∀ c ∈ cs, c = dev) ∧
    (∀ cs, (ps.map f).Nodup → boolRound f chk ps = .ok cs →
      (cs = [dev] ↔ ∃ d ∈ ps, f d = dev ∧ chk d = .ok false)) ∧
    (∀ d ∈ ps, f d = dev → (ps.map f).Nodup → chk d = .ok false → boolRound f chk ps = .ok [dev]) ∧
    ((∀ d ∈ ps, f d = dev → chk d = .ok true) → boolRound f chk ps = .ok []) := by
  obtain ⟨h1, h2, h3, h4⟩ := namingRound_single_deviator f bad2 chk (fun cs _ => cs) ps dev
    fun p hp hne => ok_bad2_false_iff.2 (hothers p hp hne)
  refine ⟨fun cs h => ?_, fun cs hnd h => ?_, fun d hd hdev hnd hbad => ?_, fun hdev => ?_⟩
  · rw [((boolRound_ok_iff f chk ps cs).1 h).2]
    exact h1
  · rw [((boolRound_ok_iff f chk ps cs).1 h).2, h2 hnd]
    simp only [ok_bad2_iff]
  · obtain ⟨_, _, h⟩ := h3 d hd hdev hnd (ok_bad2_iff.2 hbad)
    exact h
  · obtain ⟨_, _, h⟩ := h4 fun d hd he => ok_bad2_false_iff.2 (hdev d hd he)
    exact h

end boolRound
end TssVerif.C05SgL
