import TssVerif.Core.Zk
import TssVerif.Lemmas.Outcome
import TssVerif.Lemmas.GoIntSpec
/-! What every proof about the verifiers of `Core/Zk.lean` starts from: the interval guard as a
proposition, `expP` in terms of Go's `Exp`, and casts between the wire integers and the naturals the honest
provers compute with. -/
set_option autoImplicit false

theorem TssVerif.C10L.emod_natCast_toNat (x m : Nat) : (((x : Int) % (m : Int)).toNat) = x % m := by
  rw [← Int.natCast_mod, Int.toNat_natCast]

namespace TssVerif.Zk
open C10L (emod_natCast_toNat)

theorem isInInterval_iff {b bound : Int} : isInInterval b bound = true ↔ 0 ≤ b ∧ b < bound := by
  unfold isInInterval
  rw [Bool.and_eq_true, decide_eq_true_eq, decide_eq_true_eq]
  exact And.comm

theorem expP_eq_ok {x y : Int} {m r : Nat} : expP x y m = .ok r ↔ goExp x y m = some r := by
  unfold expP nilPanic Outcome.ofOption
  cases goExp x y m <;> simp

theorem expP_of_nonneg (x : Int) {y : Int} {m : Nat} (hm : m ≠ 0) (hy : 0 ≤ y) :
    expP x y m = .ok ((x % (m : Int)).toNat ^ y.toNat % m) :=
  expP_eq_ok.2 (goExp_of_nonneg x hm hy)

theorem expP_nat (x e : Nat) {m : Nat} (hm : m ≠ 0) : expP (x : Int) (e : Int) m = .ok (x ^ e % m) := by
  rw [expP_of_nonneg _ hm (Int.natCast_nonneg e), emod_natCast_toNat, Int.toNat_natCast, ← Nat.pow_mod]

/-- `modN.Mul(a, b)` where the wire integer `a` happens to be a natural number -/
theorem mulI_nat (a b m : Nat) : (((a : Int) * (b : Int)) % (m : Int)).toNat = a * b % m := by
  rw [← Nat.cast_mul, emod_natCast_toNat]

theorem natCast_emod_toNat (x : Int) {m : Nat} (hm : m ≠ 0) : (((x % (m : Int)).toNat : Nat) : Int) = x % m :=
  Int.toNat_of_nonneg (Int.emod_nonneg _ (by exact_mod_cast hm))

theorem emod_toNat_lt (x : Int) {m : Nat} (hm : 0 < m) : (x % (m : Int)).toNat < m := by
  have hm' : (0 : Int) < m := by exact_mod_cast hm
  have h0 := Int.emod_nonneg x (ne_of_gt hm')
  have h1 := Int.emod_lt_of_pos x hm'
  omega

theorem natCast_sq (n : Nat) : (n : Int) * (n : Int) = ((n * n : Nat) : Int) := (Nat.cast_mul n n).symm

theorem natCast_succ (n : Nat) : (n : Int) + 1 = ((n + 1 : Nat) : Int) := (Nat.cast_succ n).symm

theorem getD_nonneg {l : List Int} (h : ∀ x ∈ l, 0 ≤ x) (i : Nat) : 0 ≤ l.getD i 0 := by
  rw [List.getD_eq_getElem?_getD]
  cases hi : l[i]? with
  | none => exact Int.le_refl 0
  | some x => exact h x (List.mem_of_getElem? hi)

theorem foldlM_guard_true {ι : Type} (f : ι → Outcome Bool) : ∀ (l : List ι) (b : Bool),
    l.foldlM (fun acc i => if !acc then pure false else f i) b = .ok true →
      b = true ∧ ∀ i ∈ l, f i = .ok true
  | [], b, h => by
    simp only [List.foldlM_nil] at h
    cases h
    exact ⟨rfl, fun _ hi => nomatch hi⟩
  | i :: l, b, h => by
    rw [List.foldlM_cons] at h
    obtain ⟨b', h1, h2⟩ := Outcome.bind_eq_ok.1 h
    obtain ⟨hb', hl⟩ := foldlM_guard_true f l b' h2
    subst hb'
    cases b with
    | false => cases h1
    | true =>
      refine ⟨rfl, fun j hj => ?_⟩
      rcases List.mem_cons.1 hj with rfl | hj
      · exact h1
      · exact hl j hj

theorem foldlM_guard_eq_true {ι : Type} (f : ι → Outcome Bool) (l : List ι) :
    l.foldlM (fun acc i => if !acc then pure false else f i) true = .ok true ↔ ∀ i ∈ l, f i = .ok true := by
  refine ⟨fun h => (foldlM_guard_true f l true h).2, fun h => ?_⟩
  induction l with
  | nil => rfl
  | cons a l ih =>
    rw [List.foldlM_cons]
    show (f a >>= _) = _
    rw [h a (List.mem_cons_self ..)]
    exact ih fun i hi => h i (List.mem_cons_of_mem _ hi)

/-- a guarded loop whose every round gives the same verdict `b` gives `b` -/
theorem foldlM_const_step {ι : Type} (step : ι → Outcome Bool) (b : Bool) (l : List ι) (hl : l ≠ [])
    (h : ∀ i ∈ l, step i = .ok b) :
    l.foldlM (fun acc i => if !acc then pure false else step i) true = .ok b := by
  cases b with
  | true => exact (foldlM_guard_eq_true step l).2 h
  | false =>
    have hfalse : ∀ l : List ι, l.foldlM (fun acc i => if !acc then pure false else step i) false = .ok false := by
      intro l
      induction l with
      | nil => rfl
      | cons i l ih => rw [List.foldlM_cons]; exact ih
    cases l with
    | nil => exact absurd rfl hl
    | cons i l =>
      rw [List.foldlM_cons]
      show (step i >>= _) = _
      rw [h i (List.mem_cons_self ..), Outcome.ok_bind]
      exact hfalse l

end TssVerif.Zk
