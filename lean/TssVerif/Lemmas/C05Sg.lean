import TssVerif.Core.BlameSg
import TssVerif.Lemmas.C05Ec
import TssVerif.Lemmas.BlameLoop
import TssVerif.Lemmas.Paillier
import TssVerif.Lemmas.C17Fields
/-! What an honest signer of threshold ECDSA checks about its peers in signing rounds 2, 3, 5 and 7
(`Core/BlameSg.lean`), up to the culprit decision; the property theorems are in `Props/C05d.lean`.

* rounds 2 and 3 name every failing peer: instances of `boolRound` / `namingRound` (`Lemmas/BlameBase.lean`); the
  per-peer checks in normal form (`r2Peer_eq`, `r3Peer_eq`: the two `AliceEnd` steps one after the other);
* rounds 5 and 7 name the first failing peer: instances of `seqLoop`, round 5 on the running sum (`round5_eq`),
  round 7 on the list of the pairs accepted so far (`round7_eq`), each with what a step that goes on / stops means;
* "not a crash" / "not a reported error" for the four rounds on the current tree. -/
set_option autoImplicit false
namespace TssVerif.C05SgL
open TssVerif BlameSg Zk C05L C06L C05EcL

section r2
variable {P : Type} (C : Curve P) (H : HashFn) (cfg : Cfg) (own : Mta.RP)

theorem round2_eq (peers : List R1Peer) :
    round2 C H cfg own peers = boolRound (·.idx) (r2Peer C H cfg own) peers :=
  mapM_zip_eq_boolRound (fun p : R1Peer => p.idx) (r2Peer C H cfg own) peers

/-- **normal form of the per-peer check**: with a proof that decodes, the verdict of the range proof and the domain
guard of `HomoMult` on the received ciphertext (`N_A > 0`, `c_A < N_A²`; the multiplier is the party's own) -/
theorem r2Peer_eq (p : R1Peer) :
    r2Peer C H cfg own p =
      match rangeFromBytes p.proof with
      | none => .ok false
      | some pf => rangeVerify cfg H C.q p.nA own.ntilde own.h1 own.h2 p.cA pf >>= fun ok =>
          .ok (ok && decide (0 < p.nA ∧ p.cA < p.nA * p.nA)) := by
  unfold r2Peer
  cases rangeFromBytes p.proof with
  | none => rfl
  | some pf =>
    refine bind_congr fun ok => ?_
    cases ok with
    | false => rfl
    | true =>
      -- with the multiplier `0` the guard `0 ≤ m ∧ m < N_A` of `HomoMult` says `0 < N_A`
      simp only [Bool.not_true, Bool.false_eq_true, if_false, PaillierL.homoMult_eq_ite]
      split_ifs with hc
      · have hdom : 0 < p.nA ∧ p.cA < p.nA * p.nA := by omega
        simp [hdom]
      · have hdom : ¬ (0 < p.nA ∧ p.cA < p.nA * p.nA) := by omega
        simp [hdom]

end r2

section r3
variable {P : Type} (C : Curve P) (H : HashFn) (cfg : Cfg) (ssid : Bytes) (sk : Paillier.PrivateKey) (own : Mta.RP)

/-- "this peer failed": no pair of shares -/
abbrev bad3 : Option (Nat × Nat) → Bool := fun v => v.isNone

/-- the `AliceEnd` step of `r3Peer` -/
def stepA (p : R2Peer) : Outcome (Option Nat) :=
  match bobFromBytes p.proofBob with
  | none => .ok none
  | some pf => aliceStep C H cfg (Blame.contextJ ssid p.idx) sk own p.ownCA p.c1 pf none

/-- the `AliceEndWC` step of `r3Peer` -/
def stepW (p : R2Peer) : Outcome (Option Nat) :=
  bobWCFromBytes C p.proofBobWC >>= fun r =>
    match r with
    | none => .ok none
    | some (pf, uPt) => aliceStep C H cfg (Blame.contextJ ssid p.idx) sk own p.ownCA p.c2 pf (some (p.bigW, uPt))

def pair3 : Option Nat → Option Nat → Option (Nat × Nat)
  | some a, some u => some (a, u)
  | _, _ => none

theorem r3Peer_eq (p : R2Peer) :
    r3Peer C H cfg ssid sk own p =
      (stepA C H cfg ssid sk own p >>= fun a => stepW C H cfg ssid sk own p >>= fun u => .ok (pair3 a u)) := by
  unfold r3Peer stepA stepW
  dsimp only
  cases bobFromBytes p.proofBob
  all_goals
    refine bind_congr fun a => ?_
    rw [bind_assoc]
    refine bind_congr fun r => ?_
    rcases r with _ | ⟨pf, uPt⟩ <;> refine bind_congr fun u => ?_ <;> cases a <;> cases u <;> rfl

theorem r3Peer_ok_iff (p : R2Peer) (v : Option (Nat × Nat)) :
    r3Peer C H cfg ssid sk own p = .ok v ↔
      ∃ a, stepA C H cfg ssid sk own p = .ok a ∧ ∃ u, stepW C H cfg ssid sk own p = .ok u ∧ pair3 a u = v := by
  rw [r3Peer_eq]
  simp only [Outcome.bind_eq_ok, Outcome.ok.injEq]

theorem aliceStep_some_iff (sess : Bytes) (cA cB : Nat) (pf : BobProof) (xu : Option (ECPoint × ECPoint)) (a : Nat) :
    aliceStep C H cfg sess sk own cA cB pf xu = .ok (some a) ↔
      Mta.aliceEnd C H cfg sess sk pf own cA cB xu = .ok a := by
  unfold aliceStep
  cases h : Mta.aliceEnd C H cfg sess sk pf own cA cB xu with
  | ok b => simp
  | err e => simp
  | panic e => simp

theorem aliceStep_none_iff (sess : Bytes) (cA cB : Nat) (pf : BobProof) (xu : Option (ECPoint × ECPoint)) :
    aliceStep C H cfg sess sk own cA cB pf xu = .ok none ↔
      ∃ e, Mta.aliceEnd C H cfg sess sk pf own cA cB xu = .err e := by
  unfold aliceStep
  cases h : Mta.aliceEnd C H cfg sess sk pf own cA cB xu with
  | ok b => simp
  | err e => simp
  | panic e => simp

theorem aliceEnd_ok_bob (sess : Bytes) (pf : BobProof) (cA cB : Nat) (xu : Option (ECPoint × ECPoint)) (a : Nat)
    (h : Mta.aliceEnd C H cfg sess sk pf own cA cB xu = .ok a) :
    bobVerify C H cfg sess sk.n own.ntilde own.h1 own.h2 cA cB pf xu = .ok true ∧
      ∃ m, Paillier.decrypt sk cB = .ok m ∧ a = m % C.q := by
  unfold Mta.aliceEnd at h
  obtain ⟨b, hb, h⟩ := Outcome.bind_eq_ok.1 h
  cases b with
  | false => cases h
  | true =>
    simp only [Bool.not_true, Bool.false_eq_true, if_false] at h
    obtain ⟨m, hd, h⟩ := Outcome.bind_eq_ok.1 h
    injection h with h
    exact ⟨hb, m, hd, h.symm⟩

theorem stepA_some_iff (p : R2Peer) (a : Nat) :
    stepA C H cfg ssid sk own p = .ok (some a) ↔
      ∃ pf, bobFromBytes p.proofBob = some pf ∧
        Mta.aliceEnd C H cfg (Blame.contextJ ssid p.idx) sk pf own p.ownCA p.c1 none = .ok a := by
  unfold stepA
  cases bobFromBytes p.proofBob with
  | none => exact ⟨nofun, fun ⟨_, h, _⟩ => nomatch h⟩
  | some pf =>
    rw [aliceStep_some_iff]
    exact ⟨fun h => ⟨pf, rfl, h⟩, fun ⟨_, e, h⟩ => Option.some.inj e ▸ h⟩

theorem stepA_none_iff (p : R2Peer) :
    stepA C H cfg ssid sk own p = .ok none ↔
      bobFromBytes p.proofBob = none ∨ ∃ pf e, bobFromBytes p.proofBob = some pf ∧
        Mta.aliceEnd C H cfg (Blame.contextJ ssid p.idx) sk pf own p.ownCA p.c1 none = .err e := by
  unfold stepA
  cases bobFromBytes p.proofBob with
  | none => exact ⟨fun _ => Or.inl rfl, fun _ => rfl⟩
  | some pf =>
    rw [aliceStep_none_iff]
    exact ⟨fun ⟨e, h⟩ => Or.inr ⟨pf, e, rfl, h⟩, fun h => h.elim nofun fun ⟨_, e, he, h⟩ => ⟨e, Option.some.inj he ▸ h⟩⟩

theorem stepW_some_iff (p : R2Peer) (u : Nat) :
    stepW C H cfg ssid sk own p = .ok (some u) ↔
      ∃ pf uPt, bobWCFromBytes C p.proofBobWC = .ok (some (pf, uPt)) ∧
        Mta.aliceEnd C H cfg (Blame.contextJ ssid p.idx) sk pf own p.ownCA p.c2 (some (p.bigW, uPt)) = .ok u := by
  unfold stepW
  rw [Outcome.bind_eq_ok]
  constructor
  · rintro ⟨_ | ⟨pf, uPt⟩, hr, h⟩
    · cases h
    · exact ⟨pf, uPt, hr, (aliceStep_some_iff C H cfg sk own _ _ _ _ _ _).1 h⟩
  · rintro ⟨pf, uPt, hr, h⟩
    exact ⟨_, hr, (aliceStep_some_iff C H cfg sk own _ _ _ _ _ _).2 h⟩

theorem stepW_none_iff (p : R2Peer) :
    stepW C H cfg ssid sk own p = .ok none ↔
      bobWCFromBytes C p.proofBobWC = .ok none ∨ ∃ pf uPt e, bobWCFromBytes C p.proofBobWC = .ok (some (pf, uPt)) ∧
        Mta.aliceEnd C H cfg (Blame.contextJ ssid p.idx) sk pf own p.ownCA p.c2 (some (p.bigW, uPt)) = .err e := by
  unfold stepW
  rw [Outcome.bind_eq_ok]
  constructor
  · rintro ⟨_ | ⟨pf, uPt⟩, hr, h⟩
    · exact Or.inl hr
    · obtain ⟨e, he⟩ := (aliceStep_none_iff C H cfg sk own _ _ _ _ _).1 h
      exact Or.inr ⟨pf, uPt, e, hr, he⟩
  · rintro (hr | ⟨pf, uPt, e, hr, he⟩)
    · exact ⟨_, hr, rfl⟩
    · exact ⟨_, hr, (aliceStep_none_iff C H cfg sk own _ _ _ _ _).2 ⟨e, he⟩⟩

theorem pair3_eq_some {a u : Option Nat} {x : Nat × Nat} : pair3 a u = some x ↔ a = some x.1 ∧ u = some x.2 := by
  obtain ⟨x1, x2⟩ := x
  cases a <;> cases u <;> simp [pair3]

theorem pair3_none_right (a : Option Nat) : pair3 a none = none := by
  cases a <;> rfl

/-- the result record of round 3 as a function of the names and the verdict list -/
def result3 (culprits : List Nat) (vs : List (Option (Nat × Nat))) : R3Result :=
  ⟨culprits, if culprits.isEmpty then vs.filterMap id else []⟩

theorem round3_eq (peers : List R2Peer) :
    round3 C H cfg ssid sk own peers =
      namingRound (·.idx) bad3 (r3Peer C H cfg ssid sk own) result3 peers := by
  unfold round3 namingRound
  congr 1
  funext vs
  show Outcome.ok (result3 _ vs) = _
  congr 2
  exact List.filterMap_congr (by rintro ⟨p, v⟩ _; cases v <;> rfl)

theorem round3_ok_iff (peers : List R2Peer) (r : R3Result) :
    round3 C H cfg ssid sk own peers = .ok r ↔
      ∃ vs, List.Forall₂ (fun p v => r3Peer C H cfg ssid sk own p = .ok v) peers vs ∧
        r.culprits = named (·.idx) bad3 (r3Peer C H cfg ssid sk own) peers ∧
        r.shares = if r.culprits.isEmpty then vs.filterMap id else [] := by
  rw [round3_eq, namingRound_ok_iff]
  constructor
  · rintro ⟨vs, hvs, rfl⟩
    exact ⟨vs, hvs, rfl, rfl⟩
  · rintro ⟨vs, hvs, h1, h2⟩
    obtain ⟨c, s⟩ := r
    simp only at h1 h2
    refine ⟨vs, hvs, ?_⟩
    unfold result3
    rw [← h1, ← h2]

theorem ok_bad3_iff {o : Outcome (Option (Nat × Nat))} : (∃ v, o = .ok v ∧ bad3 v = true) ↔ o = .ok none :=
  ⟨fun ⟨v, hv, hb⟩ => (by cases v with | none => exact hv | some _ => cases hb), fun h => ⟨_, h, rfl⟩⟩

theorem ok_bad3_false_iff {o : Outcome (Option (Nat × Nat))} :
    (∃ v, o = .ok v ∧ bad3 v = false) ↔ ∃ s, o = .ok (some s) :=
  ⟨fun ⟨v, hv, hb⟩ => (by cases v with | none => cases hb | some s => exact ⟨s, hv⟩), fun ⟨_, h⟩ => ⟨_, h, rfl⟩⟩

theorem filterMap_id_of_clean {α : Type} (chk : α → Outcome (Option (Nat × Nat))) (ps : List α)
    (vs : List (Option (Nat × Nat))) (h : List.Forall₂ (fun p v => chk p = .ok v) ps vs)
    (hc : ∀ p ∈ ps, flagged bad3 (chk p) = false) :
    List.Forall₂ (fun p s => chk p = .ok (some s)) ps (vs.filterMap id) := by
  induction h with
  | nil => exact List.Forall₂.nil
  | @cons p v ps vs h1 _ ih =>
    have hp := hc p (List.mem_cons_self ..)
    rw [h1] at hp
    cases v with
    | none => cases hp
    | some s =>
      rw [List.filterMap_cons]
      simp only [id]
      exact List.Forall₂.cons h1 (ih fun q hq => hc q (List.mem_cons_of_mem _ hq))

end r3

theorem length_two {α : Type} {l : List α} (h : l.length = 2) : ∃ x y, l = [x, y] := by
  match l, h with
  | [x, y], _ => exact ⟨x, y, rfl⟩

theorem length_four {α : Type} {l : List α} (h : l.length = 4) : ∃ a b c d, l = [a, b, c, d] := by
  match l, h with
  | [a, b, c, d], _ => exact ⟨a, b, c, d, rfl⟩

section r5
variable {P : Type} (C : Curve P) (H : HashFn) (cfg : Cfg) (ssid : Bytes)

theorem idx_of_fail_eq {β : Type} {w w' : String} {c c' : Nat}
    (h : (Outcome.ok (Res.fail w c) : Outcome (Res β)) = .ok (.fail w' c')) : c' = c := by
  cases h; rfl

theorem r5Peer_opened (p : R4Peer) (x y : Int)
    (hd : decommitWith H p.commitment (p.decommitment.map Int.ofNat) = .ok (some [x, y])) :
    r5Peer C H cfg ssid p =
      match C.ecNew x.toNat y.toNat with
      | none => .ok (.fail "NewECPoint(bigGammaJ)" p.idx)
      | some g =>
        match C.ecNew p.alpha.1 p.alpha.2 with
        | none => .ok (.fail "failed to unmarshal bigGamma proof" p.idx)
        | some al => schnorrVerify C H cfg (Blame.contextJ ssid p.idx) g al p.t >>= fun ok =>
            .ok (if ok then .pass g else .fail "failed to prove bigGamma" p.idx) := by
  unfold r5Peer; rw [hd]
  simp only [List.length_cons, List.length_nil, List.getD_cons_zero, List.getD_cons_succ]
  cases C.ecNew x.toNat y.toNat with
  | none => rfl
  | some g =>
    cases C.ecNew p.alpha.1 p.alpha.2 with
    | none => rfl
    | some al => exact bind_congr fun ok => by cases ok <;> rfl

/-- the opening stage of `r5Peer` -/
theorem r5Peer_cases (p : R4Peer) :
    (∃ e, decommitWith H p.commitment (p.decommitment.map Int.ofNat) = .panic e ∧
      r5Peer C H cfg ssid p = .panic e) ∨
    r5Peer C H cfg ssid p = .ok (.fail "commitment verify failed" p.idx) ∨
    ∃ x y, decommitWith H p.commitment (p.decommitment.map Int.ofNat) = .ok (some [x, y]) := by
  unfold r5Peer
  cases hd : decommitWith H p.commitment (p.decommitment.map Int.ofNat) with
  | panic e => exact Or.inl ⟨e, rfl, rfl⟩
  | err e => exact absurd hd (decommit_no_err H _ _ e)
  | ok o =>
    refine Or.inr ?_
    cases o with
    | none => exact Or.inl rfl
    | some v =>
      by_cases hl : v.length = 2
      · obtain ⟨x, y, rfl⟩ := length_two hl
        exact Or.inr ⟨x, y, rfl⟩
      · exact Or.inl (by simp [hl])

theorem r5Peer_fail_idx (p : R4Peer) (why : String) (c : Nat)
    (h : r5Peer C H cfg ssid p = .ok (.fail why c)) : c = p.idx := by
  rcases r5Peer_cases C H cfg ssid p with ⟨e, _, he⟩ | he | ⟨x, y, hd⟩
  · rw [he] at h; cases h
  · rw [he] at h; exact idx_of_fail_eq h
  · rw [r5Peer_opened C H cfg ssid p x y hd] at h
    split at h
    · exact idx_of_fail_eq h
    · split at h
      · exact idx_of_fail_eq h
      · obtain ⟨b, _, hb⟩ := Outcome.bind_eq_ok.1 h
        cases b
        · exact idx_of_fail_eq hb
        · cases hb

/-- the loop body of round 5 as a step of `seqLoop` on the running sum -/
def step5 (acc : ECPoint) (p : R4Peer) : Outcome (Res ECPoint ⊕ ECPoint) :=
  r5Peer C H cfg ssid p >>= fun v =>
    match v with
    | .fail why c => .ok (.inl (.fail why c))
    | .pass g =>
      match C.ecAdd acc g with
      | .ok r => .ok (.inr r)
      | .err _ => .ok (.inl (.fail "R.Add(bigGammaJ)" p.idx))
      | .panic e => .panic e

theorem round5_eq (peers : List R4Peer) : ∀ g0 : ECPoint,
    round5 C H cfg ssid g0 peers = seqLoop (step5 C H cfg ssid) (fun acc => .ok (.pass acc)) g0 peers := by
  induction peers with
  | nil => intro g0; rw [round5]; rfl
  | cons p rest ih =>
    intro g0
    rw [round5, seqLoop, step5]
    cases r5Peer C H cfg ssid p with
    | ok v =>
      cases v with
      | fail why c => rfl
      | pass g =>
        simp only [Outcome.ok_bind]
        cases C.ecAdd g0 g with
        | ok r => exact ih r
        | err e => rfl
        | panic e => rfl
    | err e => rfl
    | panic t => rfl

theorem step5_go_iff (acc acc' : ECPoint) (p : R4Peer) :
    step5 C H cfg ssid acc p = .ok (.inr acc') ↔
      ∃ g, r5Peer C H cfg ssid p = .ok (.pass g) ∧ C.ecAdd acc g = .ok acc' := by
  unfold step5
  rw [Outcome.bind_eq_ok]
  constructor
  · rintro ⟨g | _, hv, h⟩
    · refine ⟨g, hv, ?_⟩
      dsimp only at h
      cases ha : C.ecAdd acc g <;> rw [ha] at h <;> cases h
      rfl
    · cases h
  · rintro ⟨g, hg, ha⟩
    exact ⟨_, hg, by dsimp only; rw [ha]⟩


/-- the loop stops with a verdict at a peer whose check fails, or whose point cannot be added to the sum -/
theorem step5_halt_ok_iff (acc : ECPoint) (p : R4Peer) (r : Res ECPoint) :
    halt (step5 C H cfg ssid acc p) = some (.ok r) ↔
      (∃ why c, r5Peer C H cfg ssid p = .ok (.fail why c) ∧ r = .fail why c) ∨
      ∃ g e, r5Peer C H cfg ssid p = .ok (.pass g) ∧ C.ecAdd acc g = .err e ∧ r = .fail "R.Add(bigGammaJ)" p.idx := by
  rw [halt_eq_some_ok_iff]
  unfold step5
  rw [Outcome.bind_eq_ok]
  constructor
  · rintro ⟨g | ⟨why, c⟩, hv, h⟩
    · dsimp only at h
      cases ha : C.ecAdd acc g <;> rw [ha] at h <;> cases h
      exact Or.inr ⟨g, _, hv, ha, rfl⟩
    · cases h
      exact Or.inl ⟨why, c, hv, rfl⟩
  · rintro (⟨why, c, hv, rfl⟩ | ⟨g, e, hv, ha, rfl⟩)
    · exact ⟨_, hv, rfl⟩
    · exact ⟨_, hv, by dsimp only; rw [ha]⟩


/-- running through `peers`: every peer passes and the running sum is representable throughout -/
theorem runs5_iff (peers : List R4Peer) : ∀ (g0 acc : ECPoint),
    Runs (step5 C H cfg ssid) g0 peers acc ↔
      ∃ gs, List.Forall₂ (fun q g => r5Peer C H cfg ssid q = .ok (.pass g)) peers gs ∧
        gs.foldlM C.ecAdd g0 = .ok acc := by
  induction peers with
  | nil =>
    intro g0 acc
    simp only [Runs, List.forall₂_nil_left_iff, exists_eq_left, List.foldlM_nil, Outcome.pure_eq, Outcome.ok.injEq]
    exact eq_comm
  | cons p rest ih =>
    intro g0 acc
    simp only [Runs, step5_go_iff, ih, List.forall₂_cons_left_iff]
    constructor
    · rintro ⟨r, ⟨g, hg, ha⟩, gs, hf, hfold⟩
      exact ⟨g :: gs, ⟨g, gs, hg, hf, rfl⟩, by rw [List.foldlM_cons, ha]; exact hfold⟩
    · rintro ⟨_, ⟨g, gs, hg, hf, rfl⟩, hfold⟩
      rw [List.foldlM_cons] at hfold
      obtain ⟨r, ha, hfold⟩ := Outcome.bind_eq_ok.1 hfold
      exact ⟨r, ⟨g, hg, ha⟩, gs, hf, hfold⟩

/-- the others pass and their additions are representable: the loop goes on at every peer other than `dev` -/
theorem round5_others_go (peers : List R4Peer) (g0 : ECPoint) (dev : Nat)
    (hothers : ∀ p ∈ peers, p.idx ≠ dev → ∃ g, r5Peer C H cfg ssid p = .ok (.pass g))
    (hadd : ∀ pre p post gs acc g, peers = pre ++ p :: post → p.idx ≠ dev →
      List.Forall₂ (fun q g => r5Peer C H cfg ssid q = .ok (.pass g)) pre gs →
      gs.foldlM C.ecAdd g0 = .ok acc → r5Peer C H cfg ssid p = .ok (.pass g) → ∀ e, C.ecAdd acc g ≠ .err e)
    (pre : List R4Peer) (p : R4Peer) (post : List R4Peer) (acc : ECPoint) (he : peers = pre ++ p :: post)
    (hne : p.idx ≠ dev) (hr : Runs (step5 C H cfg ssid) g0 pre acc) : halt (step5 C H cfg ssid acc p) = none := by
  obtain ⟨gs, hf, hfold⟩ := (runs5_iff C H cfg ssid pre g0 acc).1 hr
  obtain ⟨g, hg⟩ := hothers p (by rw [he]; simp) hne
  rw [halt_eq_none_iff]
  cases ha : C.ecAdd acc g with
  | ok r => exact ⟨r, (step5_go_iff C H cfg ssid acc r p).2 ⟨g, hg, ha⟩⟩
  | err e => exact absurd ha (hadd pre p post gs acc g he hne hf hfold hg e)
  | panic e => exact absurd ha (ecAdd_noPanic C acc g e)

/-- on a lawful curve whose identity has affine coordinates (edwards25519) the sum of two curve points is
always representable -/
theorem ecAdd_ok_of_affine_identity (hC : C.Lawful) (hz : C.toAffine C.zero ≠ none) (a b : ECPoint)
    (ha : C.ecIsOnCurve a = true) (hb : C.ecIsOnCurve b = true) : ∃ r, C.ecAdd a b = .ok r := by
  rcases C17L.ecAdd_cases C a b with ⟨pa, pb, r, _, _, _, h⟩ | ⟨pa, pb, _, _, hn, _⟩ | ⟨hab, _⟩
  · exact ⟨r, h⟩
  · exact absurd (by rw [← hC.toAffine_none _ hn]; exact hn) hz
  · have hl : ∀ c : ECPoint, C.ecIsOnCurve c = (C.lift c).isSome := fun _ => rfl
    rw [hl] at ha hb
    rcases hab with h | h
    · rw [h] at ha; cases ha
    · rw [h] at hb; cases hb

theorem ecAdd_ok_onCurve (hC : C.Lawful) {a b r : ECPoint} (h : C.ecAdd a b = .ok r) : C.ecIsOnCurve r = true := by
  obtain ⟨pa, pb, _, _, hr⟩ := (C17L.ecAdd_ok_iff C a b r).1 h
  exact onCurve_of_toAffine hC hr

theorem foldlM_ecAdd_onCurve (hC : C.Lawful) : ∀ (gs : List ECPoint) (g0 acc : ECPoint),
    C.ecIsOnCurve g0 = true → gs.foldlM C.ecAdd g0 = .ok acc → C.ecIsOnCurve acc = true := by
  intro gs
  induction gs with
  | nil => intro g0 acc h0 hf; injection hf with hf; rw [← hf]; exact h0
  | cons g gs ih =>
    intro g0 acc h0 hf
    rw [List.foldlM_cons] at hf
    obtain ⟨r, ha, hf'⟩ := Outcome.bind_eq_ok.1 hf
    exact ih r acc (ecAdd_ok_onCurve C hC ha) hf'

end r5

section r7
variable {P : Type} (C : Curve P) (H : HashFn) (cfg : Cfg) (ssid : Bytes) (bigR : ECPoint)

/-- the Schnorr proof for `A_j` -/
def okA7 (p : R6Peer) (bigA : ECPoint) : Outcome Bool :=
  match C.ecNew p.alphaA.1 p.alphaA.2 with
  | none => .ok false
  | some al => schnorrVerify C H cfg (Blame.contextJ ssid p.idx) bigA al p.tA

/-- the Schnorr-V proof for `V_j` -/
def okV7 (p : R6Peer) (bigV : ECPoint) : Outcome Bool :=
  match C.ecNew p.alphaV.1 p.alphaV.2 with
  | none => .ok false
  | some al => schnorrVVerify C H cfg (Blame.contextJ ssid p.idx) bigV bigR al p.tV p.uV

theorem okA7_ok_iff (p : R6Peer) (bigA : ECPoint) (b : Bool) :
    okA7 C H cfg ssid p bigA = .ok b ↔
      (C.ecNew p.alphaA.1 p.alphaA.2 = none ∧ b = false) ∨ ∃ al, C.ecNew p.alphaA.1 p.alphaA.2 = some al ∧
        schnorrVerify C H cfg (Blame.contextJ ssid p.idx) bigA al p.tA = .ok b := by
  unfold okA7
  cases C.ecNew p.alphaA.1 p.alphaA.2 <;> simp [eq_comm]

theorem okV7_ok_iff (p : R6Peer) (bigV : ECPoint) (b : Bool) :
    okV7 C H cfg ssid bigR p bigV = .ok b ↔
      (C.ecNew p.alphaV.1 p.alphaV.2 = none ∧ b = false) ∨ ∃ al, C.ecNew p.alphaV.1 p.alphaV.2 = some al ∧
        schnorrVVerify C H cfg (Blame.contextJ ssid p.idx) bigV bigR al p.tV p.uV = .ok b := by
  unfold okV7
  cases C.ecNew p.alphaV.1 p.alphaV.2 <;> simp [eq_comm]

/-- what `r7Peer` does once the two points are decoded -/
def r7Tail (p : R6Peer) (bigV bigA : ECPoint) : Outcome (Res (ECPoint × ECPoint)) :=
  okA7 C H cfg ssid p bigA >>= fun okA =>
    if !okA then .ok (.fail "schnorr verify for Aj failed" p.idx) else
    okV7 C H cfg ssid bigR p bigV >>= fun okV =>
      if !okV then .ok (.fail "vverify for Vj failed" p.idx) else .ok (.pass (bigV, bigA))

theorem r7Peer_points (p : R6Peer) (x1 y1 x2 y2 : Int) (bigV bigA : ECPoint)
    (hd : decommitWith H p.commitment (p.decommitment.map Int.ofNat) = .ok (some [x1, y1, x2, y2]))
    (hV : C.ecNew x1.toNat y1.toNat = some bigV) (hA : C.ecNew x2.toNat y2.toNat = some bigA) :
    r7Peer C H cfg ssid bigR p = r7Tail C H cfg ssid bigR p bigV bigA := by
  unfold r7Peer r7Tail okA7 okV7
  rw [hd]
  simp only [List.length_cons, List.length_nil, List.getD_cons_zero, List.getD_cons_succ]
  rw [hV, hA]
  cases C.ecNew p.alphaA.1 p.alphaA.2 <;> cases C.ecNew p.alphaV.1 p.alphaV.2 <;> rfl

theorem r7Tail_pass_iff (p : R6Peer) (bigV bigA : ECPoint) (va : ECPoint × ECPoint) :
    r7Tail C H cfg ssid bigR p bigV bigA = .ok (.pass va) ↔
      va = (bigV, bigA) ∧ okA7 C H cfg ssid p bigA = .ok true ∧ okV7 C H cfg ssid bigR p bigV = .ok true := by
  unfold r7Tail
  constructor
  · intro h
    obtain ⟨a, ha, h⟩ := Outcome.bind_eq_ok.1 h
    cases a with
    | false => cases h
    | true =>
      obtain ⟨v, hv, h⟩ := Outcome.bind_eq_ok.1 h
      cases v with
      | false => cases h
      | true =>
        injection h with h; injection h with h
        exact ⟨h.symm, ha, hv⟩
  · rintro ⟨rfl, ha, hv⟩
    rw [ha]; simp only [Outcome.ok_bind]; rw [hv]; rfl

/-- the decoding stages of `r7Peer` -/
theorem r7Peer_cases (p : R6Peer) :
    (∃ e, decommitWith H p.commitment (p.decommitment.map Int.ofNat) = .panic e ∧
      r7Peer C H cfg ssid bigR p = .panic e) ∨
    (∃ why, r7Peer C H cfg ssid bigR p = .ok (.fail why p.idx)) ∨
    ∃ x1 y1 x2 y2 bigV bigA,
      decommitWith H p.commitment (p.decommitment.map Int.ofNat) = .ok (some [x1, y1, x2, y2]) ∧
      C.ecNew x1.toNat y1.toNat = some bigV ∧ C.ecNew x2.toNat y2.toNat = some bigA := by
  unfold r7Peer
  cases hd : decommitWith H p.commitment (p.decommitment.map Int.ofNat) with
  | panic e => exact Or.inl ⟨e, rfl, rfl⟩
  | err e => exact absurd hd (decommit_no_err H _ _ e)
  | ok o =>
    refine Or.inr ?_
    cases o with
    | none => exact Or.inl ⟨_, rfl⟩
    | some v =>
      by_cases hl : v.length = 4
      · obtain ⟨x1, y1, x2, y2, rfl⟩ := length_four hl
        cases hV : C.ecNew x1.toNat y1.toNat with
        | none => exact Or.inl ⟨"NewECPoint(bigVj)", by simp [hV]⟩
        | some bigV =>
          cases hA : C.ecNew x2.toNat y2.toNat with
          | none => exact Or.inl ⟨"NewECPoint(bigAj)", by simp [hV, hA]⟩
          | some bigA => exact Or.inr ⟨x1, y1, x2, y2, bigV, bigA, rfl, hV, hA⟩
      · exact Or.inl ⟨"de-commitment for bigVj and bigAj failed", by simp [hl]⟩

theorem r7Peer_fail_idx (p : R6Peer) (why : String) (c : Nat)
    (h : r7Peer C H cfg ssid bigR p = .ok (.fail why c)) : c = p.idx := by
  rcases r7Peer_cases C H cfg ssid bigR p with ⟨e, _, he⟩ | ⟨w, he⟩ | ⟨x1, y1, x2, y2, bigV, bigA, hd, hV, hA⟩
  · rw [he] at h; cases h
  · rw [he] at h; exact idx_of_fail_eq h
  · rw [r7Peer_points C H cfg ssid bigR p x1 y1 x2 y2 bigV bigA hd hV hA] at h
    unfold r7Tail at h
    obtain ⟨a, _, h⟩ := Outcome.bind_eq_ok.1 h
    split at h
    · exact idx_of_fail_eq h
    · obtain ⟨v, _, h⟩ := Outcome.bind_eq_ok.1 h
      split at h
      · exact idx_of_fail_eq h
      · cases h

/-- the loop body of round 7 as a step of `seqLoop` on the list of the pairs accepted so far -/
def step7 (acc : List (ECPoint × ECPoint)) (p : R6Peer) :
    Outcome (Res (List (ECPoint × ECPoint)) ⊕ List (ECPoint × ECPoint)) :=
  r7Peer C H cfg ssid bigR p >>= fun v =>
    match v with
    | .fail why c => .ok (.inl (.fail why c))
    | .pass va => .ok (.inr (acc ++ [va]))

/-- `round7` puts a peer's pair in front of what the rest of the list yields; the loop appends it to what came
before -/
theorem seqLoop_step7 (peers : List R6Peer) : ∀ acc : List (ECPoint × ECPoint),
    seqLoop (step7 C H cfg ssid bigR) (fun acc => .ok (.pass acc)) acc peers =
      (round7 C H cfg ssid bigR peers >>= fun r => match r with
        | .fail why c => .ok (.fail why c)
        | .pass l => .ok (.pass (acc ++ l))) := by
  induction peers with
  | nil => intro acc; simp only [round7, seqLoop, Outcome.ok_bind, List.append_nil]
  | cons p rest ih =>
    intro acc
    rw [seqLoop, round7, step7]
    cases r7Peer C H cfg ssid bigR p with
    | ok v =>
      cases v with
      | fail why c => rfl
      | pass va =>
        simp only [Outcome.ok_bind, ih]
        cases round7 C H cfg ssid bigR rest with
        | ok r =>
          cases r with
          | fail why c => rfl
          | pass l => simp only [Outcome.ok_bind, List.append_assoc, List.singleton_append]
        | err e => rfl
        | panic t => rfl
    | err e => rfl
    | panic t => rfl

theorem round7_eq (peers : List R6Peer) :
    round7 C H cfg ssid bigR peers = seqLoop (step7 C H cfg ssid bigR) (fun acc => .ok (.pass acc)) [] peers := by
  rw [seqLoop_step7]
  cases round7 C H cfg ssid bigR peers with
  | ok r => cases r <;> rfl
  | err e => rfl
  | panic t => rfl

theorem step7_go_iff (acc acc' : List (ECPoint × ECPoint)) (p : R6Peer) :
    step7 C H cfg ssid bigR acc p = .ok (.inr acc') ↔
      ∃ va, r7Peer C H cfg ssid bigR p = .ok (.pass va) ∧ acc' = acc ++ [va] := by
  unfold step7
  rw [Outcome.bind_eq_ok]
  constructor
  · rintro ⟨_ | va, hv, h⟩ <;> cases h
    exact ⟨_, hv, rfl⟩
  · rintro ⟨va, hva, rfl⟩
    exact ⟨_, hva, rfl⟩


theorem step7_halt_ok_iff (acc : List (ECPoint × ECPoint)) (p : R6Peer) (r : Res (List (ECPoint × ECPoint))) :
    halt (step7 C H cfg ssid bigR acc p) = some (.ok r) ↔
      ∃ why c, r7Peer C H cfg ssid bigR p = .ok (.fail why c) ∧ r = .fail why c := by
  rw [halt_eq_some_ok_iff]
  unfold step7
  rw [Outcome.bind_eq_ok]
  constructor
  · rintro ⟨_ | ⟨why, c⟩, hv, h⟩ <;> cases h
    exact ⟨_, _, hv, rfl⟩
  · rintro ⟨why, c, hv, rfl⟩
    exact ⟨_, hv, rfl⟩


/-- running through `peers`: every peer passes; the pairs pile up in peer order -/
theorem runs7_iff (peers : List R6Peer) : ∀ (acc acc' : List (ECPoint × ECPoint)),
    Runs (step7 C H cfg ssid bigR) acc peers acc' ↔
      ∃ l, List.Forall₂ (fun q va => r7Peer C H cfg ssid bigR q = .ok (.pass va)) peers l ∧ acc' = acc ++ l := by
  induction peers with
  | nil =>
    intro acc acc'
    simp only [Runs, List.forall₂_nil_left_iff, exists_eq_left, List.append_nil]
  | cons p rest ih =>
    intro acc acc'
    simp only [Runs, step7_go_iff, ih, List.forall₂_cons_left_iff]
    constructor
    · rintro ⟨_, ⟨va, hva, rfl⟩, l, hf, rfl⟩
      exact ⟨va :: l, ⟨va, l, hva, hf, rfl⟩, by rw [List.append_assoc, List.singleton_append]⟩
    · rintro ⟨_, ⟨va, l, hva, hf, rfl⟩, rfl⟩
      exact ⟨_, ⟨va, hva, rfl⟩, l, hf, by rw [List.append_assoc, List.singleton_append]⟩

/-- the others pass: the loop goes on at every peer other than `dev`, whatever was accepted before -/
theorem round7_others_go (peers : List R6Peer) (dev : Nat)
    (hothers : ∀ p ∈ peers, p.idx ≠ dev → ∃ va, r7Peer C H cfg ssid bigR p = .ok (.pass va))
    (pre : List R6Peer) (p : R6Peer) (post : List R6Peer) (acc : List (ECPoint × ECPoint))
    (he : peers = pre ++ p :: post) (hne : p.idx ≠ dev) : halt (step7 C H cfg ssid bigR acc p) = none := by
  obtain ⟨va, hva⟩ := hothers p (by rw [he]; simp) hne
  exact (halt_eq_none_iff _).2 ⟨_, (step7_go_iff C H cfg ssid bigR acc _ p).2 ⟨va, hva, rfl⟩⟩

end r7

section total
variable {P : Type} (C : Curve P) (H : HashFn)

theorem noErr_of_ok {α : Type} {o : Outcome α} {a : α} (h : o = .ok a) : C05EcL.NoErr o := h ▸ C05EcL.NoErr.ok a

theorem ecScalarMult_noErr (a : ECPoint) (k : Int) (ha : C.ecIsOnCurve a = true) : NoErr (C.ecScalarMult a k) := by
  intro e he
  have := ((C17L.ecScalarMult_outcomes C a k).2.1 e).1 he
  rw [ha] at this
  cases this.1

theorem ecBaseMult_noErr (k : Int) : NoErr (C.ecBaseMult k) := by
  intro e he
  rcases C17L.ecBaseMult_cases C k with ⟨r, _, h⟩ | ⟨_, h⟩ <;> rw [h] at he <;> cases he

theorem schnorrVerify_noErr (cfg : Cfg) (sess : Bytes) (X alpha : ECPoint) (t : Nat)
    (hX : C.ecIsOnCurve X = true) : NoErr (schnorrVerify C H cfg sess X alpha t) := by
  unfold schnorrVerify
  dsimp only
  ne_guard
  ne_bind ecBaseMult_noErr C _
  ne_bind ecScalarMult_noErr C X _ hX
  split
  · exact NoErr.ok _
  · exact NoErr.ok _
  · exact fun _ => nofun

theorem schnorrVVerify_noErr (cfg : Cfg) (sess : Bytes) (V R alpha : ECPoint) (t u : Nat)
    (hV : C.ecIsOnCurve V = true) (hR : C.ecIsOnCurve R = true) :
    NoErr (schnorrVVerify C H cfg sess V R alpha t u) := by
  unfold schnorrVVerify
  dsimp only
  ne_guard
  ne_guard
  ne_bind ecScalarMult_noErr C R _ hR
  ne_bind ecBaseMult_noErr C _
  split
  · exact NoErr.ite (fun _ => NoErr.ok _) (fun _ => fun _ => nofun)
  · exact fun _ => nofun
  · ne_bind ecScalarMult_noErr C V _ hV
    split
    · exact NoErr.ok _
    · exact NoErr.ok _
    · exact fun _ => nofun

theorem rangeVerify_noErr (cfg : Cfg) (q : Nat) (n ntilde h1 h2 c : Int) (pf : RangeProof) :
    NoErr (rangeVerify cfg H q n ntilde h1 h2 c pf) := by
  unfold rangeVerify
  dsimp only
  -- the shape of `rangeVerify`: fourteen guards, three exponentiations, the check of `u`, three exponentiations
  ne_guard; ne_guard; ne_guard; ne_guard; ne_guard; ne_guard; ne_guard
  ne_guard; ne_guard; ne_guard; ne_guard; ne_guard; ne_guard; ne_guard
  ne_bind C05EcL.expP_noErr _ _ _
  ne_bind C05EcL.expP_noErr _ _ _
  ne_bind C05EcL.expP_noErr _ _ _
  ne_guard
  ne_bind C05EcL.expP_noErr _ _ _
  ne_bind C05EcL.expP_noErr _ _ _
  ne_bind C05EcL.expP_noErr _ _ _
  exact NoErr.ok _

theorem r2Peer_noPanic (own : Mta.RP) (p : R1Peer) : NoPanic (r2Peer C H cur own p) := by
  rw [r2Peer_eq]
  split
  · exact NoPanic.ok _
  · exact NoPanic.bind (rangeVerify_noPanic H C.q _ _ _ _ _ _) fun _ _ => NoPanic.ok _

theorem r2Peer_noErr (cfg : Cfg) (own : Mta.RP) (p : R1Peer) : NoErr (r2Peer C H cfg own p) := by
  rw [r2Peer_eq]
  split
  · exact NoErr.ok _
  · exact NoErr.bind (rangeVerify_noErr H cfg C.q _ _ _ _ _ _) fun _ _ => NoErr.ok _

theorem round2_total (own : Mta.RP) (peers : List R1Peer) :
    round2 C H cur own peers = .ok (named (·.idx) bad2 (r2Peer C H cur own) peers) :=
  (round2_eq C H cur own peers).trans ((boolRound_ok_iff _ _ peers _).2 ⟨fun p _ => total_of (r2Peer_noPanic C H own p) (r2Peer_noErr C H cur own p), rfl⟩)

/-- exact crash condition of the decoder: a ten-part list -/
theorem bobWCFromBytes_panic_iff (bzs : List Bytes) (t : String) :
    bobWCFromBytes C bzs = .panic t ↔ t = "index-out-of-range" ∧ nonEmptyMultiBytes bzs bobParts = true := by
  have hlen : ∀ n, nonEmptyMultiBytes bzs n = true → bzs.length = n := fun n h => by
    unfold nonEmptyMultiBytes at h
    simp only [Bool.and_eq_true, beq_iff_eq] at h
    exact h.1.2
  unfold bobWCFromBytes bobFromBytes
  cases h10 : nonEmptyMultiBytes bzs bobParts with
  | true => simp [hlen _ h10, bobParts, bobWCParts, eq_comm]
  | false =>
    cases h12 : nonEmptyMultiBytes bzs bobWCParts with
    | false => simp
    | true =>
      simp only [hlen _ h12, Bool.not_false, Bool.not_true, Bool.and_false, Bool.false_eq_true, if_false, Nat.lt_irrefl, and_false, iff_false]
      split <;> nofun

theorem bobWCFromBytes_noPanic (bzs : List Bytes) (h : bzs.length ≠ bobParts) : NoPanic (bobWCFromBytes C bzs) := by
  intro t ht
  have := ((bobWCFromBytes_panic_iff C bzs t).1 ht).2
  unfold nonEmptyMultiBytes at this
  simp only [Bool.and_eq_true, beq_iff_eq] at this
  exact h this.1.2

theorem bobWCFromBytes_noErr (bzs : List Bytes) : NoErr (bobWCFromBytes C bzs) := by
  unfold bobWCFromBytes
  split
  · exact NoErr.ok _
  · split
    · exact fun _ => nofun
    · split <;> exact NoErr.ok _

theorem aliceStep_noErr (cfg : Cfg) (sess : Bytes) (sk : Paillier.PrivateKey) (own : Mta.RP) (cA cB : Nat)
    (pf : BobProof) (xu : Option (ECPoint × ECPoint)) : NoErr (aliceStep C H cfg sess sk own cA cB pf xu) := by
  unfold aliceStep
  split
  · exact NoErr.ok _
  · exact NoErr.ok _
  · exact fun _ => nofun

theorem aliceStep_noPanic (cfg : Cfg) (sess : Bytes) (sk : Paillier.PrivateKey) (own : Mta.RP) (cA cB : Nat)
    (pf : BobProof) (xu : Option (ECPoint × ECPoint))
    (h : NoPanic (Mta.aliceEnd C H cfg sess sk pf own cA cB xu)) :
    NoPanic (aliceStep C H cfg sess sk own cA cB pf xu) := by
  unfold aliceStep
  split
  · exact NoPanic.ok _
  · exact NoPanic.ok _
  · rename_i e he; exact absurd he (h e)

theorem r3Peer_noErr (cfg : Cfg) (ssid : Bytes) (sk : Paillier.PrivateKey) (own : Mta.RP) (p : R2Peer) :
    NoErr (r3Peer C H cfg ssid sk own p) := by
  rw [r3Peer_eq]
  refine NoErr.bind ?_ (fun _ _ => NoErr.bind ?_ (fun _ _ => NoErr.ok _))
  · unfold stepA
    split
    · exact NoErr.ok _
    · exact aliceStep_noErr C H _ _ _ _ _ _ _ _
  · unfold stepW
    refine NoErr.bind (bobWCFromBytes_noErr C _) (fun r _ => ?_)
    split
    · exact NoErr.ok _
    · exact aliceStep_noErr C H _ _ _ _ _ _ _ _

theorem r3Peer_noPanic (hC : C.Lawful) (hcof : C.toAffine C.zero = none → ∀ q, C.smul C.q q = C.zero)
    (ssid : Bytes) (sk : Paillier.PrivateKey) (own : Mta.RP)
    (hk : (modInverse (Paillier.L (modPow (Paillier.gamma sk.n) sk.lambdaN (Paillier.nSquare sk.n)) sk.n)
      sk.n).isSome = true)
    (p : R2Peer) (hlen : p.proofBobWC.length ≠ bobParts) :
    NoPanic (r3Peer C H cur ssid sk own p) := by
  rw [r3Peer_eq]
  refine NoPanic.bind ?_ (fun _ _ => NoPanic.bind ?_ (fun _ _ => NoPanic.ok _))
  · unfold stepA
    split
    · exact NoPanic.ok _
    · exact aliceStep_noPanic C H _ _ _ _ _ _ _ _
        (aliceEnd_none_noPanic_of_decrypt C H _ sk _ own _ _ (fun c => decrypt_noPanic sk c hk))
  · unfold stepW
    refine NoPanic.bind (bobWCFromBytes_noPanic C _ hlen) (fun r _ => ?_)
    split
    · exact NoPanic.ok _
    · exact aliceStep_noPanic C H _ _ _ _ _ _ _ _
        (aliceEnd_noPanic_of_decrypt hC hcof H _ sk _ own _ _ _ (fun c => decrypt_noPanic sk c hk))

theorem r5Peer_noPanic (hC : C.Lawful) (hcof : C.toAffine C.zero = none → ∀ q, C.smul C.q q = C.zero)
    (ssid : Bytes) (p : R4Peer) (hd : p.decommitment ≠ []) : NoPanic (r5Peer C H cur ssid p) := by
  rcases r5Peer_cases C H cur ssid p with ⟨e, hp, _⟩ | he | ⟨x, y, hdc⟩
  · exact absurd hp (decommit_noPanic H p.commitment p.decommitment hd e)
  · rw [he]; exact NoPanic.ok _
  · rw [r5Peer_opened C H cur ssid p x y hdc]
    split
    · exact NoPanic.ok _
    · split
      · exact NoPanic.ok _
      · exact NoPanic.bind (schnorrVerify_noPanic hC hcof H _ _ _ _) fun _ _ => NoPanic.ok _

theorem r5Peer_noErr (cfg : Cfg) (ssid : Bytes) (p : R4Peer) : NoErr (r5Peer C H cfg ssid p) := by
  rcases r5Peer_cases C H cfg ssid p with ⟨e, _, he⟩ | he | ⟨x, y, hdc⟩
  · rw [he]; exact NoErr.panic _
  · rw [he]; exact NoErr.ok _
  · rw [r5Peer_opened C H cfg ssid p x y hdc]
    split
    · exact NoErr.ok _
    · rename_i g hg
      split
      · exact NoErr.ok _
      · exact NoErr.bind (schnorrVerify_noErr C H cfg _ _ _ _ (C17FieldsL.onCurve_of_ecNew C hg).1) fun _ _ => NoErr.ok _

theorem step5_noPanic (cfg : Cfg) (ssid : Bytes) (p : R4Peer) (h : NoPanic (r5Peer C H cfg ssid p)) (acc : ECPoint) :
    NoPanic (step5 C H cfg ssid acc p) := by
  refine NoPanic.bind h fun v _ => ?_
  cases v with
  | fail why c => exact NoPanic.ok _
  | pass g =>
    have := ecAdd_noPanic C acc g
    dsimp only
    split
    · exact NoPanic.ok _
    · exact NoPanic.ok _
    · rename_i e he; exact absurd he (this e)

theorem r7Peer_noPanic (hC : C.Lawful) (hcof : C.toAffine C.zero = none → ∀ q, C.smul C.q q = C.zero)
    (ssid : Bytes) (bigR : ECPoint) (p : R6Peer) (hd : p.decommitment ≠ []) :
    NoPanic (r7Peer C H cur ssid bigR p) := by
  rcases r7Peer_cases C H cur ssid bigR p with ⟨e, hp, _⟩ | ⟨w, he⟩ | ⟨x1, y1, x2, y2, bigV, bigA, hdc, hV, hA⟩
  · exact absurd hp (decommit_noPanic H p.commitment p.decommitment hd e)
  · rw [he]; exact NoPanic.ok _
  · rw [r7Peer_points C H cur ssid bigR p x1 y1 x2 y2 bigV bigA hdc hV hA]
    unfold r7Tail
    refine NoPanic.bind ?_ (fun _ _ => NoPanic.ite (fun _ => NoPanic.ok _) (fun _ => ?_))
    · unfold okA7
      split
      · exact NoPanic.ok _
      · exact schnorrVerify_noPanic hC hcof H _ _ _ _
    · refine NoPanic.bind ?_ (fun _ _ => NoPanic.ite (fun _ => NoPanic.ok _) (fun _ => NoPanic.ok _))
      unfold okV7
      split
      · exact NoPanic.ok _
      · exact schnorrVVerify_noPanic hC hcof H _ _ _ _ _ _

theorem r7Peer_noErr (cfg : Cfg) (ssid : Bytes) (bigR : ECPoint) (hR : C.ecIsOnCurve bigR = true) (p : R6Peer) :
    NoErr (r7Peer C H cfg ssid bigR p) := by
  rcases r7Peer_cases C H cfg ssid bigR p with ⟨e, _, he⟩ | ⟨w, he⟩ | ⟨x1, y1, x2, y2, bigV, bigA, hdc, hV, hA⟩
  · rw [he]; exact fun _ => nofun
  · rw [he]; exact NoErr.ok _
  · rw [r7Peer_points C H cfg ssid bigR p x1 y1 x2 y2 bigV bigA hdc hV hA]
    unfold r7Tail
    refine NoErr.bind ?_ (fun _ _ => NoErr.ite (fun _ => NoErr.ok _) (fun _ => ?_))
    · unfold okA7
      split
      · exact NoErr.ok _
      · exact schnorrVerify_noErr C H cfg _ _ _ _ (C17FieldsL.onCurve_of_ecNew C hA).1
    · refine NoErr.bind ?_ (fun _ _ => NoErr.ite (fun _ => NoErr.ok _) (fun _ => NoErr.ok _))
      unfold okV7
      split
      · exact NoErr.ok _
      · exact schnorrVVerify_noErr C H cfg _ _ _ _ _ _ (C17FieldsL.onCurve_of_ecNew C hV).1 hR

end total

end TssVerif.C05SgL
