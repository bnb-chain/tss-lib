import TssVerif.Core.Sign
import TssVerif.Lemmas.ModInverse
import Mathlib.LinearAlgebra.Lagrange
import Mathlib.FieldTheory.Finite.Basic
import Mathlib.Data.ZMod.Basic
import Mathlib.Tactic.Ring
import Mathlib.Tactic.FieldSimp
/-! Interpolation at `0`: `lagrange_eval_zero` in any field, with the explicit coefficients
`∏_{j≠i} v_j / (v_j − v_i)`. `Sign.weight` (the loop of `PrepareForSigning`) computes the share times
that coefficient over `ZMod q`: field view of `coef` and of the loop (`wfold_cast`), when the loop returns
(`wfold_isSome_iff`: ids distinct modulo `q`), and the sum of the weights of shares lying on a polynomial
of degree below the number of signers (`sum_weights`). -/
set_option autoImplicit false
namespace TssVerif

-- the step of the `weight` loop is declared here, under the name the statements about `bigW` use, so that
-- the loop can be analysed before the point fold of `Lemmas/C01W.lean`
namespace C01W
open Sign

/-- one step of the `weight` loop of signer `i` at position `j` -/
def wstep (q : ℕ) (ks : List ℕ) (i : ℕ) (w j : ℕ) : Option ℕ :=
  if j = i then some w else (coef q (ks.getD i 0) (ks.getD j 0)).map fun c => w * c % q

theorem weight_eq_fold (q : ℕ) (ks : List ℕ) (i xi : ℕ) :
    weight q ks i xi = (List.range ks.length).foldlM (wstep q ks i) xi := rfl

theorem wstep_self (q : ℕ) (ks : List ℕ) (i w : ℕ) : wstep q ks i w i = some w := if_pos rfl

theorem wstep_some {q : ℕ} {ks : List ℕ} {i j io : ℕ} (w : ℕ) (hj : j ≠ i)
    (h : coef q (ks.getD i 0) (ks.getD j 0) = some io) :
    wstep q ks i w j = some (w * io % q) := by
  unfold wstep; rw [if_neg hj, h]; rfl

theorem wstep_none {q : ℕ} {ks : List ℕ} {i j : ℕ} (w : ℕ) (hj : j ≠ i)
    (h : coef q (ks.getD i 0) (ks.getD j 0) = none) :
    wstep q ks i w j = none := by
  unfold wstep; rw [if_neg hj, h]; rfl
end C01W

namespace AlgL
open TssVerif Sign Polynomial C01W

/-- **interpolation at `0`** with the explicit weights `∏_{j≠i} v_j / (v_j − v_i)` -/
theorem lagrange_eval_zero {F : Type*} [Field F] {ι : Type*} [DecidableEq ι] (s : Finset ι)
    (v : ι → F) (hinj : Set.InjOn v s) (g : F[X]) (hdeg : g.degree < (s.card : ℕ)) :
    ∑ i ∈ s, g.eval (v i) * ∏ j ∈ s.erase i, (v j / (v j - v i)) = g.eval 0 := by
  have e := congrArg (eval 0) (Lagrange.eq_interpolate hinj hdeg)
  rw [e]
  simp only [Lagrange.interpolate_apply, eval_finsetSum, eval_mul, eval_C]
  refine Finset.sum_congr rfl fun i hi => ?_
  congr 1
  simp only [Lagrange.basis, eval_prod, Lagrange.basisDivisor, eval_mul, eval_C, eval_sub, eval_X]
  refine Finset.prod_congr rfl fun j hj => ?_
  have hne : v j ≠ v i := fun h =>
    Finset.ne_of_mem_erase hj (hinj (Finset.mem_coe.2 (Finset.mem_of_mem_erase hj)) (Finset.mem_coe.2 hi) h)
  have h1 : v j - v i ≠ 0 := sub_ne_zero.2 hne
  have h2 : v i - v j ≠ 0 := sub_ne_zero.2 (Ne.symm hne)
  -- a factor of the basis polynomial at `0` is `(0 − v_j)/(v_i − v_j) = v_j/(v_j − v_i)`
  field_simp
  ring

theorem lagrange_coeffs_sum_one {F : Type*} [Field F] {ι : Type*} [DecidableEq ι] (s : Finset ι)
    (v : ι → F) (hinj : Set.InjOn v s) (hs : s.Nonempty) :
    ∑ i ∈ s, ∏ j ∈ s.erase i, (v j / (v j - v i)) = 1 := by
  have h := lagrange_eval_zero s v hinj (1 : F[X]) (by
    rw [Polynomial.degree_one]
    exact_mod_cast Finset.card_pos.2 hs)
  simpa using h

theorem getD_eq_getElem {α : Type} (l : List α) (d : α) {i : ℕ} (h : i < l.length) :
    l.getD i d = l[i] := (List.getElem_eq_getD d).symm

theorem injOn_of_nodup {q : ℕ} (ks : List ℕ) (hnd : (ks.map (· % q)).Nodup) :
    Set.InjOn (fun j => (ks.getD j 0 : ZMod q)) (Finset.range ks.length : Set ℕ) := by
  intro i hi j hj hij
  have hi' : i < ks.length := by simpa using hi
  have hj' : j < ks.length := by simpa using hj
  simp only at hij
  rw [ZMod.natCast_eq_natCast_iff', getD_eq_getElem _ _ hi', getD_eq_getElem _ _ hj'] at hij
  have h1 : i < (ks.map (· % q)).length := by simpa using hi'
  have h2 : j < (ks.map (· % q)).length := by simpa using hj'
  refine (hnd.getElem_inj_iff (hi := h1) (hj := h2)).1 ?_
  rw [List.getElem_map, List.getElem_map]
  exact hij

theorem ne_of_nodup {q : ℕ} (ks : List ℕ) (hnd : (ks.map (· % q)).Nodup) {i j : ℕ}
    (hi : i < ks.length) (hj : j < ks.length) (hji : j ≠ i) :
    (ks.getD j 0 : ZMod q) ≠ (ks.getD i 0 : ZMod q) := fun h =>
  hji (injOn_of_nodup ks hnd (by simpa using hj) (by simpa using hi) h)

theorem natCast_eq_zero_iff_mod {q : ℕ} (n : ℕ) : (n : ZMod q) = 0 ↔ n % q = 0 :=
  (ZMod.natCast_eq_zero_iff n q).trans (Nat.dvd_iff_mod_eq_zero ..)

variable {q : ℕ} [Fact q.Prime]

/-- what `ModInverse` inverted is a unit of `ZMod q` -/
theorem intCast_ne_zero_of_modInverse {a : Int} {b : ℕ} (h : modInverse a q = some b) :
    ((a : ℤ) : ZMod q) ≠ 0 := fun h0 => by
  have h1 := (ZMod.intCast_eq_intCast_iff' _ _ q).2 (modInverse_specV h).1
  push_cast at h1
  rw [h0, zero_mul] at h1
  exact zero_ne_one h1

theorem coef_cast {ki kj c : ℕ} (h : coef q ki kj = some c) :
    (c : ZMod q) = (kj : ZMod q) * ((kj : ZMod q) - (ki : ZMod q))⁻¹ := by
  unfold coef at h
  obtain ⟨inv, hm, rfl⟩ := Option.map_eq_some_iff.1 h
  rw [ZMod.natCast_mod, Nat.cast_mul, modInverse_cast hm]
  push_cast
  rfl

/-- the factor exists exactly when the two ids differ modulo `q` (otherwise: Go's nil inverse) -/
theorem coef_isSome_iff {ki kj : ℕ} : (coef q ki kj).isSome ↔ (kj : ZMod q) ≠ (ki : ZMod q) := by
  unfold coef
  rw [Option.isSome_map]
  constructor
  · intro h he
    obtain ⟨b, hb⟩ := Option.isSome_iff_exists.1 h
    exact intCast_ne_zero_of_modInverse hb (by push_cast; rw [he, sub_self])
  · intro h
    have hne : ((((kj : Int) - (ki : Int) : ℤ)) : ZMod q) ≠ 0 := by
      push_cast
      exact sub_ne_zero.2 h
    obtain ⟨b, hb, _⟩ := modInverse_of_ne_zero hne
    rw [hb]
    rfl

theorem coef_none_of_eq {ki kj : ℕ} (h : (kj : ZMod q) = (ki : ZMod q)) : coef q ki kj = none :=
  Option.not_isSome_iff_eq_none.1 fun hs => coef_isSome_iff.1 hs h

/-- the field factor contributed by position `j` to the weight of position `i` -/
noncomputable def term (q : ℕ) (ks : List ℕ) (i j : ℕ) : ZMod q :=
  (ks.getD j 0 : ZMod q) * ((ks.getD j 0 : ZMod q) - (ks.getD i 0 : ZMod q))⁻¹

theorem wfold_cast (ks : List ℕ) (i : ℕ) (l : List ℕ) : ∀ (a w : ℕ),
    l.foldlM (wstep q ks i) a = some w →
      (w : ZMod q) = (a : ZMod q) * ((l.filter (· ≠ i)).map (term q ks i)).prod := by
  induction l with
  | nil => intro a w h; cases h; simp
  | cons j l ih =>
    intro a w h
    rw [List.foldlM_cons] at h
    by_cases hj : j = i
    · rw [hj, wstep_self] at h
      rw [ih a w h]
      simp [hj]
    · cases hc : coef q (ks.getD i 0) (ks.getD j 0) with
      | none => rw [wstep_none _ hj hc] at h; cases h
      | some c =>
        rw [wstep_some _ hj hc] at h
        rw [ih _ w h, ZMod.natCast_mod, Nat.cast_mul, coef_cast hc]
        simp [hj, term, mul_assoc]

theorem wfold_isSome_iff (ks : List ℕ) (i : ℕ) (l : List ℕ) : ∀ a : ℕ,
    (l.foldlM (wstep q ks i) a).isSome ↔
      ∀ j ∈ l, j ≠ i → (ks.getD j 0 : ZMod q) ≠ (ks.getD i 0 : ZMod q) := by
  induction l with
  | nil => intro a; simp
  | cons j l ih =>
    intro a
    rw [List.foldlM_cons, List.forall_mem_cons]
    by_cases hj : j = i
    · rw [hj, wstep_self]
      exact (ih a).trans ⟨fun h => ⟨fun h' => absurd rfl h', h⟩, fun h => h.2⟩
    · cases hc : coef q (ks.getD i 0) (ks.getD j 0) with
      | none =>
        rw [wstep_none _ hj hc]
        refine ⟨nofun, fun h => ?_⟩
        have := coef_isSome_iff.2 (h.1 hj)
        rw [hc] at this
        cases this
      | some c =>
        rw [wstep_some _ hj hc]
        have : (ks.getD j 0 : ZMod q) ≠ (ks.getD i 0 : ZMod q) := coef_isSome_iff.1 (by rw [hc]; rfl)
        exact (ih _).trans ⟨fun h => ⟨fun _ => this, h⟩, fun h => h.2⟩

theorem wfold_mod_eq_zero_iff (ks : List ℕ) (i : ℕ) (l : List ℕ) (a w : ℕ)
    (h : l.foldlM (wstep q ks i) a = some w) :
    w % q = 0 ↔ a % q = 0 ∨ ∃ j ∈ l, j ≠ i ∧ ks.getD j 0 % q = 0 := by
  have hne := (wfold_isSome_iff ks i l a).1 (by rw [h]; rfl)
  rw [← natCast_eq_zero_iff_mod, wfold_cast ks i l a w h, mul_eq_zero, List.prod_eq_zero_iff,
    natCast_eq_zero_iff_mod]
  refine or_congr Iff.rfl ?_
  simp only [List.mem_map, List.mem_filter, decide_eq_true_eq]
  constructor
  · rintro ⟨j, ⟨hj, hji⟩, h0⟩
    refine ⟨j, hj, hji, (natCast_eq_zero_iff_mod _).1 ((mul_eq_zero.1 h0).resolve_right ?_)⟩
    exact inv_ne_zero (sub_ne_zero.2 (hne j hj hji))
  · rintro ⟨j, hj, hji, h0⟩
    exact ⟨j, ⟨hj, hji⟩, by rw [term, (natCast_eq_zero_iff_mod _).2 h0, zero_mul]⟩

/-- **`Sign.weight` in the field**: `w_i = x_i · ∏_{j≠i} k_j / (k_j − k_i)` -/
theorem weight_cast {ks : List ℕ} {i xi w : ℕ} (h : weight q ks i xi = some w) :
    (w : ZMod q) = (xi : ZMod q) * ∏ j ∈ (Finset.range ks.length).erase i,
      ((ks.getD j 0 : ZMod q) / ((ks.getD j 0 : ZMod q) - (ks.getD i 0 : ZMod q))) := by
  rw [wfold_cast ks i _ xi w h, ← List.prod_toFinset _ ((List.nodup_range).filter _)]
  congr 1
  refine Finset.prod_congr ?_ fun j _ => (div_eq_mul_inv _ _).symm
  ext j
  simp [and_comm]

theorem weight_isSome_iff (ks : List ℕ) (i xi : ℕ) :
    (weight q ks i xi).isSome ↔
      ∀ j, j < ks.length → j ≠ i → (ks.getD j 0 : ZMod q) ≠ (ks.getD i 0 : ZMod q) :=
  (wfold_isSome_iff ks i _ xi).trans ⟨fun h j hj => h j (List.mem_range.2 hj),
    fun h j hj => h j (List.mem_range.1 hj)⟩

theorem weight_isSome_of_nodup (ks : List ℕ) (hnd : (ks.map (· % q)).Nodup) {i : ℕ}
    (hi : i < ks.length) (xi : ℕ) : ∃ w, weight q ks i xi = some w :=
  Option.isSome_iff_exists.1 ((weight_isSome_iff ks i xi).2 fun _ hj hji => ne_of_nodup ks hnd hi hj hji)

theorem weight_none_of_collision (ks : List ℕ) (i j xi : ℕ) (hj : j < ks.length) (hji : j ≠ i)
    (h : (ks.getD j 0 : ZMod q) = (ks.getD i 0 : ZMod q)) : weight q ks i xi = none :=
  Option.not_isSome_iff_eq_none.1 fun hs => (weight_isSome_iff ks i xi).1 hs j hj hji h

/-- interpolation at `0` with the coefficients the code computes: `lam i` is the weight of the share `1` -/
theorem sum_eval_mul_weight_one (ks : List ℕ) (lam : ℕ → ℕ) (f : (ZMod q)[X]) (hdeg : f.degree < ks.length)
    (hinj : Set.InjOn (fun j => (ks.getD j 0 : ZMod q)) (Finset.range ks.length : Set ℕ))
    (hlam : ∀ i < ks.length, weight q ks i 1 = some (lam i)) :
    ∑ i ∈ Finset.range ks.length, f.eval (ks.getD i 0 : ZMod q) * (lam i : ZMod q) = f.eval 0 := by
  rw [← lagrange_eval_zero (Finset.range ks.length) _ hinj f (by simpa using hdeg)]
  refine Finset.sum_congr rfl fun i hi => ?_
  rw [weight_cast (hlam i (Finset.mem_range.1 hi)), Nat.cast_one, one_mul]

/-- **the weights of shares lying on `f` sum to `f(0)`**: `deg f <` number of signers, ids injective
in `ZMod q`, signer `i` holds `x i ≡ f(ks[i])` and its `weight` call returned `w i` -/
theorem sum_weights (ks : List ℕ) (x w : ℕ → ℕ) (f : (ZMod q)[X]) (hdeg : f.degree < ks.length)
    (hinj : Set.InjOn (fun j => (ks.getD j 0 : ZMod q)) (Finset.range ks.length : Set ℕ))
    (hx : ∀ i < ks.length, (x i : ZMod q) = f.eval (ks.getD i 0 : ZMod q))
    (hw : ∀ i < ks.length, weight q ks i (x i) = some (w i)) :
    ∑ i ∈ Finset.range ks.length, (w i : ZMod q) = f.eval 0 := by
  rw [← lagrange_eval_zero (Finset.range ks.length) _ hinj f (by simpa using hdeg)]
  refine Finset.sum_congr rfl fun i hi => ?_
  rw [weight_cast (hw i (Finset.mem_range.1 hi)), hx i (Finset.mem_range.1 hi)]

theorem weights_sum (ks xs ws : List ℕ) (f : (ZMod q)[X])
    (hdeg : f.degree < ks.length)
    (hinj : Set.InjOn (fun j => (ks.getD j 0 : ZMod q)) (Finset.range ks.length : Set ℕ))
    (hx : ∀ i < ks.length, (xs.getD i 0 : ZMod q) = f.eval (ks.getD i 0 : ZMod q))
    (hw : ∀ i < ks.length, weight q ks i (xs.getD i 0) = some (ws.getD i 0)) :
    ∑ i ∈ Finset.range ks.length, (ws.getD i 0 : ZMod q) = f.eval 0 :=
  sum_weights ks (xs.getD · 0) (ws.getD · 0) f hdeg hinj hx hw

theorem sum_range_getD_eq_list_sum (ws : List ℕ) (n : ℕ) (h : ws.length = n) :
    ∑ i ∈ Finset.range n, (ws.getD i 0 : ZMod q) = ((ws.sum : ℕ) : ZMod q) := by
  subst h
  induction ws using List.reverseRecOn with
  | nil => simp
  | append_singleton l a ih =>
    rw [List.length_append, List.length_singleton, Finset.sum_range_succ, List.sum_append,
      List.sum_singleton, Nat.cast_add, ← ih]
    congr 1
    · refine Finset.sum_congr rfl fun i hi => ?_
      simp [List.getD_eq_getElem?_getD, List.getElem?_append_left (Finset.mem_range.1 hi)]
    · simp [List.getD_eq_getElem?_getD]

end AlgL
end TssVerif
