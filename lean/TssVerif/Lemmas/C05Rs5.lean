import TssVerif.Core.BlameEc5
import TssVerif.Lemmas.C05Ec
/-! Helper lemmas for `TssVerif/Props/C05f.lean`: the new-committee side of ECDSA resharing round 5
(`Core/BlameEc5.lean`): `rsFacPeer` (one peer's no-small-factor proof, judged under the verifier's own context and
ring-Pedersen parameters) and `rsRound5Fac` ("first failing peer is named") as a sequential loop (`seqLoop`). -/
set_option autoImplicit false
namespace TssVerif.C05Rs5L
open TssVerif BlameEc Zk C05L C06L C05EcL

variable {P : Type} (C : Curve P) (H : HashFn) (zcfg : Zk.Cfg) (noFac : Bool) (ownIdx : Nat) (ssid : Bytes)
  (nt h1 h2 : Nat)

/-- the verdict as a function of the verifier's answer -/
def verdict : Bool → Option String
  | true => none
  | false => some "facProof verify failed"

/-- a proof that does not decode: tolerated or named, by configuration -/
theorem rsFacPeer_undecodable (p : RsR4Peer) (hd : facFromBytes p.facProof = none) :
    rsFacPeer C H zcfg noFac ownIdx ssid nt h1 h2 p =
      .ok (if noFac then none else some "facProof does not decode") := by
  unfold rsFacPeer; rw [hd]

/-- a proof that decodes: the verdict is the verifier's, under the context `ssid ‖ ownIdx` -/
theorem rsFacPeer_decodable (p : RsR4Peer) (pf : FacProof) (hd : facFromBytes p.facProof = some pf) :
    rsFacPeer C H zcfg noFac ownIdx ssid nt h1 h2 p =
      (facVerify zcfg H C.q (Blame.contextJ ssid ownIdx) p.paillierN nt h1 h2 pf >>= fun ok => .ok (verdict ok)) := by
  unfold rsFacPeer; rw [hd]
  dsimp only
  cases facVerify zcfg H C.q (Blame.contextJ ssid ownIdx) p.paillierN nt h1 h2 pf with
  | err e => rfl
  | panic e => rfl
  | ok b => cases b <;> rfl

theorem rsFacPeer_decodable_ok (p : RsR4Peer) (pf : FacProof) (hd : facFromBytes p.facProof = some pf) (b : Bool)
    (hv : facVerify zcfg H C.q (Blame.contextJ ssid ownIdx) p.paillierN nt h1 h2 pf = .ok b) :
    rsFacPeer C H zcfg noFac ownIdx ssid nt h1 h2 p = .ok (verdict b) := by
  rw [rsFacPeer_decodable C H zcfg noFac ownIdx ssid nt h1 h2 p pf hd, hv]; rfl

theorem rsFacPeer_ok_iff (p : RsR4Peer) (v : Option String) :
    rsFacPeer C H zcfg noFac ownIdx ssid nt h1 h2 p = .ok v ↔
      (∃ pf b, facFromBytes p.facProof = some pf ∧
        facVerify zcfg H C.q (Blame.contextJ ssid ownIdx) p.paillierN nt h1 h2 pf = .ok b ∧ v = verdict b) ∨
      (facFromBytes p.facProof = none ∧ v = if noFac then none else some "facProof does not decode") := by
  cases hd : facFromBytes p.facProof with
  | none =>
    rw [rsFacPeer_undecodable C H zcfg noFac ownIdx ssid nt h1 h2 p hd]
    simp [eq_comm]
  | some pf =>
    rw [rsFacPeer_decodable C H zcfg noFac ownIdx ssid nt h1 h2 p pf hd, Outcome.bind_eq_ok]
    constructor
    · rintro ⟨b, hb, h⟩
      injection h with h
      exact Or.inl ⟨pf, b, rfl, hb, h.symm⟩
    · rintro (⟨pf', b, h, hb, rfl⟩ | ⟨h, _⟩)
      · injection h with h; subst h; exact ⟨b, hb, rfl⟩
      · cases h

/-- the loop body as a step of `seqLoop`: a named peer stops the loop -/
def facStep (p : RsR4Peer) : Outcome (Option (Nat × String) ⊕ Unit) :=
  rsFacPeer C H zcfg noFac ownIdx ssid nt h1 h2 p >>= fun v =>
    match v with
    | some why => .ok (.inl (some (p.idx, why)))
    | none => .ok (.inr ())

theorem rsRound5Fac_eq (peers : List RsR4Peer) :
    rsRound5Fac C H zcfg noFac ownIdx ssid nt h1 h2 peers =
      seqLoop (fun _ => facStep C H zcfg noFac ownIdx ssid nt h1 h2) (fun _ => .ok none) () peers := by
  induction peers with
  | nil => rfl
  | cons p rest ih =>
    rw [rsRound5Fac, seqLoop, ih]
    unfold facStep
    cases rsFacPeer C H zcfg noFac ownIdx ssid nt h1 h2 p with
    | ok v => cases v <;> rfl
    | err e => rfl
    | panic t => rfl

theorem facStep_go_iff (p : RsR4Peer) :
    facStep C H zcfg noFac ownIdx ssid nt h1 h2 p = .ok (.inr ()) ↔
      rsFacPeer C H zcfg noFac ownIdx ssid nt h1 h2 p = .ok none := by
  unfold facStep
  cases rsFacPeer C H zcfg noFac ownIdx ssid nt h1 h2 p with
  | ok v => cases v <;> simp
  | err e => simp
  | panic t => simp

theorem facStep_halt_ok_iff (p : RsR4Peer) (r : Option (Nat × String)) :
    halt (facStep C H zcfg noFac ownIdx ssid nt h1 h2 p) = some (.ok r) ↔
      ∃ why, rsFacPeer C H zcfg noFac ownIdx ssid nt h1 h2 p = .ok (some why) ∧ r = some (p.idx, why) := by
  unfold facStep
  cases rsFacPeer C H zcfg noFac ownIdx ssid nt h1 h2 p with
  | ok v => cases v <;> simp [halt, eq_comm]
  | err e => simp [halt]
  | panic t => simp [halt]

theorem rsRound5Fac_cons_some (p : RsR4Peer) (rest : List RsR4Peer) (why : String)
    (h : rsFacPeer C H zcfg noFac ownIdx ssid nt h1 h2 p = .ok (some why)) :
    rsRound5Fac C H zcfg noFac ownIdx ssid nt h1 h2 (p :: rest) = .ok (some (p.idx, why)) := by
  rw [rsRound5Fac, h]; rfl

theorem rsRound5Fac_cons_none (p : RsR4Peer) (rest : List RsR4Peer)
    (h : rsFacPeer C H zcfg noFac ownIdx ssid nt h1 h2 p = .ok none) :
    rsRound5Fac C H zcfg noFac ownIdx ssid nt h1 h2 (p :: rest) =
      rsRound5Fac C H zcfg noFac ownIdx ssid nt h1 h2 rest := by
  rw [rsRound5Fac, h]; rfl

/-- **first failing peer**: exact characterisation of a named peer -/
theorem rsRound5Fac_some_iff (peers : List RsR4Peer) (c : Nat) (why : String) :
    rsRound5Fac C H zcfg noFac ownIdx ssid nt h1 h2 peers = .ok (some (c, why)) ↔
      ∃ pre p post, peers = pre ++ p :: post ∧
        (∀ q ∈ pre, rsFacPeer C H zcfg noFac ownIdx ssid nt h1 h2 q = .ok none) ∧
        rsFacPeer C H zcfg noFac ownIdx ssid nt h1 h2 p = .ok (some why) ∧ p.idx = c := by
  rw [rsRound5Fac_eq, seqLoop_eq_iff]
  simp only [Outcome.ok.injEq, reduceCtorEq, and_false, exists_false, false_or, exists_const, runs_unit_iff,
    facStep_go_iff, facStep_halt_ok_iff, Option.some.injEq, Prod.mk.injEq]
  constructor
  · rintro ⟨pre, p, post, he, hpre, w, hw, hc, rfl⟩
    exact ⟨pre, p, post, he, hpre, hw, hc.symm⟩
  · rintro ⟨pre, p, post, he, hpre, hw, hc⟩
    exact ⟨pre, p, post, he, hpre, why, hw, hc.symm, rfl⟩

theorem rsRound5Fac_culprit_mem (peers : List RsR4Peer) (c : Nat) (why : String)
    (h : rsRound5Fac C H zcfg noFac ownIdx ssid nt h1 h2 peers = .ok (some (c, why))) :
    ∃ p ∈ peers, p.idx = c ∧ rsFacPeer C H zcfg noFac ownIdx ssid nt h1 h2 p = .ok (some why) := by
  obtain ⟨pre, p, post, rfl, _, hp, hidx⟩ := (rsRound5Fac_some_iff C H zcfg noFac ownIdx ssid nt h1 h2 peers c why).1 h
  exact ⟨p, by simp, hidx, hp⟩

/-- the only `.err` of `facVerify` is the branch `ncap = 0`; under `Zk.cur` the guard `facNCapPositive` has already
answered "rejected" for `ncap ≤ 0`, so the branch is dead, and `expP` reports no error -/
theorem facVerify_cur_noErr (q : Nat) (sess : Bytes) (n0 ncap s t : Int) (pf : FacProof) :
    NoErr (facVerify cur H q sess n0 ncap s t pf) := by
  unfold facVerify
  ne_guard
  refine NoErr.ite (fun _ => NoErr.ok _) (fun gcap => ?_)
  dsimp only
  ne_guard
  ne_guard
  have gcap' : 0 < ncap := by simpa [cur] using gcap
  rw [if_neg (by omega)]
  ne_bind (expP_noErr _ _ _)
  ne_bind (expP_noErr _ _ _)
  ne_bind (expP_noErr _ _ _)
  ne_guard
  ne_bind (expP_noErr _ _ _)
  ne_bind (expP_noErr _ _ _)
  ne_bind (expP_noErr _ _ _)
  ne_guard
  ne_bind (expP_noErr _ _ _)
  ne_bind (expP_noErr _ _ _)
  ne_bind (expP_noErr _ _ _)
  ne_bind (expP_noErr _ _ _)
  ne_bind (expP_noErr _ _ _)
  exact NoErr.ok _

/-- a decoded proof is verified to a verdict: no crash (its fields are non-negative), no reported error -/
theorem facVerify_decoded_returns (p : RsR4Peer) (pf : FacProof) (hd : facFromBytes p.facProof = some pf)
    (sess : Bytes) (n0 ncap s t : Int) : ∃ b, facVerify cur H C.q sess n0 ncap s t pf = .ok b :=
  C05SgL.total_of (facVerify_noPanic H C.q sess n0 ncap s t pf (Or.inl (facFromBytes_nonneg _ _ hd)))
    (facVerify_cur_noErr H C.q sess n0 ncap s t pf)

end TssVerif.C05Rs5L
