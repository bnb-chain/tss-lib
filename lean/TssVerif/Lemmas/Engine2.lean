import TssVerif.Core.Engine2
import TssVerif.Lemmas.Loop
import TssVerif.Lemmas.Slots
/-! Helper lemmas about the two-committee round engine `TssVerif/Core/Engine2.lean` (core Lean only): the engine
as an instance of the abstract loop of `Lemmas/Loop.lean`, the scan per committee, canonical emissions, fields
the engine never changes, the fixpoint, "a round advances only when its requirements are met". -/
set_option autoImplicit false
namespace TssVerif.E2L
open TssVerif.Engine (Slot)
open TssVerif.Engine2

variable {tbl : List RSpec} {p : Party} {r : RSpec}

@[reducible] def ops : Loop.Ops RSpec Party Msg :=
  { rnd := Party.rnd, done := Party.done, self := Party.self, scan := scan, canProceed := canProceed,
    startRound := startRound, finish := fun p => { p with done := true }, storeMsg := storeMsg }

abbrev cur (tbl : List RSpec) (p : Party) : Option RSpec := Loop.cur ops tbl p

abbrev advance (tbl : List RSpec) (k : Nat) (q : Party) : Party := Loop.advance ops tbl k q

/-- `Loop.settleF ops` in the model's terms (`settleF_loop`) -/
def settleF (tbl : List RSpec) (p : Party) : Party := settle tbl (tbl.length + 1) p

theorem step_loop (tbl : List RSpec) : step tbl = Loop.step ops tbl := by
  funext p
  unfold step Loop.step
  cases tbl[p.rnd - 1]? with
  | none => rfl
  | some r => cases tbl[p.rnd]? <;> rfl

theorem rest_loop (tbl : List RSpec) : rest tbl = Loop.rest ops tbl := by
  funext p
  unfold rest Loop.rest
  cases tbl[p.rnd - 1]? <;> rfl

theorem settle_loop (tbl : List RSpec) : settle tbl = Loop.settle ops tbl := by
  funext fuel
  induction fuel with
  | zero => funext p; exact congrFun (rest_loop tbl) p
  | succ k ih =>
    funext p
    simp only [settle, Loop.settle, step_loop, rest_loop, ih]
    cases Loop.step ops tbl p <;> rfl

theorem settleF_loop (tbl : List RSpec) : settleF tbl = Loop.settleF ops tbl := by
  funext p; unfold settleF Loop.settleF; rw [settle_loop]

theorem deliver_eq (tbl : List RSpec) (m : Msg) (p : Party) : deliver tbl m p = settleF tbl (storeMsg m p) := rfl

theorem deliver_loop (tbl : List RSpec) : deliver tbl = Loop.deliver ops tbl := by
  funext m p; rw [deliver_eq, settleF_loop]; rfl

theorem start_loop (tbl : List RSpec) : start tbl = Loop.start ops tbl := by
  funext pre p
  unfold start Loop.start
  rw [← settleF_loop, ← rest_loop]
  cases tbl[0]? <;> rfl

section cur
variable {tbl : List RSpec} {p p' : Party} {r : RSpec}

theorem cur_eq_some : cur tbl p = some r ↔ p.rnd ≠ 0 ∧ p.done = false ∧ tbl[p.rnd - 1]? = some r := Loop.cur_eq_some

theorem cur_of_not_started (h : p.rnd = 0 ∨ p.done = true) : cur tbl p = none := Loop.cur_of_not_started h

theorem rest_of_cur_none (h : cur tbl p = none) : rest tbl p = p := by rw [rest_loop]; exact Loop.rest_of_cur_none h

theorem rest_of_cur_some (h : cur tbl p = some r) : rest tbl p = scan r p := by
  rw [rest_loop]; exact Loop.rest_of_cur_some h

theorem step_of_cur_none (h : cur tbl p = none) : step tbl p = none := by rw [step_loop]; exact Loop.step_of_cur_none h

theorem step_none_iff (h : cur tbl p = some r) : step tbl p = none ↔ canProceed (scan r p) = false := by
  rw [step_loop]; exact Loop.step_none_iff h

theorem step_cases (hs : step tbl p = some p') :
    ∃ r, cur tbl p = some r ∧ canProceed (scan r p) = true ∧ p' = advance tbl p.rnd (scan r p) := by
  rw [step_loop] at hs; exact Loop.step_cases hs

theorem step_none_of_not_started (h : p.rnd = 0 ∨ p.done = true) : step tbl p = none :=
  step_of_cur_none (cur_of_not_started h)

theorem rest_of_not_started (h : p.rnd = 0 ∨ p.done = true) : rest tbl p = p :=
  rest_of_cur_none (cur_of_not_started h)

theorem step_eq_of_none {tbl : List RSpec} {p : Party} (hr : tbl[p.rnd - 1]? = none) : step tbl p = none :=
  step_of_cur_none (Loop.cur_eq_none.mpr (Or.inr (Or.inr hr)))

end cur

theorem start_cases (tbl : List RSpec) (pre : Bool) (p : Party) :
    start tbl pre p = p ∨ ∃ r, p.rnd = 0 ∧ tbl[0]? = some r ∧
      ((pre = true ∧ start tbl pre p = settleF tbl (startRound r 0 p)) ∨
       (pre = false ∧ start tbl pre p = rest tbl (startRound r 0 p))) := by
  rw [start_loop, settleF_loop, rest_loop]
  by_cases h0 : p.rnd = 0
  · cases hr : tbl[0]? with
    | none => exact Or.inl (Loop.start_of_none hr)
    | some r =>
      refine Or.inr ⟨r, h0, rfl, ?_⟩
      cases pre
      · exact Or.inr ⟨rfl, Loop.start_false_eq h0 hr⟩
      · exact Or.inl ⟨rfl, Loop.start_true_eq h0 hr⟩
  · exact Or.inl (Loop.start_of_started h0)

/-- the flags of the new (`true`) or the old (`false`) committee -/
def okC (p : Party) : Bool → Nat → Bool
  | true => p.okNew
  | false => p.okOld

/-- … its size -/
def nC (p : Party) : Bool → Nat
  | true => p.nNew
  | false => p.nOld

/-- … what round `r` needs from each of its members -/
def needsC (r : RSpec) : Bool → List (Nat × Bool)
  | true => r.needsNew
  | false => r.needsOld

theorem scan_eq (r : RSpec) (p : Party) :
    scan r p = { p with okOld := (scan r p).okOld, okNew := (scan r p).okNew } := by
  unfold scan; split <;> rfl

theorem scan_with_flags (r : RSpec) (p : Party) (f g : Nat → Bool) :
    { scan r p with okOld := f, okNew := g } = { p with okOld := f, okNew := g } := by rw [scan_eq r p]

theorem scan_rnd (r : RSpec) (p : Party) : (scan r p).rnd = p.rnd := by rw [scan_eq]
theorem scan_done (r : RSpec) (p : Party) : (scan r p).done = p.done := by rw [scan_eq]
theorem scan_store (r : RSpec) (p : Party) : (scan r p).store = p.store := by rw [scan_eq]
theorem scan_out (r : RSpec) (p : Party) : (scan r p).out = p.out := by rw [scan_eq]
theorem scan_ended (r : RSpec) (p : Party) : (scan r p).ended = p.ended := by rw [scan_eq]
theorem scan_self (r : RSpec) (p : Party) : (scan r p).self = p.self := by rw [scan_eq]
theorem scan_nOld (r : RSpec) (p : Party) : (scan r p).nOld = p.nOld := by rw [scan_eq]
theorem scan_nNew (r : RSpec) (p : Party) : (scan r p).nNew = p.nNew := by rw [scan_eq]
theorem scan_nC (r : RSpec) (p : Party) (c : Bool) : nC (scan r p) c = nC p c := by
  cases c
  · exact scan_nOld r p
  · exact scan_nNew r p

theorem storeMsg_store_same (m : Msg) (p : Party) : (storeMsg m p).store m.ty m.frm = some m.slot :=
  Slots.setSlot_same _ _ _ _

theorem storeMsg_store_other (m : Msg) (p : Party) {t j : Nat} (h : ¬ (t = m.ty ∧ j = m.frm)) :
    (storeMsg m p).store t j = p.store t j :=
  Slots.setSlot_other _ _ h

theorem sat_iff (needs : List (Nat × Bool)) (store : Nat → Nat → Option Slot) (j : Nat) :
    sat needs store j = true ↔ ∀ tf ∈ needs, ∃ s, store tf.1 j = some s ∧ s.flag = tf.2 := Slots.sat_iff needs store j

/-- member `j` of committee `c` is marked, or has everything round `r` needs from that committee stored with the
right flag -/
def cov (r : RSpec) (p : Party) (c : Bool) (j : Nat) : Prop :=
  okC p c j = true ∨ (needsC r c ≠ [] ∧ sat (needsC r c) p.store j = true)

theorem scan_okC_iff (r : RSpec) (p : Party) (c : Bool) (j : Nat) :
    okC (scan r p) c j = true ↔ okC p c j = true ∨ (r.final = false ∧ j < nC p c ∧ cov r p c j) := by
  unfold scan cov
  cases hf : r.final
  · cases c <;>
      simp only [okC, nC, needsC, Bool.false_eq_true, if_false, Bool.or_eq_true, Bool.and_eq_true, decide_eq_true_eq,
        Bool.not_eq_true', List.isEmpty_eq_false_iff, true_and, ne_eq] <;>
      exact ⟨fun h => h.imp id fun h => ⟨h.1.1, Or.inr ⟨h.1.2, h.2⟩⟩,
        fun h => h.elim Or.inl fun h => h.2.elim Or.inl fun h' => Or.inr ⟨⟨h.1, h'.1⟩, h'.2⟩⟩
  · simp

theorem okC_scan_of_ok {c : Bool} {j : Nat} (h : okC p c j = true) : okC (scan r p) c j = true :=
  (scan_okC_iff r p c j).mpr (Or.inl h)

theorem cov_of_okC_scan {c : Bool} {j : Nat} (h : okC (scan r p) c j = true) : cov r p c j :=
  ((scan_okC_iff r p c j).mp h).elim Or.inl fun h => h.2.2

theorem okC_scan_mono {p q : Party} (hn : ∀ c, nC p c = nC q c)
    (hok : ∀ c j, okC p c j = true → okC (scan r q) c j = true) (hcov : ∀ c j, cov r p c j → cov r q c j)
    (c : Bool) (j : Nat) (h : okC (scan r p) c j = true) : okC (scan r q) c j = true := by
  rcases (scan_okC_iff r p c j).mp h with h | ⟨hf, hj, hc⟩
  · exact hok c j h
  · exact (scan_okC_iff r q c j).mpr (Or.inr ⟨hf, hn c ▸ hj, hcov c j hc⟩)

theorem canProceed_iff (p : Party) : canProceed p = true ↔ ∀ c j, j < nC p c → okC p c j = true := by
  unfold canProceed
  simp only [Bool.and_eq_true, List.all_eq_true, List.mem_range]
  exact ⟨fun h c => by cases c; exact h.1; exact h.2, fun h => ⟨h false, h true⟩⟩

/-- **the scan of a non-final round lets the party proceed iff every member of both committees is covered** -/
theorem canProceed_scan_iff (hf : r.final = false) (p : Party) :
    canProceed (scan r p) = true ↔ ∀ c j, j < nC p c → cov r p c j := by
  rw [canProceed_iff]
  constructor
  · intro h c j hj; exact cov_of_okC_scan (h c j (by rw [scan_nC]; exact hj))
  · intro h c j hj
    rw [scan_nC] at hj
    exact (scan_okC_iff r p c j).mpr ((h c j hj).elim Or.inl fun h' => Or.inr ⟨hf, hj, Or.inr h'⟩)

/-- parties that differ in the flags only (`h`) and agree on those pointwise are equal -/
theorem party_ext {p q : Party} (h : { p with okOld := q.okOld, okNew := q.okNew } = q)
    (hok : ∀ c j, okC p c j = okC q c j) : p = q := by
  rw [← h]
  cases p
  have e7 := funext (hok false)
  have e8 := funext (hok true)
  simp only [okC] at e7 e8
  subst e7 e8
  rfl

/-- two scans of parties that differ in the flags only agree as soon as they mark the same members -/
theorem scan_congr {p q : Party} (h : { p with okOld := q.okOld, okNew := q.okNew } = q)
    (hok : ∀ c j, okC (scan r p) c j = okC (scan r q) c j) : scan r p = scan r q := by
  refine party_ext ?_ hok
  rw [scan_eq r p, scan_eq r q, ← h]

theorem scan_scan (r : RSpec) (p : Party) : scan r (scan r p) = scan r p := by
  refine party_ext (by rw [scan_eq r (scan r p)]) fun c j => Bool.eq_iff_iff.mpr ?_
  rw [scan_okC_iff r (scan r p)]
  refine ⟨fun h => h.elim id fun h => ?_, Or.inl⟩
  rw [scan_nC] at h
  exact (scan_okC_iff r p c j).mpr (Or.inr ⟨h.1, h.2.1, h.2.2.elim cov_of_okC_scan (by rw [scan_store]; exact Or.inr)⟩)

theorem frame : Loop.Frame ops where
  scan_rnd := scan_rnd
  scan_done := scan_done
  scan_self := scan_self
  scan_scan := scan_scan
  start_rnd := fun _ _ _ => rfl
  start_done := fun _ _ _ => rfl
  start_self := fun _ _ _ => rfl
  finish_rnd := fun _ => rfl
  finish_done := fun _ => rfl
  finish_self := fun _ => rfl
  store_rnd := fun _ _ => rfl
  store_done := fun _ _ => rfl
  store_self := fun _ _ => rfl

/-- `Loop.Moves ops tbl Q` spelled out in the model's terms (`Moves.loop`), so that the invariants of the Props files
can be stated without the abstract loop; `EngineL` has no such statements and uses `Loop.Moves ops` directly -/
structure Moves (tbl : List RSpec) (Q : Party → Prop) : Prop where
  scan : ∀ p r, Q p → p.rnd ≠ 0 → p.done = false → tbl[p.rnd - 1]? = some r → Q (scan r p)
  adv : ∀ p r r', Q p → p.rnd ≠ 0 → p.done = false → tbl[p.rnd - 1]? = some r → canProceed p = true →
    tbl[p.rnd]? = some r' → Q (startRound r' p.rnd p)
  fin : ∀ p, Q p → p.rnd ≠ 0 → p.done = false → tbl[p.rnd]? = none → Q { p with done := true }

theorem Moves.loop {Q : Party → Prop} (M : Moves tbl Q) : Loop.Moves ops tbl Q :=
  ⟨M.scan, M.adv, M.fin⟩

theorem Moves.step {Q : Party → Prop} (M : Moves tbl Q) {p p' : Party} (h : Q p)
    (hs : step tbl p = some p') : Q p' := by
  rw [step_loop] at hs; exact M.loop.step frame h hs

theorem Moves.settle {tbl : List RSpec} {Q : Party → Prop} (M : Moves tbl Q) (fuel : Nat) {p : Party} (h : Q p) :
    Q (settle tbl fuel p) := by
  rw [settle_loop]; exact M.loop.settle frame fuel h

theorem Moves.deliver {tbl : List RSpec} {Q : Party → Prop} (M : Moves tbl Q) {p : Party} (m : Msg)
    (h : Q (storeMsg m p)) : Q (deliver tbl m p) := M.settle _ h

theorem Moves.start {Q : Party → Prop} (M : Moves tbl Q) (pre : Bool) (h : Q p)
    (h0 : ∀ r, p.rnd = 0 → tbl[0]? = some r → Q (startRound r 0 p)) : Q (start tbl pre p) := by
  rw [start_loop]; exact M.loop.start frame pre h h0

/-- canonical emission log of the first `k` rounds of a party (`nNew` = size of the new committee) -/
def emitsUpTo (tbl : List RSpec) (nNew k : Nat) : List Nat :=
  ((tbl.take k).map fun r => emitList nNew r.emits).flatten

/-- canonical `end` count of the first `k` rounds -/
def endsUpTo (tbl : List RSpec) (k : Nat) : Nat := ((tbl.take k).map fun r => if r.final then 1 else 0).sum

/-- invariant: what has been emitted is exactly the canonical prefix for the rounds started -/
def Canon (tbl : List RSpec) (p : Party) : Prop :=
  p.rnd ≤ tbl.length ∧ p.out = emitsUpTo tbl p.nNew p.rnd ∧ p.ended = endsUpTo tbl p.rnd

theorem emitsUpTo_zero (tbl : List RSpec) (n : Nat) : emitsUpTo tbl n 0 = [] := by
  simp [emitsUpTo]

theorem endsUpTo_zero (tbl : List RSpec) : endsUpTo tbl 0 = 0 := by
  simp [endsUpTo]

theorem emitsUpTo_succ (tbl : List RSpec) (n k : Nat) (r : RSpec) (h : tbl[k]? = some r) :
    emitsUpTo tbl n (k + 1) = emitsUpTo tbl n k ++ emitList n r.emits :=
  Loop.take_succ_map_flatten _ h

theorem endsUpTo_succ (tbl : List RSpec) (k : Nat) (r : RSpec) (h : tbl[k]? = some r) :
    endsUpTo tbl (k + 1) = endsUpTo tbl k + (if r.final then 1 else 0) :=
  Loop.take_succ_map_sum _ h

theorem mem_emitsUpTo_iff {n k ty : Nat} :
    ty ∈ emitsUpTo tbl n k ↔ ∃ k' r, k' < k ∧ tbl[k']? = some r ∧ ty ∈ emitList n r.emits :=
  Loop.mem_take_map_flatten

theorem ended_of_lastOnly (hfl : Loop.lastOnly (tbl.map (·.final)) = true) {p : Party}
    (hc : Canon tbl p) : p.ended ≤ 1 ∧ (p.ended = 1 ↔ p.rnd = tbl.length) := by
  rw [hc.2.2]
  exact Loop.sum_take_of_lastOnly (·.final) hfl hc.1

theorem canon_fresh (tbl : List RSpec) (nOld nNew : Nat) (isNew : Bool) (self : Nat) :
    Canon tbl (fresh nOld nNew isNew self) := by
  simp [Canon, fresh, emitsUpTo, endsUpTo]

theorem canon_startRound {k : Nat} (h : Canon tbl p)
    (hk : p.rnd = k) (hr : tbl[k]? = some r) : Canon tbl (startRound r k p) := by
  obtain ⟨_, h2, h3⟩ := h
  subst hk
  refine ⟨Loop.lt_of_getElem?_some hr, ?_, ?_⟩
  · show p.out ++ _ = emitsUpTo tbl p.nNew (p.rnd + 1)
    rw [emitsUpTo_succ tbl _ _ r hr, ← h2]
  · show p.ended + _ = endsUpTo tbl (p.rnd + 1)
    rw [endsUpTo_succ tbl _ r hr, ← h3]

theorem canon_moves (tbl : List RSpec) : Moves tbl (Canon tbl) where
  scan := fun p r h _ _ _ => by rw [scan_eq]; exact h
  adv := fun _ _ _ h _ _ _ _ hr' => canon_startRound h rfl hr'
  fin := fun _ h _ _ _ => h

theorem canon_deliver (m : Msg) (h : Canon tbl p) :
    Canon tbl (deliver tbl m p) := (canon_moves tbl).deliver m h

theorem canon_start (pre : Bool) (h : Canon tbl p) : Canon tbl (start tbl pre p) :=
  (canon_moves tbl).start pre h fun _ h0 hr => canon_startRound h h0 hr

/-- what can happen to one party: the local `Start` call (`pre`: the library's "a message was stored before
`Start`" flag, here arbitrary), or a delivery (any message whatsoever) -/
inductive Ev where
  | start : Bool → Ev
  | deliver : Msg → Ev

def applyEv (tbl : List RSpec) (p : Party) : Ev → Party
  | .start pre => start tbl pre p
  | .deliver m => deliver tbl m p

def run (tbl : List RSpec) (evs : List Ev) (p : Party) : Party := evs.foldl (applyEv tbl) p

def delivers (tbl : List RSpec) (ms : List Msg) (p : Party) : Party := ms.foldl (fun p m => deliver tbl m p) p

theorem run_nil (tbl : List RSpec) (p : Party) : run tbl [] p = p := rfl
theorem run_cons (tbl : List RSpec) (e : Ev) (evs : List Ev) (p : Party) :
    run tbl (e :: evs) p = run tbl evs (applyEv tbl p e) := rfl
theorem run_append (tbl : List RSpec) (es es' : List Ev) (p : Party) :
    run tbl (es ++ es') p = run tbl es' (run tbl es p) := by
  simp [run, List.foldl_append]
theorem run_concat (tbl : List RSpec) (es : List Ev) (e : Ev) (p : Party) :
    run tbl (es ++ [e]) p = applyEv tbl (run tbl es p) e := by
  rw [run_append]; rfl

theorem delivers_nil (tbl : List RSpec) (p : Party) : delivers tbl [] p = p := rfl
theorem delivers_cons (tbl : List RSpec) (m : Msg) (ms : List Msg) (p : Party) :
    delivers tbl (m :: ms) p = delivers tbl ms (deliver tbl m p) := rfl
theorem delivers_append (tbl : List RSpec) (ms ms' : List Msg) (p : Party) :
    delivers tbl (ms ++ ms') p = delivers tbl ms' (delivers tbl ms p) := by
  simp [delivers, List.foldl_append]

theorem delivers_eq_run (tbl : List RSpec) (ms : List Msg) (p : Party) :
    delivers tbl ms p = run tbl (ms.map Ev.deliver) p := by
  induction ms generalizing p with
  | nil => rfl
  | cons m ms ih => simp only [List.map_cons, run_cons, delivers_cons, applyEv]; exact ih _

theorem run_preserves (Q : Party → Prop) (hev : ∀ p e, Q p → Q (applyEv tbl p e))
    (evs : List Ev) (p : Party) (h : Q p) : Q (run tbl evs p) := by
  induction evs generalizing p with
  | nil => exact h
  | cons e evs ih => exact ih _ (hev p e h)

theorem canon_run (evs : List Ev) (h : Canon tbl p) : Canon tbl (run tbl evs p) :=
  run_preserves (Canon tbl) (fun _ e h => by cases e; exact canon_start _ h; exact canon_deliver _ h) evs p h

/-- `q` has the configuration of `p`: committee sizes, role, own index -/
def SameCfg (p q : Party) : Prop := q.nOld = p.nOld ∧ q.nNew = p.nNew ∧ q.isNew = p.isNew ∧ q.self = p.self

theorem sameCfg_moves (tbl : List RSpec) (p0 : Party) : Moves tbl (SameCfg p0) where
  scan := fun p r h _ _ _ => by rw [scan_eq]; exact h
  adv := fun _ _ _ h _ _ _ _ _ => h
  fin := fun _ h _ _ _ => h

theorem sameCfg_refl (p : Party) : SameCfg p p := ⟨rfl, rfl, rfl, rfl⟩

theorem sameCfg_deliver (tbl : List RSpec) (m : Msg) (p : Party) : SameCfg p (deliver tbl m p) :=
  (sameCfg_moves tbl p).deliver m (sameCfg_refl p)

theorem sameCfg_start (tbl : List RSpec) (pre : Bool) (p : Party) : SameCfg p (start tbl pre p) :=
  (sameCfg_moves tbl p).start pre (sameCfg_refl p) (fun _ _ _ => sameCfg_refl p)

theorem sameCfg_settle (tbl : List RSpec) (fuel : Nat) (p : Party) : SameCfg p (settle tbl fuel p) :=
  (sameCfg_moves tbl p).settle fuel (sameCfg_refl p)

theorem sameCfg_step {p p' : Party} (hs : step tbl p = some p') : SameCfg p p' :=
  (sameCfg_moves tbl p).step (sameCfg_refl p) hs

theorem sameCfg_run (tbl : List RSpec) (evs : List Ev) (p : Party) : SameCfg p (run tbl evs p) :=
  run_preserves (SameCfg p) (fun q e h => by
    have h2 : SameCfg q (applyEv tbl q e) := by cases e; exact sameCfg_start tbl _ q; exact sameCfg_deliver tbl _ q
    exact ⟨h2.1.trans h.1, h2.2.1.trans h.2.1, h2.2.2.1.trans h.2.2.1, h2.2.2.2.trans h.2.2.2⟩) evs p (sameCfg_refl p)

theorem step_nOld {tbl : List RSpec} {p p' : Party} (hs : step tbl p = some p') : p'.nOld = p.nOld :=
  (sameCfg_step hs).1
theorem step_nNew {tbl : List RSpec} {p p' : Party} (hs : step tbl p = some p') : p'.nNew = p.nNew :=
  (sameCfg_step hs).2.1
theorem deliver_self (tbl : List RSpec) (m : Msg) (p : Party) : (deliver tbl m p).self = p.self :=
  (sameCfg_deliver tbl m p).2.2.2
theorem deliver_nOld (tbl : List RSpec) (m : Msg) (p : Party) : (deliver tbl m p).nOld = p.nOld :=
  (sameCfg_deliver tbl m p).1
theorem deliver_nNew (tbl : List RSpec) (m : Msg) (p : Party) : (deliver tbl m p).nNew = p.nNew :=
  (sameCfg_deliver tbl m p).2.1
theorem start_self (tbl : List RSpec) (pre : Bool) (p : Party) : (start tbl pre p).self = p.self :=
  (sameCfg_start tbl pre p).2.2.2
theorem start_nOld (tbl : List RSpec) (pre : Bool) (p : Party) : (start tbl pre p).nOld = p.nOld :=
  (sameCfg_start tbl pre p).1
theorem start_nNew (tbl : List RSpec) (pre : Bool) (p : Party) : (start tbl pre p).nNew = p.nNew :=
  (sameCfg_start tbl pre p).2.1
theorem run_self (tbl : List RSpec) (evs : List Ev) (p : Party) : (run tbl evs p).self = p.self :=
  (sameCfg_run tbl evs p).2.2.2
theorem run_nOld (tbl : List RSpec) (evs : List Ev) (p : Party) : (run tbl evs p).nOld = p.nOld :=
  (sameCfg_run tbl evs p).1
theorem run_nNew (tbl : List RSpec) (evs : List Ev) (p : Party) : (run tbl evs p).nNew = p.nNew :=
  (sameCfg_run tbl evs p).2.1
theorem delivers_self (tbl : List RSpec) (ms : List Msg) (p : Party) : (delivers tbl ms p).self = p.self := by
  rw [delivers_eq_run, run_self]

theorem rest_eq (tbl : List RSpec) (p : Party) :
    rest tbl p = { p with okOld := (rest tbl p).okOld, okNew := (rest tbl p).okNew } := by
  cases hc : cur tbl p with
  | none => rw [rest_of_cur_none hc]
  | some r => rw [rest_of_cur_some hc]; exact scan_eq r p

theorem rest_rnd (tbl : List RSpec) (p : Party) : (rest tbl p).rnd = p.rnd := by rw [rest_eq]
theorem rest_done (tbl : List RSpec) (p : Party) : (rest tbl p).done = p.done := by rw [rest_eq]
theorem rest_store (tbl : List RSpec) (p : Party) : (rest tbl p).store = p.store := by rw [rest_eq]
theorem rest_out (tbl : List RSpec) (p : Party) : (rest tbl p).out = p.out := by rw [rest_eq]
theorem rest_ended (tbl : List RSpec) (p : Party) : (rest tbl p).ended = p.ended := by rw [rest_eq]
theorem rest_self (tbl : List RSpec) (p : Party) : (rest tbl p).self = p.self := by rw [rest_eq]

theorem settleF_of_step_some {p p' : Party} (hs : step tbl p = some p') :
    settleF tbl p = settleF tbl p' := by
  rw [step_loop] at hs; rw [settleF_loop]; exact Loop.settleF_of_step_some frame hs

theorem settleF_of_step_none (hs : step tbl p = none) :
    settleF tbl p = rest tbl p := by
  rw [step_loop] at hs; rw [settleF_loop, rest_loop]; exact Loop.settleF_of_step_none hs

/-- `Loop.Settled ops` in the model's terms -/
def Settled (tbl : List RSpec) (p : Party) : Prop := step tbl p = none ∧ rest tbl p = p

theorem settled_settleF (tbl : List RSpec) (p : Party) : Settled tbl (settleF tbl p) := by
  unfold Settled; rw [step_loop, rest_loop, settleF_loop]; exact Loop.settled_settleF frame tbl p

theorem settled_deliver (tbl : List RSpec) (m : Msg) (p : Party) : Settled tbl (deliver tbl m p) :=
  settled_settleF tbl _

theorem settled_of_not_started (h : p.rnd = 0 ∨ p.done = true) : Settled tbl p :=
  ⟨step_none_of_not_started h, rest_of_not_started h⟩

theorem settled_start_true (h : Settled tbl p) : Settled tbl (start tbl true p) := by
  rcases start_cases tbl true p with e | ⟨r, _, _, ⟨_, e⟩ | ⟨hf, _⟩⟩
  · rw [e]; exact h
  · rw [e]; exact settled_settleF tbl _
  · cases hf

/-- a productive step finds every member of both committees marked or satisfied, and starts the next round or
finishes after the last -/
theorem advance_requires (tbl : List RSpec) (p p' : Party) (hs : step tbl p = some p') :
    ∃ r, tbl[p.rnd - 1]? = some r ∧
      (∀ j, j < p.nOld → p.okOld j = true ∨ (r.final = false ∧ r.needsOld ≠ [] ∧ sat r.needsOld p.store j = true)) ∧
      (∀ j, j < p.nNew → p.okNew j = true ∨ (r.final = false ∧ r.needsNew ≠ [] ∧ sat r.needsNew p.store j = true)) ∧
      ((p'.rnd = p.rnd + 1 ∧ p'.done = false) ∨ (p'.rnd = p.rnd ∧ p'.done = true ∧ p.rnd = tbl.length)) := by
  obtain ⟨r, hc, hcp, _⟩ := step_cases hs
  rw [canProceed_iff] at hcp
  have key : ∀ c j, j < nC p c → okC p c j = true ∨ (r.final = false ∧ cov r p c j) := fun c j hj =>
    ((scan_okC_iff r p c j).mp (hcp c j (by rw [scan_nC]; exact hj))).imp id fun h => ⟨h.1, h.2.2⟩
  refine ⟨r, (cur_eq_some.mp hc).2.2, fun j hj => ?_, fun j hj => ?_, Loop.step_rnd_done frame (step_loop tbl ▸ hs)⟩
  · exact (key false j hj).elim Or.inl fun h => h.2.elim Or.inl fun h' => Or.inr ⟨h.1, h'⟩
  · exact (key true j hj).elim Or.inl fun h => h.2.elim Or.inl fun h' => Or.inr ⟨h.1, h'⟩

end TssVerif.E2L
