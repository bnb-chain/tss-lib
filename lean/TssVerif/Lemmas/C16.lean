import TssVerif.Core.Commit
/-! Encodings and framing of `common/hash.go` and `crypto/commitments`: `le64` and `big.Int.Bytes()` are
injective, the framed hash input determines its elements, `Int64()` on in-range lengths, and the parts
parser against the parts builder. Core Lean only. -/
namespace TssVerif.C16L
open TssVerif

theorem le64_length (n : Nat) : (le64 n).length = 8 := by
  simp [le64]

theorem ofNat_mod_inj {x y : Nat} (h : UInt8.ofNat (x % 256) = UInt8.ofNat (y % 256)) :
    x % 256 = y % 256 := by
  have := congrArg UInt8.toNat h
  simp only [UInt8.toNat_ofNat'] at this
  omega

theorem mod_pow_eq_of_digits (a b : Nat) : ∀ k : Nat,
    (∀ i, i < k → a / 256 ^ i % 256 = b / 256 ^ i % 256) → a % 256 ^ k = b % 256 ^ k
  | 0, _ => by rw [Nat.pow_zero, Nat.mod_one, Nat.mod_one]
  | k + 1, h => by
    rw [Nat.mod_pow_succ, Nat.mod_pow_succ, h k (Nat.lt_succ_self k),
      mod_pow_eq_of_digits a b k fun i hi => h i (Nat.lt_succ_of_lt hi)]

theorem le64_inj {a b : Nat} (ha : a < 2 ^ 64) (hb : b < 2 ^ 64) (h : le64 a = le64 b) : a = b := by
  have hd := mod_pow_eq_of_digits a b 8 fun i hi =>
    ofNat_mod_inj (List.map_inj_left.1 h i (List.mem_range.2 hi))
  have e : (256 : Nat) ^ 8 = 2 ^ 64 := by decide
  rwa [e, Nat.mod_eq_of_lt ha, Nat.mod_eq_of_lt hb] at hd

theorem foldr_natToBytesLE (n : Nat) :
    (natToBytesLE n).foldr (fun x acc => acc * 256 + x.toNat) 0 = n := by
  induction n using Nat.strongRecOn with
  | _ n ih =>
    rw [natToBytesLE]
    split
    · next h => simp [h]
    · next h =>
      rw [List.foldr_cons, ih (n / 256) (by omega), UInt8.toNat_ofNat']
      omega

theorem bytesToNat_natToBytesBE (n : Nat) : bytesToNat (natToBytesBE n) = n := by
  unfold bytesToNat natToBytesBE
  rw [List.foldl_reverse]
  exact foldr_natToBytesLE n

theorem natToBytesBE_inj {n m : Nat} (h : natToBytesBE n = natToBytesBE m) : n = m := by
  have := congrArg bytesToNat h
  rwa [bytesToNat_natToBytesBE, bytesToNat_natToBytesBE] at this

theorem intToBytesBE_natCast (n : Nat) : intToBytesBE (n : Int) = natToBytesBE n := by
  simp [intToBytesBE]

theorem map_intToBytesBE_natCast (ns : List Nat) :
    (ns.map fun (n : Nat) => intToBytesBE (n : Int)) = ns.map natToBytesBE := by
  simp [intToBytesBE_natCast]

theorem map_map_intToBytesBE_natCast (ns : List Nat) :
    ((ns.map fun (n : Nat) => (n : Int)).map intToBytesBE) = ns.map natToBytesBE := by
  simp [List.map_map, Function.comp_def, intToBytesBE_natCast]

/-- every element is shorter than `2^64` bytes, so that `le64` of its length loses nothing -/
def Short (xs : List Bytes) : Prop := ∀ x ∈ xs, x.length < 2 ^ 64

/-- the framed elements without the count prefix -/
def body (xs : List Bytes) : Bytes := (xs.map frameElem).flatten

theorem frame_eq (xs : List Bytes) : frame xs = le64 xs.length ++ body xs := rfl

theorem body_nil : body [] = [] := rfl

theorem body_concat (xs : List Bytes) (x : Bytes) : body (xs ++ [x]) = body xs ++ frameElem x := by
  simp [body]

theorem frameElem_length (x : Bytes) : (frameElem x).length = x.length + 9 := by
  simp [frameElem, le64_length]

/-- the last element can be split off unambiguously: its length is a suffix -/
theorem append_frameElem_inj {A B x y : Bytes} (hx : x.length < 2 ^ 64) (hy : y.length < 2 ^ 64)
    (h : A ++ frameElem x = B ++ frameElem y) : A = B ∧ x = y := by
  unfold frameElem at h
  simp only [← List.append_assoc] at h
  obtain ⟨h1, h2⟩ := List.append_inj' h (by rw [le64_length, le64_length])
  have hl : x.length = y.length := le64_inj hx hy h2
  obtain ⟨h3, _⟩ := List.append_inj' h1 rfl
  exact List.append_inj' h3 hl

theorem body_concat_ne_nil (xs : List Bytes) (x : Bytes) : body (xs ++ [x]) ≠ body [] := fun h => by
  have := congrArg List.length h
  simp [body_concat, body_nil, frameElem_length] at this

/-- decoding runs from the end (the length is a suffix of each element), so the lists are compared reversed -/
theorem body_reverse_inj (rx : List Bytes) : ∀ (ry : List Bytes), Short rx → Short ry →
    body rx.reverse = body ry.reverse → rx = ry := by
  induction rx with
  | nil =>
    intro ry _ _ h
    cases ry with
    | nil => rfl
    | cons y ry => exact absurd h.symm (List.reverse_cons ▸ body_concat_ne_nil _ _)
  | cons x rx ih =>
    intro ry hx hy h
    cases ry with
    | nil => exact absurd h (List.reverse_cons ▸ body_concat_ne_nil _ _)
    | cons y ry =>
      rw [List.reverse_cons, body_concat, List.reverse_cons, body_concat] at h
      obtain ⟨h1, h2⟩ := append_frameElem_inj (hx x (by simp)) (hy y (by simp)) h
      have := ih ry (fun z hz => hx z (by simp [hz])) (fun z hz => hy z (by simp [hz])) h1
      rw [this, h2]

theorem body_inj {xs ys : List Bytes} (hx : Short xs) (hy : Short ys) (h : body xs = body ys) :
    xs = ys := by
  have := body_reverse_inj xs.reverse ys.reverse
    (fun z hz => hx z (by simpa using hz)) (fun z hz => hy z (by simpa using hz))
    (by simpa using h)
  simpa using this

theorem frame_inj {xs ys : List Bytes} (hx : Short xs) (hy : Short ys) (h : frame xs = frame ys) :
    xs = ys := by
  rw [frame_eq, frame_eq] at h
  exact body_inj hx hy (List.append_inj h (by rw [le64_length, le64_length])).2

theorem frame_natBytes_inj {ns ms : List Nat}
    (hn : Short (ns.map natToBytesBE)) (hm : Short (ms.map natToBytesBE))
    (h : frame (ns.map natToBytesBE) = frame (ms.map natToBytesBE)) : ns = ms :=
  (List.map_inj_right (fun _ _ => natToBytesBE_inj)).1 (frame_inj hn hm h)

theorem goInt64_of_range {z : Int} (h1 : -(2 ^ 63 : Int) ≤ z) (h2 : z < (2 ^ 63 : Int)) :
    goInt64 z = z := by
  unfold goInt64
  simp only
  split <;> split <;> omega

/-- any configuration that refuses negative lengths (`rejectNegative`, the tree as it is) never reaches the
slice with a negative bound: `0 ≤ nextLen` is the invariant of the loop -/
theorem parseLoop_cur_no_panic (cfg : ParseCfg) (hc : cfg.rejectNegative = true) (s : List Int)
    (t : String) : ∀ (fuel el : Nat) (isLenEl : Bool) (nextLen : Int) (parts : List (List Int)),
    0 ≤ nextLen → parseLoop cfg s fuel el isLenEl nextLen parts ≠ .panic t := by
  intro fuel
  induction fuel with
  | zero => intro el isLenEl nextLen parts _; simp [parseLoop]
  | succ fuel ih =>
    intro el isLenEl nextLen parts hn
    unfold parseLoop
    split
    · split
      · simp only [hc, Bool.true_and]
        split
        · simp
        · next hneg =>
          split
          · simp
          · apply ih
            simp only [Bool.or_eq_true, decide_eq_true_eq, not_or, Int.not_lt] at hneg
            exact hneg.2
      · split
        · simp
        · split
          · simp
          · split
            · omega
            · exact ih _ _ _ _ hn
    · split
      · split
        · split <;> simp
        · simp
      · simp

/-- what `builder.Secrets()` produces: each part behind its length -/
def pack (parts : List (List Int)) : List Int := parts.flatMap fun p => (p.length : Int) :: p

theorem pack_cons (p : List Int) (rest : List (List Int)) :
    pack (p :: rest) = (p.length : Int) :: (p ++ pack rest) := by
  simp [pack]

theorem pack_length_ge (parts : List (List Int)) : parts.length ≤ (pack parts).length := by
  induction parts with
  | nil => simp [pack]
  | cons p rest ih => rw [pack_cons]; simp; omega

theorem parseLoop_len_step (s : List Int) (fuel el n : Nat) (nl : Int) (acc : List (List Int))
    (hel : el < s.length) (hv : s.getD el 0 = (n : Int)) (hn : n ≤ maxPartSize) :
    parseLoop ⟨true, true⟩ s (fuel + 1) el true nl acc = parseLoop ⟨true, true⟩ s fuel (el + 1) false n acc := by
  have hgo : goInt64 (n : Int) = (n : Int) :=
    goInt64_of_range (by omega) (by unfold maxPartSize at hn; omega)
  have hrej : ¬ ((n : Int) < -(2 ^ 63 : Int) ∨ (n : Int) ≥ (2 ^ 63 : Int) ∨ (n : Int) < 0) := by
    unfold maxPartSize at hn; omega
  rw [parseLoop]
  simp only [hel, if_true, hv, hgo, Bool.true_and, Bool.or_eq_true, decide_eq_true_eq]
  rw [if_neg (by simpa [or_assoc] using hrej), if_neg (by omega)]

theorem parseLoop_data_step (s : List Int) (fuel el n : Nat) (acc : List (List Int))
    (hel : el < s.length) (hcap : acc.length < partsCap) (hfit : el + n ≤ s.length) :
    parseLoop ⟨true, true⟩ s (fuel + 1) el false n acc =
      parseLoop ⟨true, true⟩ s fuel (el + n) true n (((s.drop el).take n) :: acc) := by
  rw [parseLoop]
  simp only [hel, if_true, Bool.false_eq_true, if_false]
  rw [if_neg (by omega), if_neg (by omega), if_neg (by omega), Int.toNat_natCast]

theorem parseLoop_end_empty (s : List Int) (fuel el : Nat) (acc : List (List Int))
    (hel : ¬ el < s.length) (hcap : acc.length < partsCap) :
    parseLoop ⟨true, true⟩ s (fuel + 1) el false 0 acc = .ok (([] : List Int) :: acc).reverse := by
  rw [parseLoop]
  simp [hel, Nat.not_le.2 hcap]

theorem parseLoop_pack (s : List Int) : ∀ (rest : List (List Int)) (fuel el : Nat) (nl : Int)
    (acc : List (List Int)),
    s.drop el = pack rest → el ≤ s.length → (∀ p ∈ rest, p.length ≤ maxPartSize) →
    acc.length + rest.length ≤ partsCap → 2 * rest.length + 1 ≤ fuel →
    parseLoop ⟨true, true⟩ s fuel el true nl acc = .ok (acc.reverse ++ rest) := by
  intro rest
  induction rest with
  | nil =>
    intro fuel el nl acc hs hel _ _ _
    have hlen : ¬ el < s.length := by
      have := congrArg List.length hs
      simp [pack] at this
      omega
    cases fuel with
    | zero => simp [parseLoop]
    | succ fuel => simp [parseLoop, hlen]
  | cons p rest ih =>
    intro fuel el nl acc hs hel hsz hcap hfuel
    rw [pack_cons] at hs
    rw [List.length_cons] at hcap hfuel
    have hlenS : s.length - el = 1 + (p.length + (pack rest).length) := by
      have := congrArg List.length hs
      simp at this
      omega
    have hget : s.getD el 0 = (p.length : Int) := by
      have h0 := congrArg (fun l => l[0]?) hs
      simp only [List.getElem?_drop, List.getElem?_cons_zero, Nat.add_zero] at h0
      rw [List.getD_eq_getElem?_getD, h0]; rfl
    have hdrop1 : s.drop (el + 1) = p ++ pack rest := by
      have := congrArg (List.drop 1) hs
      simpa [List.drop_drop, Nat.add_comm] using this
    obtain ⟨fuel, rfl⟩ : ∃ f, fuel = f + 2 := ⟨fuel - 2, by omega⟩
    rw [parseLoop_len_step s (fuel + 1) el p.length nl acc (by omega) hget (hsz p (by simp))]
    by_cases hlast : el + 1 < s.length
    · rw [parseLoop_data_step s fuel (el + 1) p.length acc hlast (by omega) (by omega), hdrop1,
        List.take_left' rfl, ih fuel (el + 1 + p.length) (p.length : Int) (p :: acc)]
      · simp
      · have := congrArg (List.drop p.length) hdrop1
        simpa [List.drop_drop, Nat.add_comm, Nat.add_left_comm] using this
      · omega
      · intro q hq; exact hsz q (by simp [hq])
      · rw [List.length_cons]; omega
      · omega
    · -- the input ends on the length element `0` of a last, empty, part
      have hpn : p = [] := List.eq_nil_of_length_eq_zero (by omega)
      have hrest : rest = [] := by
        have := pack_length_ge rest
        exact List.eq_nil_of_length_eq_zero (by omega)
      subst hrest hpn
      simpa using parseLoop_end_empty s fuel (el + 1) acc hlast (by omega)

theorem builderSecrets_ok (parts : List (List Int)) (h1 : parts.length ≤ partsCap)
    (h2 : ∀ p ∈ parts, p.length ≤ maxPartSize) : builderSecrets parts = .ok (pack parts) := by
  unfold builderSecrets
  rw [if_neg (by omega)]
  have : parts.find? (fun p => maxPartSize < p.length) = none := by
    rw [List.find?_eq_none]
    intro p hp; have := h2 p hp; simp; omega
  rw [this]; rfl

theorem pack_length (parts : List (List Int)) :
    (pack parts).length = (parts.map fun p => p.length + 1).sum := by
  induction parts with
  | nil => rfl
  | cons p rest ih => rw [pack_cons]; simp [ih]; omega

/-- `h3`: the parser refuses fewer than two elements before it looks at them; the fuel `2·len + 2` of
`parseSecretsCfg` covers the two turns per part that `parseLoop_pack` needs -/
theorem builder_roundtrip_aux (parts : List (List Int)) (h1 : parts.length ≤ partsCap)
    (h2 : ∀ p ∈ parts, p.length ≤ maxPartSize) (h3 : 2 ≤ (parts.map fun p => p.length + 1).sum) :
    ∃ s, builderSecrets parts = .ok s ∧ parseSecretsCfg ⟨true, true⟩ s = .ok parts := by
  refine ⟨pack parts, builderSecrets_ok parts h1 h2, ?_⟩
  unfold parseSecretsCfg
  rw [if_neg (by rw [pack_length]; omega)]
  rw [parseLoop_pack (pack parts) parts _ 0 0 [] rfl (Nat.zero_le _) h2 (by simpa using h1)]
  · rfl
  · have := pack_length_ge parts; omega

theorem parse_rejects_bad_first (v : Int) (rest : List Int) (hr : rest ≠ [])
    (hv : v < 0 ∨ (maxPartSize : Int) < v) :
    ∃ t, parseSecretsCfg ⟨true, true⟩ (v :: rest) = .err t := by
  have hlen : ¬ (v :: rest).length < 2 := by
    cases rest with
    | nil => exact absurd rfl hr
    | cons a r => simp
  unfold parseSecretsCfg
  rw [if_neg hlen]
  rw [show 2 * (v :: rest).length + 2 = (2 * (v :: rest).length + 1) + 1 from rfl, parseLoop]
  simp only [List.length_cons, Nat.zero_lt_succ, if_true, List.getD_cons_zero, Bool.true_and]
  split
  · exact ⟨_, rfl⟩
  · next hneg =>
    simp only [Bool.or_eq_true, decide_eq_true_eq, not_or, Int.not_lt, ge_iff_le, Int.not_le] at hneg
    obtain ⟨⟨ha, hb⟩, hc⟩ := hneg
    rw [goInt64_of_range ha hb] at hc ⊢
    rw [if_pos (by omega)]
    exact ⟨_, rfl⟩

theorem commitVerify_ok_true (H : HashFn) (c : Nat) (d : List Int)
    (h : commitVerifyWith H c d = .ok true) :
    bytesToNat (H (frame (d.map intToBytesBE))) = c := by
  unfold commitVerifyWith sha512_256iWith at h
  by_cases he : d.isEmpty = true
  · simp [he] at h
  · simpa [he] using h

end TssVerif.C16L
