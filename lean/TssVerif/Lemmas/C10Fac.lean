import TssVerif.Lemmas.C10Num
import TssVerif.Lemmas.ZkVerify
/-! Completeness of the no-small-factor proof (`crypto/facproof`): an honest `NewProof` is accepted by
`Verify` under the two interval side conditions on the coins (`FacGood`), for every hash, every group order
`q`, every `s`, and every `t` that is a unit modulo `NCap` (the prover's `v` may be negative, so the third
verification equation goes through Go's negative-exponent `Exp`, i.e. a modular inverse of `t`).
The file holds the verifier on natural-number inputs (`facVerify_eq_true`), the prover's output in closed form
(`facProve_eq`), `FacGood` and its necessity, and a toy run with negative `v`. -/
set_option autoImplicit false
namespace TssVerif.C10L
open TssVerif Zk

/-- `facVerify` on a proof whose fields are natural numbers (only `v` may be negative) and that satisfies the
two interval checks and the three verification congruences; the third one is stated with `v` split as a
difference of naturals, `t^a` moved to the right-hand side. -/
theorem facVerify_eq_true (H : HashFn) (q : Nat) (sess : Bytes) (n0 ncap s t : Nat)
    (P Q A B T sigma z1 z2 w1 w2 : Nat) (v : Int) (e a b : Nat)
    (hn0pos : 0 < n0) (hncap : 0 < ncap) (ht : Nat.Coprime t ncap)
    (he : e = facChallenge H q sess n0 ncap s t ⟨P, Q, A, B, T, sigma, z1, z2, w1, w2, v⟩)
    (hz1 : z1 < q * q * q * isqrt n0) (hz2 : z2 < q * q * q * isqrt n0)
    (h1 : s ^ z1 * t ^ w1 ≡ A * P ^ e [MOD ncap])
    (h2 : s ^ z2 * t ^ w2 ≡ B * Q ^ e [MOD ncap])
    (hv : v = (b : Int) - (a : Int))
    (h3 : Q ^ z1 * t ^ b ≡ T * (s ^ n0 * t ^ sigma) ^ e * t ^ a [MOD ncap]) :
    facVerify cur H q sess n0 ncap s t ⟨P, Q, A, B, T, sigma, z1, z2, w1, w2, v⟩ = .ok true := by
  have hm : ncap ≠ 0 := Nat.pos_iff_ne_zero.1 hncap
  obtain ⟨zE, hzE, hzEs⟩ := expP_int_unit hm ht v
  -- the three equations, on the reduced values the verifier computes
  have e1 : s ^ z1 % ncap * (t ^ w1 % ncap) % ncap = A * (P ^ e % ncap) % ncap :=
    ((Nat.mod_modEq _ _).mul (Nat.mod_modEq _ _)).trans
      (h1.trans ((Nat.mod_modEq _ _).symm.mul_left A))
  have e2 : s ^ z2 % ncap * (t ^ w2 % ncap) % ncap = B * (Q ^ e % ncap) % ncap :=
    ((Nat.mod_modEq _ _).mul (Nat.mod_modEq _ _)).trans
      (h2.trans ((Nat.mod_modEq _ _).symm.mul_left B))
  have e3 : Q ^ z1 % ncap * zE % ncap =
      T * ((s ^ n0 % ncap * (t ^ sigma % ncap) % ncap) ^ e % ncap) % ncap := by
    have hR : s ^ n0 % ncap * (t ^ sigma % ncap) % ncap ≡ s ^ n0 * t ^ sigma [MOD ncap] :=
      mod_mul_mod_modEq _ _ _
    have hc : Q ^ z1 * zE * t ^ a ≡ T * (s ^ n0 * t ^ sigma) ^ e * t ^ a [MOD ncap] := by
      have : Q ^ z1 * zE * t ^ a = Q ^ z1 * (t ^ a * zE) := by ring
      rw [this]
      exact ((hzEs a b hv).mul_left _).trans h3
    have hc' : Q ^ z1 * zE ≡ T * (s ^ n0 * t ^ sigma) ^ e [MOD ncap] :=
      Nat.ModEq.cancel_right_of_coprime (Nat.Coprime.symm (ht.pow_left a)) hc
    exact ((Nat.mod_modEq _ _).mul_right zE).trans
      (hc'.trans (((Nat.mod_modEq _ _).trans (hR.pow e)).symm.mul_left T))
  have x := fun (b k : Nat) => expP_eq_ok.1 (expP_nat b k hm)
  rw [facVerify_eq_true_iff]
  dsimp only
  simp only [← he, Int.natAbs_natCast, Int.toNat_natCast, Nat.cast_nonneg, true_and, Nat.cast_lt, Nat.cast_pos,
    Nat.cast_eq_zero, mulI_nat]
  exact ⟨hn0pos, hncap, hz1, hz2, hm, _, x s z1, _, x t w1, _, x P e, e1, _, x s z2, _, x t w2, _, x Q e, e2,
    _, x s n0, _, x t sigma, _, x Q z1, zE, expP_eq_ok.1 hzE, _, x _ e, e3⟩

/-- the challenge `e` of `facproof.NewProof`, computed exactly as `facProve` does (the responses `z1 … v` are
not hashed, so they are left at `0` in the proof handed to `facChallenge`) -/
def facE (H : HashFn) (q : Nat) (sess : Bytes) (n0 ncap s t n0p n0q : Nat) (k : FacCoins) : Nat :=
  let e1 (b : Nat) (x : Nat) := modPow b x ncap
  let P := e1 s n0p * e1 t k.mu % ncap
  let Q := e1 s n0q * e1 t k.nu % ncap
  let A := e1 s k.alpha * e1 t k.x % ncap
  let B := e1 s k.beta * e1 t k.y % ncap
  let T := e1 Q k.alpha * e1 t k.r % ncap
  let pf0 : FacProof := ⟨P, Q, A, B, T, k.sigma, 0, 0, 0, 0, 0⟩
  facChallenge H q sess n0 ncap s t pf0

/-- side conditions on the coins of `facproof.NewProof`: the two responses `z1 = e·p + α`, `z2 = e·q + β` pass the
verifier's range check `< q³·⌊√N0⌋` (every other guard of `Verify` follows from the hypotheses of
`fac_complete_aux`; in particular nothing is required of the sign of `v`) -/
def FacGood (H : HashFn) (q : Nat) (sess : Bytes) (n0 ncap s t n0p n0q : Nat) (k : FacCoins) : Prop :=
  facE H q sess n0 ncap s t n0p n0q k * n0p + k.alpha < q * q * q * isqrt n0 ∧
  facE H q sess n0 ncap s t n0p n0q k * n0q + k.beta < q * q * q * isqrt n0

instance (H : HashFn) (q : Nat) (sess : Bytes) (n0 ncap s t n0p n0q : Nat) (k : FacCoins) :
    Decidable (FacGood H q sess n0 ncap s t n0p n0q k) := by
  unfold FacGood; infer_instance

/-- the challenge does not depend on the response fields -/
theorem facChallenge_resp (H : HashFn) (q : Nat) (sess : Bytes) (n0 ncap s t : Int)
    (P Q A B T sigma z1 z2 w1 w2 v : Int) :
    facChallenge H q sess n0 ncap s t ⟨P, Q, A, B, T, sigma, z1, z2, w1, w2, v⟩ =
      facChallenge H q sess n0 ncap s t ⟨P, Q, A, B, T, sigma, 0, 0, 0, 0, 0⟩ := rfl

/-- the prover never fails, and its output in closed form -/
theorem facProve_eq (H : HashFn) (q : Nat) (sess : Bytes) (n0 ncap s t n0p n0q : Nat) (k : FacCoins) :
    facProve H q sess n0 ncap s t n0p n0q k = .ok
      ⟨((s ^ n0p % ncap * (t ^ k.mu % ncap) % ncap : Nat) : Int),
       ((s ^ n0q % ncap * (t ^ k.nu % ncap) % ncap : Nat) : Int),
       ((s ^ k.alpha % ncap * (t ^ k.x % ncap) % ncap : Nat) : Int),
       ((s ^ k.beta % ncap * (t ^ k.y % ncap) % ncap : Nat) : Int),
       (((s ^ n0q % ncap * (t ^ k.nu % ncap) % ncap) ^ k.alpha % ncap * (t ^ k.r % ncap) % ncap : Nat) : Int),
       (k.sigma : Int),
       ((facE H q sess n0 ncap s t n0p n0q k * n0p + k.alpha : Nat) : Int),
       ((facE H q sess n0 ncap s t n0p n0q k * n0q + k.beta : Nat) : Int),
       ((facE H q sess n0 ncap s t n0p n0q k * k.mu + k.x : Nat) : Int),
       ((facE H q sess n0 ncap s t n0p n0q k * k.nu + k.y : Nat) : Int),
       (facE H q sess n0 ncap s t n0p n0q k : Int) * ((k.sigma : Int) - (k.nu : Int) * (n0p : Int)) + (k.r : Int)⟩ := by
  unfold facProve facE
  simp only [modPow_spec]
  push_cast
  rfl

/-- Completeness of `facproof`: `Verify` accepts what `NewProof` produces, for every hash and all coins passing
the range checks, provided `N0 = p·q > 0`, `NCap > 0` and `t` is a unit modulo `NCap`. The last hypothesis is
needed because `v = e(σ − ν p) + r` can be negative (it is `−32` on the toy instance below) and `t^v` is then computed through
`ModInverse(t, NCap)`, which is `nil` (a crash when used) for a non-unit. -/
theorem fac_complete_aux (H : HashFn) (q : Nat) (sess : Bytes) (n0 ncap s t n0p n0q : Nat) (k : FacCoins)
    (hn0 : n0 = n0p * n0q) (hn0pos : 0 < n0) (hncap : 0 < ncap) (ht : Nat.Coprime t ncap)
    (hg : FacGood H q sess n0 ncap s t n0p n0q k) :
    (facProve H q sess n0 ncap s t n0p n0q k >>= fun pf => facVerify cur H q sess n0 ncap s t pf) = .ok true := by
  obtain ⟨hz1, hz2⟩ := hg
  rw [facProve_eq, Outcome.ok_bind]
  set e := facE H q sess n0 ncap s t n0p n0q k with hedef
  -- the prover's commitments modulo `ncap`
  have hP := mod_mul_mod_modEq (s ^ n0p) (t ^ k.mu) ncap
  have hQ := mod_mul_mod_modEq (s ^ n0q) (t ^ k.nu) ncap
  have hA := mod_mul_mod_modEq (s ^ k.alpha) (t ^ k.x) ncap
  have hB := mod_mul_mod_modEq (s ^ k.beta) (t ^ k.y) ncap
  set Q := s ^ n0q % ncap * (t ^ k.nu % ncap) % ncap with hQdef
  have hT := mod_mul_mod_modEq (Q ^ k.alpha) (t ^ k.r) ncap
  refine facVerify_eq_true H q sess n0 ncap s t _ _ _ _ _ _ _ _ _ _ _ e
    (e * k.nu * n0p) (e * k.sigma + k.r) hn0pos hncap ht ?_ hz1 hz2 ?_ ?_ ?_ ?_
  · -- the verifier recomputes the prover's challenge
    rw [facChallenge_resp, hedef]
    unfold facE
    simp only [modPow_spec]
    push_cast
    rfl
  · -- s^z1 t^w1 = A P^e
    exact (ped_response_modEq e hP hA).trans (by rw [Nat.mul_comm])
  · -- s^z2 t^w2 = B Q^e
    exact (ped_response_modEq e hQ hB).trans (by rw [Nat.mul_comm])
  · push_cast; ring
  · -- Q^z1 t^(eσ + r) = T R^e t^(eνp), using Q^p = s^N0 t^(νp)
    subst hn0
    have l : Q ^ (e * n0p + k.alpha) * t ^ (e * k.sigma + k.r) =
        Q ^ (e * n0p) * (Q ^ k.alpha * t ^ (e * k.sigma + k.r)) := by ring
    have r : (s ^ n0q * t ^ k.nu) ^ (e * n0p) * (Q ^ k.alpha * t ^ (e * k.sigma + k.r)) =
        Q ^ k.alpha * t ^ k.r * (s ^ (n0p * n0q) * t ^ k.sigma) ^ e * t ^ (e * k.nu * n0p) := by ring
    rw [l]
    refine ((hQ.pow (e * n0p)).mul_right _).trans ?_
    rw [r]
    exact (hT.symm.mul_right _).mul_right _

/-- Converse of `fac_complete_aux`, without any hypothesis: whenever the verifier accepts the honest prover's
output, the coins satisfy `FacGood`. So `FacGood` is exactly the set of coins on which (under the hypotheses of
`fac_complete_aux`) an honest proof is accepted. -/
theorem fac_good_of_accept (H : HashFn) (q : Nat) (sess : Bytes) (n0 ncap s t n0p n0q : Nat) (k : FacCoins)
    (h : (facProve H q sess n0 ncap s t n0p n0q k >>= fun pf => facVerify cur H q sess n0 ncap s t pf) = .ok true) :
    FacGood H q sess n0 ncap s t n0p n0q k := by
  rw [facProve_eq, Outcome.ok_bind] at h
  obtain ⟨-, -, g1, g2, -⟩ := (facVerify_eq_true_iff H q sess _ _ _ _ _).1 h
  dsimp only at g1 g2
  rw [Int.toNat_natCast] at g1 g2
  exact ⟨by exact_mod_cast g1.2, by exact_mod_cast g2.2⟩

/-! ### the hypotheses are satisfiable

`q = 11`, `N0 = 15 = 3·5` (so the range bound is `11³·⌊√15⌋ = 3993`), `NCap = 35`, `s = 2`, `t = 3`, a constant
hash (challenge `e = 3`), coins `α = 1, β = 2, μ = 1, ν = 4, σ = 1, r = 1, x = 1, y = 1`. Here
`v = 3·(1 − 4·3) + 1 = −32 < 0`, so the verifier computes `t^v` through `ModInverse(3, 35)`. -/

/-- all hypotheses of `fac_complete_aux`, including `FacGood`, hold on the tiny instance -/
example :
    (facProve (fun _ => [3]) 11 [] 15 35 2 3 3 5 ⟨1, 2, 1, 4, 1, 1, 1, 1⟩ >>= fun pf =>
      facVerify cur (fun _ => [3]) 11 [] 15 35 2 3 pf) = .ok true :=
  fac_complete_aux (fun _ => [3]) 11 [] 15 35 2 3 3 5 ⟨1, 2, 1, 4, 1, 1, 1, 1⟩
    (by decide) (by decide) (by decide) (by decide) (by decide)

/-- the prover's `v` is negative on that instance -/
example : (facProve (fun _ => [3]) 11 [] 15 35 2 3 3 5 ⟨1, 2, 1, 4, 1, 1, 1, 1⟩ >>= fun pf => pure pf.v)
    = .ok (-32) := by decide

/-- the model itself, run on that instance, accepts (independent of the theorem) -/
example :
    (facProve (fun _ => [3]) 11 [] 15 35 2 3 3 5 ⟨1, 2, 1, 4, 1, 1, 1, 1⟩ >>= fun pf =>
      facVerify cur (fun _ => [3]) 11 [] 15 35 2 3 pf) = .ok true := by decide

/-- `ht` cannot be dropped: same instance with `t = 5` (not a unit modulo `35`); `v = −32 < 0` and the verifier
crashes on the nil result of `Exp(t, v, NCap)` -/
example :
    (facProve (fun _ => [3]) 11 [] 15 35 2 5 3 5 ⟨1, 2, 1, 4, 1, 1, 1, 1⟩ >>= fun pf =>
      facVerify cur (fun _ => [3]) 11 [] 15 35 2 5 pf) = .panic "nil-exp" := by decide

/-- a coin outside `FacGood` (`α = 3990`, so `z1 = 3·3 + 3990 = 3999 ≥ 3993`): the honest proof is rejected -/
example : ¬ FacGood (fun _ => [3]) 11 [] 15 35 2 3 3 5 ⟨3990, 2, 1, 4, 1, 1, 1, 1⟩ := by decide

example :
    (facProve (fun _ => [3]) 11 [] 15 35 2 3 3 5 ⟨3990, 2, 1, 4, 1, 1, 1, 1⟩ >>= fun pf =>
      facVerify cur (fun _ => [3]) 11 [] 15 35 2 3 pf) = .ok false := by decide

end TssVerif.C10L
