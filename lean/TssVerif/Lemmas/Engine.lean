import TssVerif.Core.Engine
import TssVerif.Lemmas.Loop
import TssVerif.Lemmas.Slots
/-! Helper lemmas about the round engine `TssVerif/Core/Engine.lean` (core Lean only): the engine as an instance
of the abstract loop of `Lemmas/Loop.lean`, the scan, canonical emissions, events and runs, the fixpoint. -/
set_option autoImplicit false
namespace TssVerif.EngineL
open TssVerif.Engine

variable {tbl : List RoundSpec} {p : Party} {r : RoundSpec}

@[reducible] def ops : Loop.Ops RoundSpec Party Msg :=
  { rnd := Party.rnd, done := Party.done, self := Party.self, scan := scan, canProceed := canProceed,
    startRound := startRound, finish := fun p => { p with done := true }, storeMsg := storeMsg }

abbrev cur (tbl : List RoundSpec) (p : Party) : Option RoundSpec := Loop.cur ops tbl p

abbrev advance (tbl : List RoundSpec) (k : Nat) (q : Party) : Party := Loop.advance ops tbl k q

/-- `Loop.settleF ops` in the model's terms (`settleF_loop`) -/
def settleF (tbl : List RoundSpec) (p : Party) : Party := settle tbl (tbl.length + 1) p

theorem step_loop (tbl : List RoundSpec) : step tbl = Loop.step ops tbl := by
  funext p
  unfold step Loop.step
  cases tbl[p.rnd - 1]? with
  | none => rfl
  | some r => cases tbl[p.rnd]? <;> rfl

theorem rest_loop (tbl : List RoundSpec) : rest tbl = Loop.rest ops tbl := by
  funext p
  unfold rest Loop.rest
  cases tbl[p.rnd - 1]? <;> rfl

theorem settle_loop (tbl : List RoundSpec) : settle tbl = Loop.settle ops tbl := by
  funext fuel
  induction fuel with
  | zero => funext p; exact congrFun (rest_loop tbl) p
  | succ k ih =>
    funext p
    simp only [settle, Loop.settle, step_loop, rest_loop, ih]
    cases Loop.step ops tbl p <;> rfl

theorem settleF_loop (tbl : List RoundSpec) : settleF tbl = Loop.settleF ops tbl := by
  funext p; unfold settleF Loop.settleF; rw [settle_loop]

theorem deliver_eq (tbl : List RoundSpec) (m : Msg) (p : Party) : deliver tbl m p = settleF tbl (storeMsg m p) := rfl

theorem deliver_loop (tbl : List RoundSpec) : deliver tbl = Loop.deliver ops tbl := by
  funext m p; rw [deliver_eq, settleF_loop]; rfl

theorem start_loop (tbl : List RoundSpec) : start tbl = Loop.start ops tbl true := by
  funext p
  unfold start startOld Loop.start
  rw [← settleF_loop]
  by_cases h0 : p.rnd = 0
  · have h0' : ¬ ops.rnd p ≠ 0 := fun h => h h0
    rw [if_pos h0, if_neg h0']
    cases tbl[0]? with
    | some r => simp only [if_pos h0, if_true]; rfl
    | none =>
      show settleF tbl p = p
      rw [settleF_loop]
      exact Loop.settleF_of_settled (Loop.settled_of_not_started (Or.inl h0))
  · have h0' : ops.rnd p ≠ 0 := h0
    rw [if_neg h0, if_pos h0']

section cur
variable {tbl : List RoundSpec} {p p' : Party} {r : RoundSpec}

theorem cur_eq_some : cur tbl p = some r ↔ p.rnd ≠ 0 ∧ p.done = false ∧ tbl[p.rnd - 1]? = some r := Loop.cur_eq_some

theorem mem_of_cur (h : cur tbl p = some r) : r ∈ tbl := List.mem_of_getElem? (cur_eq_some.mp h).2.2

theorem cur_of_not_started (h : p.rnd = 0 ∨ p.done = true) : cur tbl p = none := Loop.cur_of_not_started h

theorem rest_of_cur_none (h : cur tbl p = none) : rest tbl p = p := by rw [rest_loop]; exact Loop.rest_of_cur_none h

theorem rest_of_cur_some (h : cur tbl p = some r) : rest tbl p = scan r p := by
  rw [rest_loop]; exact Loop.rest_of_cur_some h

theorem step_of_cur_none (h : cur tbl p = none) : step tbl p = none := by rw [step_loop]; exact Loop.step_of_cur_none h

theorem step_of_cur_some (h : cur tbl p = some r) :
    step tbl p = if canProceed (scan r p) then some (advance tbl p.rnd (scan r p)) else none := by
  rw [step_loop]; exact Loop.step_of_cur_some h

theorem step_none_iff (h : cur tbl p = some r) : step tbl p = none ↔ canProceed (scan r p) = false := by
  rw [step_loop]; exact Loop.step_none_iff h

theorem step_cases (hs : step tbl p = some p') :
    ∃ r, cur tbl p = some r ∧ canProceed (scan r p) = true ∧ p' = advance tbl p.rnd (scan r p) := by
  rw [step_loop] at hs; exact Loop.step_cases hs

theorem advance_of_some {k : Nat} {q : Party} {r' : RoundSpec} (h : tbl[k]? = some r') :
    advance tbl k q = startRound r' k q := Loop.advance_of_some h

theorem advance_of_none {k : Nat} {q : Party} (h : tbl[k]? = none) : advance tbl k q = { q with done := true } :=
  Loop.advance_of_none h

theorem step_none_of_not_started (h : p.rnd = 0 ∨ p.done = true) : step tbl p = none :=
  step_of_cur_none (cur_of_not_started h)

theorem rest_of_not_started (h : p.rnd = 0 ∨ p.done = true) : rest tbl p = p :=
  rest_of_cur_none (cur_of_not_started h)

theorem rest_eq_ok (tbl : List RoundSpec) (p : Party) : rest tbl p = { p with ok := (rest tbl p).ok } := by
  cases hc : cur tbl p with
  | none => rw [rest_of_cur_none hc]
  | some r => rw [rest_of_cur_some hc]; rfl

end cur

theorem rest_self (tbl : List RoundSpec) (p : Party) : (rest tbl p).self = p.self := by rw [rest_eq_ok]
theorem rest_n (tbl : List RoundSpec) (p : Party) : (rest tbl p).n = p.n := by rw [rest_eq_ok]
theorem rest_rnd (tbl : List RoundSpec) (p : Party) : (rest tbl p).rnd = p.rnd := by rw [rest_eq_ok]
theorem rest_done (tbl : List RoundSpec) (p : Party) : (rest tbl p).done = p.done := by rw [rest_eq_ok]
theorem rest_store (tbl : List RoundSpec) (p : Party) : (rest tbl p).store = p.store := by rw [rest_eq_ok]
theorem rest_out (tbl : List RoundSpec) (p : Party) : (rest tbl p).out = p.out := by rw [rest_eq_ok]
theorem rest_ended (tbl : List RoundSpec) (p : Party) : (rest tbl p).ended = p.ended := by rw [rest_eq_ok]

theorem storeMsg_store_same (m : Msg) (p : Party) : (storeMsg m p).store m.ty m.frm = some m.slot :=
  Slots.setSlot_same _ _ _ _

theorem storeMsg_store_other (m : Msg) (p : Party) {t j : Nat} (h : ¬ (t = m.ty ∧ j = m.frm)) :
    (storeMsg m p).store t j = p.store t j :=
  Slots.setSlot_other _ _ h

theorem sat_eq (r : RoundSpec) : sat r = Engine2.sat r.needs := by
  funext store j
  unfold sat Engine2.sat
  congr

theorem sat_iff (r : RoundSpec) (store : Nat → Nat → Option Slot) (j : Nat) :
    sat r store j = true ↔ ∀ tf ∈ r.needs, ∃ s, store tf.1 j = some s ∧ s.flag = tf.2 := by
  rw [sat_eq]; exact Slots.sat_iff _ _ _

/-- sender `j` is marked, or has everything round `r` needs stored with the right flag -/
def cov (r : RoundSpec) (p : Party) (j : Nat) : Prop := p.ok j = true ∨ sat r p.store j = true

theorem scanOk_iff (r : RoundSpec) (p : Party) (j : Nat) :
    scanOk r p j = true ↔ p.ok j = true ∨ (r.final = false ∧ j < p.n ∧ sat r p.store j = true ∧
      (r.early = false ∨ ∀ j', j' < j → cov r p j')) := by
  unfold scanOk cov
  simp only [Bool.or_eq_true, Bool.and_eq_true, decide_eq_true_eq, Bool.not_eq_true',
    List.all_eq_true, List.mem_range, and_assoc]

theorem scanOk_of_ok {j : Nat} (h : p.ok j = true) : scanOk r p j = true :=
  (scanOk_iff r p j).mpr (Or.inl h)

theorem ok_or_sat_of_scanOk {j : Nat} (h : scanOk r p j = true) :
    p.ok j = true ∨ (r.final = false ∧ j < p.n ∧ sat r p.store j = true) := by
  rcases (scanOk_iff r p j).mp h with h | ⟨h1, h2, h3, _⟩
  · exact Or.inl h
  · exact Or.inr ⟨h1, h2, h3⟩

theorem cov_of_scanOk {j : Nat} (h : scanOk r p j = true) : cov r p j :=
  (ok_or_sat_of_scanOk h).imp id fun h => h.2.2

theorem scanOk_of_not_lt {j : Nat} (hj : ¬ j < p.n) : scanOk r p j = p.ok j := by
  apply Bool.eq_iff_iff.mpr
  rw [scanOk_iff]
  exact ⟨fun h => h.elim id fun h => absurd h.2.1 hj, Or.inl⟩

theorem scanOk_le {p q : Party} (hn : p.n = q.n)
    (hok : ∀ j, p.ok j = true → scanOk r q j = true)
    (hsat : ∀ j, sat r p.store j = true → sat r q.store j = true)
    (hcov : ∀ j, cov r p j → cov r q j) (j : Nat) (h : scanOk r p j = true) : scanOk r q j = true := by
  rcases (scanOk_iff r p j).mp h with h | ⟨hf, hj, hs, hp⟩
  · exact hok j h
  · exact (scanOk_iff r q j).mpr (Or.inr ⟨hf, hn ▸ hj, hsat j hs, hp.imp id fun hp j' hj' => hcov j' (hp j' hj')⟩)

theorem scanOk_mono {p q : Party} (hn : p.n = q.n)
    (hok : ∀ j, p.ok j = true → q.ok j = true)
    (hsat : ∀ j, sat r p.store j = true → sat r q.store j = true) (j : Nat)
    (h : scanOk r p j = true) : scanOk r q j = true :=
  scanOk_le hn (fun j h => scanOk_of_ok (hok j h)) hsat (fun j h => h.imp (hok j) (hsat j)) j h

theorem scan_scan (r : RoundSpec) (p : Party) : scan r (scan r p) = scan r p := by
  have e : scanOk r (scan r p) = scanOk r p := by
    funext j
    exact Bool.eq_iff_iff.mpr ⟨scanOk_le (p := scan r p) (q := p) rfl (fun _ h => h) (fun _ h => h)
      (fun _ h => h.elim cov_of_scanOk Or.inr) j, scanOk_of_ok (p := scan r p)⟩
  show { scan r p with ok := scanOk r (scan r p) } = scan r p
  rw [e]; rfl

theorem canProceed_iff (p : Party) : canProceed p = true ↔ ∀ j, j < p.n → p.ok j = true := by
  unfold canProceed
  simp only [List.all_eq_true, List.mem_range]

/-- **the scan of a non-final round lets the party proceed iff every sender is covered** (also for a round whose
`Update` returns at the first missing sender: if nobody is missing it does not return early) -/
theorem canProceed_scan_iff (hf : r.final = false) (p : Party) :
    canProceed (scan r p) = true ↔ ∀ j, j < p.n → cov r p j := by
  rw [canProceed_iff]
  constructor
  · intro h j hj; exact cov_of_scanOk (h j hj)
  · intro h j hj
    show scanOk r p j = true
    rw [scanOk_iff]
    exact (h j hj).imp id fun hs => ⟨hf, hj, hs, Or.inr fun j' hj' => h j' (Nat.lt_trans hj' hj)⟩

theorem frame : Loop.Frame ops where
  scan_rnd := fun _ _ => rfl
  scan_done := fun _ _ => rfl
  scan_self := fun _ _ => rfl
  scan_scan := scan_scan
  start_rnd := fun _ _ _ => rfl
  start_done := fun _ _ _ => rfl
  start_self := fun _ _ _ => rfl
  finish_rnd := fun _ => rfl
  finish_done := fun _ => rfl
  finish_self := fun _ => rfl
  store_rnd := fun _ _ => rfl
  store_done := fun _ _ => rfl
  store_self := fun _ _ => rfl

/-- canonical emission log of the first `k` rounds of a party in a committee of `n` -/
def emitsUpTo (tbl : List RoundSpec) (n k : Nat) : List Nat :=
  ((tbl.take k).map fun r => emitList n r.emits).flatten

/-- canonical `end` count of the first `k` rounds -/
def endsUpTo (tbl : List RoundSpec) (k : Nat) : Nat := ((tbl.take k).map fun r => if r.final then 1 else 0).sum

/-- invariant: what has been emitted is exactly the canonical prefix for the rounds started -/
def Canon (tbl : List RoundSpec) (p : Party) : Prop :=
  p.rnd ≤ tbl.length ∧ p.out = emitsUpTo tbl p.n p.rnd ∧ p.ended = endsUpTo tbl p.rnd

theorem emitsUpTo_zero (tbl : List RoundSpec) (n : Nat) : emitsUpTo tbl n 0 = [] := by
  simp [emitsUpTo]

theorem endsUpTo_zero (tbl : List RoundSpec) : endsUpTo tbl 0 = 0 := by
  simp [endsUpTo]

theorem emitsUpTo_succ (tbl : List RoundSpec) (n k : Nat) (r : RoundSpec) (h : tbl[k]? = some r) :
    emitsUpTo tbl n (k + 1) = emitsUpTo tbl n k ++ emitList n r.emits :=
  Loop.take_succ_map_flatten _ h

theorem endsUpTo_succ (tbl : List RoundSpec) (k : Nat) (r : RoundSpec) (h : tbl[k]? = some r) :
    endsUpTo tbl (k + 1) = endsUpTo tbl k + (if r.final then 1 else 0) :=
  Loop.take_succ_map_sum _ h

theorem canon_fresh (tbl : List RoundSpec) (n self : Nat) : Canon tbl (fresh n self) := by
  simp [Canon, fresh, emitsUpTo, endsUpTo]

theorem canon_startRound {k : Nat} (h : Canon tbl p)
    (hk : p.rnd = k) (hr : tbl[k]? = some r) : Canon tbl (startRound r k p) := by
  obtain ⟨_, h2, h3⟩ := h
  subst hk
  refine ⟨Loop.lt_of_getElem?_some hr, ?_, ?_⟩
  · show p.out ++ _ = emitsUpTo tbl p.n (p.rnd + 1)
    rw [emitsUpTo_succ tbl _ _ r hr, ← h2]
  · show p.ended + _ = endsUpTo tbl (p.rnd + 1)
    rw [endsUpTo_succ tbl _ r hr, ← h3]

theorem canon_moves (tbl : List RoundSpec) : Loop.Moves ops tbl (Canon tbl) where
  scan := fun _ _ h _ _ _ => h
  adv := fun _ _ _ h _ _ _ _ hr' => canon_startRound h rfl hr'
  fin := fun _ h _ _ _ => h

theorem canon_deliver (m : Msg) (h : Canon tbl p) :
    Canon tbl (deliver tbl m p) := by
  rw [deliver_loop]; exact (canon_moves tbl).deliver frame m h

theorem canon_start (h : Canon tbl p) : Canon tbl (start tbl p) := by
  rw [start_loop]
  exact (canon_moves tbl).start frame true h fun _ h0 hr => canon_startRound h h0 hr

/-- what can happen to one party: the local `Start` call, or a delivery (any message whatsoever) -/
inductive Ev where
  | start : Ev
  | deliver : Msg → Ev

def applyEv (tbl : List RoundSpec) (p : Party) : Ev → Party
  | .start => start tbl p
  | .deliver m => deliver tbl m p

def run (tbl : List RoundSpec) (evs : List Ev) (p : Party) : Party := evs.foldl (applyEv tbl) p

def delivers (tbl : List RoundSpec) (ms : List Msg) (p : Party) : Party := ms.foldl (fun p m => deliver tbl m p) p

theorem run_nil (tbl : List RoundSpec) (p : Party) : run tbl [] p = p := rfl
theorem run_cons (tbl : List RoundSpec) (e : Ev) (evs : List Ev) (p : Party) :
    run tbl (e :: evs) p = run tbl evs (applyEv tbl p e) := rfl
theorem run_append (tbl : List RoundSpec) (es es' : List Ev) (p : Party) :
    run tbl (es ++ es') p = run tbl es' (run tbl es p) := by
  simp [run, List.foldl_append]

theorem delivers_nil (tbl : List RoundSpec) (p : Party) : delivers tbl [] p = p := rfl
theorem delivers_cons (tbl : List RoundSpec) (m : Msg) (ms : List Msg) (p : Party) :
    delivers tbl (m :: ms) p = delivers tbl ms (deliver tbl m p) := rfl
theorem delivers_append (tbl : List RoundSpec) (ms ms' : List Msg) (p : Party) :
    delivers tbl (ms ++ ms') p = delivers tbl ms' (delivers tbl ms p) := by
  simp [delivers, List.foldl_append]

theorem delivers_eq_run (tbl : List RoundSpec) (ms : List Msg) (p : Party) :
    delivers tbl ms p = run tbl (ms.map Ev.deliver) p := by
  induction ms generalizing p with
  | nil => rfl
  | cons m ms ih => simp only [List.map_cons, run_cons, delivers_cons, applyEv]; exact ih _

theorem run_preserves (Q : Party → Prop) (hstart : ∀ p, Q p → Q (start tbl p))
    (hdeliver : ∀ m p, Q p → Q (deliver tbl m p)) (evs : List Ev) (p : Party) (h : Q p) : Q (run tbl evs p) := by
  induction evs generalizing p with
  | nil => exact h
  | cons e evs ih =>
    cases e with
    | start => exact ih _ (hstart p h)
    | deliver m => exact ih _ (hdeliver m p h)

theorem canon_run (evs : List Ev) (h : Canon tbl p) : Canon tbl (run tbl evs p) :=
  run_preserves (Canon tbl) (fun _ => canon_start) (fun m _ => canon_deliver m) evs p h

theorem canon_delivers (ms : List Msg) (h : Canon tbl p) :
    Canon tbl (delivers tbl ms p) := by
  rw [delivers_eq_run]; exact canon_run _ h

/-- own index and committee size stay what they are -/
theorem cfg_moves (tbl : List RoundSpec) (self n : Nat) : Loop.Moves ops tbl (fun q => q.self = self ∧ q.n = n) where
  scan := fun _ _ h _ _ _ => h
  adv := fun _ _ _ h _ _ _ _ _ => h
  fin := fun _ h _ _ _ => h

theorem cfg_deliver (tbl : List RoundSpec) (m : Msg) (p : Party) :
    (deliver tbl m p).self = p.self ∧ (deliver tbl m p).n = p.n := by
  rw [deliver_loop]; exact (cfg_moves tbl p.self p.n).deliver frame m ⟨rfl, rfl⟩

theorem cfg_start (tbl : List RoundSpec) (p : Party) : (start tbl p).self = p.self ∧ (start tbl p).n = p.n := by
  rw [start_loop]; exact (cfg_moves tbl p.self p.n).start frame true ⟨rfl, rfl⟩ fun _ _ _ => ⟨rfl, rfl⟩

theorem cfg_run (tbl : List RoundSpec) (evs : List Ev) (p : Party) :
    (run tbl evs p).self = p.self ∧ (run tbl evs p).n = p.n :=
  run_preserves (fun q => q.self = p.self ∧ q.n = p.n) (fun q h => ⟨(cfg_start tbl q).1.trans h.1, (cfg_start tbl q).2.trans h.2⟩)
    (fun m q h => ⟨(cfg_deliver tbl m q).1.trans h.1, (cfg_deliver tbl m q).2.trans h.2⟩) evs p ⟨rfl, rfl⟩

theorem step_self {p p' : Party} (hs : step tbl p = some p') : p'.self = p.self := by
  rw [step_loop] at hs; exact Loop.step_self frame hs

theorem deliver_self (tbl : List RoundSpec) (m : Msg) (p : Party) : (deliver tbl m p).self = p.self :=
  (cfg_deliver tbl m p).1
theorem deliver_n (tbl : List RoundSpec) (m : Msg) (p : Party) : (deliver tbl m p).n = p.n :=
  (cfg_deliver tbl m p).2
theorem start_self (tbl : List RoundSpec) (p : Party) : (start tbl p).self = p.self := (cfg_start tbl p).1
theorem start_n (tbl : List RoundSpec) (p : Party) : (start tbl p).n = p.n := (cfg_start tbl p).2
theorem run_self (tbl : List RoundSpec) (evs : List Ev) (p : Party) : (run tbl evs p).self = p.self :=
  (cfg_run tbl evs p).1
theorem run_n (tbl : List RoundSpec) (evs : List Ev) (p : Party) : (run tbl evs p).n = p.n := (cfg_run tbl evs p).2

theorem delivers_self (tbl : List RoundSpec) (ms : List Msg) (p : Party) : (delivers tbl ms p).self = p.self := by
  rw [delivers_eq_run, run_self]

theorem delivers_n (tbl : List RoundSpec) (ms : List Msg) (p : Party) : (delivers tbl ms p).n = p.n := by
  rw [delivers_eq_run, run_n]

/-- `Loop.togo ops` in the model's terms -/
def togo (tbl : List RoundSpec) (p : Party) : Nat := if p.done then 0 else tbl.length + 1 - p.rnd

theorem togo_storeMsg (tbl : List RoundSpec) (m : Msg) (p : Party) :
    togo tbl (storeMsg m p) = togo tbl p := rfl

theorem rest_of_togo_zero {tbl : List RoundSpec} {p : Party} (h : togo tbl p = 0) : rest tbl p = p := by
  refine rest_of_cur_none (Loop.cur_eq_none.mpr ?_)
  unfold togo at h
  split at h
  · rename_i hd; exact Or.inr (Or.inl hd)
  · exact Or.inr (Or.inr (List.getElem?_eq_none_iff.mpr (by show tbl.length ≤ p.rnd - 1; omega)))

theorem settleF_of_step_some {p p' : Party} (hs : step tbl p = some p') :
    settleF tbl p = settleF tbl p' := by
  rw [step_loop] at hs; rw [settleF_loop]; exact Loop.settleF_of_step_some frame hs

theorem settleF_of_step_none (hs : step tbl p = none) :
    settleF tbl p = rest tbl p := by
  rw [step_loop] at hs; rw [settleF_loop, rest_loop]; exact Loop.settleF_of_step_none hs

theorem settleF_induction (P : Party → Party → Prop)
    (hnone : ∀ p, step tbl p = none → P p (rest tbl p))
    (hsome : ∀ p p', step tbl p = some p' → P p' (settleF tbl p') → P p (settleF tbl p'))
    (p : Party) : P p (settleF tbl p) := by
  rw [step_loop, rest_loop] at hnone
  rw [step_loop, settleF_loop] at hsome
  rw [settleF_loop]
  exact Loop.settleF_induction frame P hnone hsome p

/-- `Loop.Settled ops` in the model's terms -/
def Settled (tbl : List RoundSpec) (p : Party) : Prop := step tbl p = none ∧ rest tbl p = p

theorem settled_settleF (tbl : List RoundSpec) (p : Party) : Settled tbl (settleF tbl p) := by
  unfold Settled; rw [step_loop, rest_loop, settleF_loop]; exact Loop.settled_settleF frame tbl p

theorem settleF_of_settled (h : Settled tbl p) : settleF tbl p = p := by
  rw [settleF_of_step_none h.1, h.2]

theorem settled_deliver (tbl : List RoundSpec) (m : Msg) (p : Party) : Settled tbl (deliver tbl m p) :=
  settled_settleF tbl _

theorem settled_of_not_started (h : p.rnd = 0 ∨ p.done = true) : Settled tbl p :=
  ⟨step_none_of_not_started h, rest_of_not_started h⟩

theorem start_eq_of_rnd_zero (h : p.rnd = 0) :
    start tbl p = settleF tbl (startOld tbl p) := by
  unfold start; rw [if_pos h]; rfl

theorem start_eq_of_started (h : p.rnd ≠ 0) : start tbl p = p := by
  unfold start; rw [if_neg h]

theorem settled_start (h : Settled tbl p) : Settled tbl (start tbl p) := by
  by_cases h0 : p.rnd = 0
  · rw [start_eq_of_rnd_zero h0]; exact settled_settleF tbl _
  · rw [start_eq_of_started h0]; exact h

theorem settled_fresh (tbl : List RoundSpec) (n self : Nat) : Settled tbl (fresh n self) :=
  settled_of_not_started (Or.inl rfl)

theorem settled_run (evs : List Ev) (h : Settled tbl p) : Settled tbl (run tbl evs p) :=
  run_preserves (Settled tbl) (fun _ => settled_start) (fun m p _ => settled_deliver tbl m p) evs p h

/-- before `Start` a delivery only stores -/
theorem deliver_of_not_started (m : Msg) (h : p.rnd = 0 ∨ p.done = true) :
    deliver tbl m p = storeMsg m p := by
  rw [deliver_eq]
  exact settleF_of_settled (settled_of_not_started (p := storeMsg m p) h)

end TssVerif.EngineL
