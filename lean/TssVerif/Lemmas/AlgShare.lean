import TssVerif.Lemmas.CurveLaw
import TssVerif.Lemmas.VssPoly
import TssVerif.Lemmas.AlgLagrange
import TssVerif.Lemmas.AlgEcdsa
import Mathlib.Algebra.BigOperators.Group.List.Basic
import Mathlib.Algebra.Polynomial.BigOperators
/-! Sums of points of a curve record, the public share point
`BigX(id) = V_0 + Σ_{c=1..t} (id^c mod q)·V_c` (keygen round 3 / `Share.Verify`), its linearity in the
commitment vector, and the Feldman equation of honestly dealt shares. Statements use only the record's
own `add`/`smul`; proofs go through the local `AddCommGroup`. -/
set_option autoImplicit false
set_option linter.style.haveILetI false
namespace TssVerif.AlgL
open TssVerif Polynomial

variable {P : Type} {C : Curve P}

def psum (C : Curve P) (l : List P) : P := l.foldr C.add C.zero

@[simp] theorem psum_nil : psum C [] = C.zero := rfl
@[simp] theorem psum_cons (a : P) (l : List P) : psum C (a :: l) = C.add a (psum C l) := rfl

theorem psum_eq_sum (hC : C.Lawful) (l : List P) :
    psum C l = letI := hC.groupLaws.addCommGroup; l.sum := by
  letI := hC.groupLaws.addCommGroup
  induction l with
  | nil => rfl
  | cons a l ih => rw [psum_cons, ih, List.sum_cons]; rfl

section laws
variable (hC : C.Lawful)
include hC

theorem psum_append (l1 l2 : List P) : psum C (l1 ++ l2) = C.add (psum C l1) (psum C l2) := by
  induction l1 with
  | nil => rw [List.nil_append, psum_nil, hC.zero_add]
  | cons a l ih => rw [List.cons_append, psum_cons, psum_cons, ih, hC.add_assoc]

theorem psum_smul (k : ℕ) (l : List P) : C.smul k (psum C l) = psum C (l.map (C.smul k)) := by
  induction l with
  | nil => exact hC.smul_zero_right k
  | cons a l ih => rw [psum_cons, hC.smul_add_right, ih, List.map_cons, psum_cons]

theorem psum_map_add {ι : Type} (l : List ι) (f g : ι → P) :
    psum C (l.map fun i => C.add (f i) (g i)) = C.add (psum C (l.map f)) (psum C (l.map g)) := by
  letI := hC.groupLaws.addCommGroup
  induction l with
  | nil => exact (hC.zero_add _).symm
  | cons a l ih =>
    simp only [List.map_cons, psum_cons]
    rw [ih]
    exact add_add_add_comm (f a) (g a) _ _

theorem psum_smul_left {ι : Type} (l : List ι) (a : ι → ℕ) (p : P) :
    psum C (l.map fun i => C.smul (a i) p) = C.smul (l.map a).sum p := by
  induction l with
  | nil => rfl
  | cons i l ih => simp only [List.map_cons, psum_cons, List.sum_cons]; rw [ih, hC.smul_add]

end laws

/-- the scalar `z` of the loops (`z = modQ.Mul(z, kj)`, starting from 1) after `c` steps -/
def zpow (q id : ℕ) : ℕ → ℕ
  | 0 => 1
  | c + 1 => zpow q id c * id % q

theorem zpow_cast (q id c : ℕ) : (zpow q id c : ZMod q) = (id : ZMod q) ^ c := by
  induction c with
  | zero => simp [zpow]
  | succ c ih => rw [zpow, ZMod.natCast_mod, Nat.cast_mul, ih, pow_succ]

theorem zpow_eq {q : ℕ} (hq : 1 < q) (id c : ℕ) : zpow q id c = id ^ c % q := by
  induction c with
  | zero => rw [zpow, Nat.pow_zero, Nat.mod_eq_of_lt hq]
  | succ c ih => rw [zpow, ih, Nat.pow_succ, Nat.mod_mul_mod]

/-- `BigX(id) = V_0 + Σ_{c=1..t} z_c·V_c` for a commitment vector `V_0 … V_t` -/
def pubShare (C : Curve P) (V : ℕ → P) (t id : ℕ) : P :=
  C.add (V 0) (psum C ((List.range' 1 t).map fun c => C.smul (zpow C.q id c) (V c)))

theorem pubShare_succ (hC : C.Lawful) (V : ℕ → P) (t id : ℕ) :
    pubShare C V (t + 1) id = C.add (pubShare C V t id) (C.smul (zpow C.q id (t + 1)) (V (t + 1))) := by
  unfold pubShare
  rw [List.range'_concat, List.map_append, psum_append hC, ← hC.add_assoc, List.map_singleton,
    psum_cons, psum_nil, hC.add_zero, Nat.one_mul, Nat.add_comm 1 t]

/-- the public share point of a sum of commitment vectors is the sum of the public share points -/
theorem pubShare_psum (hC : C.Lawful) {ι : Type} (ds : List ι) (Vi : ι → ℕ → P) (t id : ℕ) :
    pubShare C (fun c => psum C (ds.map fun i => Vi i c)) t id =
      psum C (ds.map fun i => pubShare C (Vi i) t id) := by
  induction t with
  | zero => simp only [pubShare, List.range'_zero, List.map_nil, psum_nil, hC.add_zero]
  | succ t ih =>
    simp only [pubShare_succ hC]
    rw [ih, psum_smul hC, List.map_map, psum_map_add hC]
    rfl

/-- the loop of `Share.Verify`/keygen: `acc + Σ_c (t·id^{c+1} mod q)·V_c`, running `t` -/
def accLoop (C : Curve P) (id : ℕ) : List P → ℕ → P → P
  | [], _, acc => acc
  | v :: vs, t, acc => accLoop C id vs (t * id % C.q) (C.add acc (C.smul (t * id % C.q) v))

/-- started at the `c0`-th power with accumulator `acc`, the loop adds `z_c·vs[c − (c0+1)]` for
`c = c0+1, c0+2, …` (the list is indexed from the turn after `c0`) -/
theorem accLoop_eq (hC : C.Lawful) (id : ℕ) (vs : List P) (c0 : ℕ) (acc : P) :
    accLoop C id vs (zpow C.q id c0) acc =
      C.add acc (psum C ((List.range' (c0 + 1) vs.length).map fun c =>
        C.smul (zpow C.q id c) (vs.getD (c - (c0 + 1)) C.zero))) := by
  induction vs generalizing c0 acc with
  | nil => simp only [accLoop, List.length_nil, List.range'_zero, List.map_nil, psum_nil]; exact (hC.add_zero _).symm
  | cons v vs ih =>
    rw [accLoop]
    have hz : zpow C.q id c0 * id % C.q = zpow C.q id (c0 + 1) := rfl
    rw [hz, ih (c0 + 1), List.length_cons, List.range'_succ, List.map_cons, psum_cons, hC.add_assoc]
    congr 2
    · simp
    · congr 1
      apply List.map_congr_left
      intro c hc
      have : c0 + 2 ≤ c := (List.mem_range'_1.1 hc).1
      have e : c - (c0 + 1) = (c - (c0 + 1 + 1)) + 1 := by omega
      rw [e, List.getD_cons_succ]

theorem accLoop_pubShare (hC : C.Lawful) (id : ℕ) (v0 : P) (vs : List P) :
    accLoop C id vs 1 v0 = pubShare C (fun c => (v0 :: vs).getD c C.zero) vs.length id := by
  have := accLoop_eq hC id vs 0 v0
  rw [show zpow C.q id 0 = 1 from rfl] at this
  rw [this]
  unfold pubShare
  congr 1
  congr 1
  apply List.map_congr_left
  intro c hc
  have : 1 ≤ c := (List.mem_range'_1.1 hc).1
  obtain ⟨c', rfl⟩ : ∃ c', c = c' + 1 := ⟨c - 1, by omega⟩
  simp

/-- the public share point of commitments `a_c·G` is `(Σ_{c ≤ t} z_c·a_c)·G` -/
theorem pubShare_base (hC : C.Lawful) (a : ℕ → ℕ) (id : ℕ) : ∀ t : ℕ,
    pubShare C (fun c => C.smul (a c) C.base) t id =
      C.smul (∑ c ∈ Finset.range (t + 1), zpow C.q id c * a c) C.base
  | 0 => by
    rw [Nat.zero_add, Finset.sum_range_one, zpow, Nat.one_mul]
    exact hC.add_zero _
  | t + 1 => by
    rw [pubShare_succ hC, pubShare_base hC a id t, ← hC.smul_mul, ← hC.smul_add, ← Finset.sum_range_succ]

/-- **an honestly dealt share satisfies the Feldman equation**: for coefficients `as = a_0 … a_t`,
`f(id)·G = a_0·G + Σ_{c=1..t} z_c·(a_c·G)` with `f(id) = evalPoly q as id` -/
theorem feldman_honest (hC : C.Lawful) (as : List ℕ) (t : ℕ) (hlen : as.length = t + 1) (id : ℕ) :
    C.smul (Vss.evalPoly C.q as id) C.base =
      pubShare C (fun c => C.smul (as.getD c 0) C.base) t id := by
  obtain ⟨a0, rest, rfl⟩ := List.exists_cons_of_length_eq_add_one hlen
  rw [pubShare_base hC, hC.smul_base_eq_iff_cast, Vss.evalPoly_cast, Vss.polyNat_eq_sum, hlen]
  push_cast
  exact Finset.sum_congr rfl fun c _ => by rw [zpow_cast, mul_comm]
end TssVerif.AlgL
