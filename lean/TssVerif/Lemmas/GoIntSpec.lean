import TssVerif.Core.GoInt
import Mathlib.Tactic.Ring
import Mathlib.Tactic.Linarith
import Mathlib.Data.Int.ModEq
import Mathlib.Data.Int.GCD
/-! Specifications of the `math/big` model in `TssVerif/Core/GoInt.lean`:

* `modPow_spec      : modPow x e m = x ^ e % m` (every `x e m`, also `m = 0`, where `% 0` is the identity);
* `modInverse_spec  : modInverse a n = some b → a * b % n = 1 % n ∧ b < n` (soundness);
* `modInverse_isSome: n ≠ 0 → Int.gcd a n = 1 → (modInverse a n).isSome` (the fuel always suffices);
* `modInverse_isSome_iff`, `modInverse_eq_none_iff` : exact characterisation of Go's `nil` result;
* `goExp_*` : the same for Go's `Exp` with possibly negative exponent. -/
namespace TssVerif

/-! ## `modPow` -/

/-- value of an MSB-first bit list appended to the binary digits of `v` -/
def bitsVal (bs : List Bool) (v : Nat) : Nat := bs.foldl (fun v b => 2 * v + b.toNat) v

@[simp] theorem bitsVal_nil (v : Nat) : bitsVal [] v = v := rfl
@[simp] theorem bitsVal_cons (b : Bool) (bs : List Bool) (v : Nat) :
    bitsVal (b :: bs) v = bitsVal bs (2 * v + b.toNat) := rfl

theorem modPowBits_spec (x m : Nat) : ∀ (bs : List Bool) (acc v : Nat), acc = x ^ v % m →
    modPowBits x m bs acc = x ^ bitsVal bs v % m := by
  intro bs
  induction bs with
  | nil => intro acc v h; simpa [modPowBits] using h
  | cons b bs ih =>
    intro acc v h
    rw [modPowBits, bitsVal_cons]
    apply ih
    have hsq : acc * acc % m = x ^ (2 * v) % m := by
      rw [h, ← Nat.mul_mod, ← Nat.pow_add, Nat.two_mul]
    cases b with
    | false => simpa using hsq
    | true =>
      simp only [if_true, Bool.toNat_true]
      rw [hsq, Nat.mod_mul_mod, Nat.pow_succ]

theorem bitsVal_range (e : Nat) : ∀ (k v : Nat),
    bitsVal ((List.range k).reverse.map fun i => e.testBit i) v = v * 2 ^ k + e % 2 ^ k := by
  intro k
  induction k with
  | zero => intro v; simp [Nat.mod_one]
  | succ k ih =>
    intro v
    rw [List.range_succ, List.reverse_append, List.reverse_singleton, List.singleton_append,
      List.map_cons, bitsVal_cons, ih, Nat.toNat_testBit, Nat.mod_pow_succ (x := e) (b := 2) (k := k)]
    ring

theorem bitsVal_bitsMSB (e : Nat) : bitsVal (bitsMSB e) 0 = e := by
  unfold bitsMSB
  rw [bitsVal_range, Nat.zero_mul, Nat.zero_add, Nat.mod_eq_of_lt Nat.lt_log2_self]

/-- **`modPow` is modular exponentiation** (for `m = 0` both sides are `x ^ e`, as in Go's `Exp`) -/
theorem modPow_spec (x e m : Nat) : modPow x e m = x ^ e % m := by
  unfold modPow
  split
  · rename_i h; subst h; simp
  · split
    · rename_i h; subst h; simp
    · rw [modPowBits_spec (x % m) m (bitsMSB e) (1 % m) 0 (by simp), bitsVal_bitsMSB, ← Nat.pow_mod]

theorem modPow_lt {m : Nat} (x e : Nat) (hm : m ≠ 0) : modPow x e m < m := by
  rw [modPow_spec]; exact Nat.mod_lt _ (Nat.pos_of_ne_zero hm)

theorem modPow_modEq (x e m : Nat) : modPow x e m ≡ x ^ e [MOD m] := by
  rw [modPow_spec]; exact Nat.mod_modEq _ _

theorem modPow_zero_exp (x m : Nat) : modPow x 0 m = 1 % m := by
  rw [modPow_spec, Nat.pow_zero]

theorem modPow_mod_base (x e m : Nat) : modPow (x % m) e m = modPow x e m := by
  rw [modPow_spec, modPow_spec, ← Nat.pow_mod]

/-! ## `xgcdAux` and `modInverse` -/

theorem xgcdAux_zero_right (f : Nat) (r0 s0 s1 : Int) : xgcdAux (f + 1) r0 0 s0 s1 = (r0, s0) := by
  simp [xgcdAux]

theorem xgcdAux_step (f : Nat) {r0 r1 : Int} (s0 s1 : Int) (h : r1 ≠ 0) :
    xgcdAux (f + 1) r0 r1 s0 s1 = xgcdAux f r1 (r0 % r1) s1 (s0 - r0 / r1 * s1) := by
  rw [xgcdAux, if_neg h, Int.emod_def, Int.mul_comm r1]

/-- Bezout invariant: both remainders stay in `s * a + ℤ n` -/
theorem xgcdAux_bezout (a n : Int) : ∀ (fuel : Nat) (r0 r1 s0 s1 : Int),
    (∃ t, r0 = s0 * a + t * n) → (∃ t, r1 = s1 * a + t * n) →
    ∃ t, (xgcdAux fuel r0 r1 s0 s1).1 = (xgcdAux fuel r0 r1 s0 s1).2 * a + t * n := by
  intro fuel
  induction fuel with
  | zero => intro r0 r1 s0 s1 h0 _; simpa [xgcdAux] using h0
  | succ k ih =>
    intro r0 r1 s0 s1 h0 h1
    unfold xgcdAux
    split
    · simpa using h0
    · apply ih _ _ _ _ h1
      obtain ⟨t0, e0⟩ := h0
      obtain ⟨t1, e1⟩ := h1
      exact ⟨t0 - r0 / r1 * t1, by rw [e0, e1]; ring⟩

theorem two_mul_emod_lt {a b : Int} (hb : 0 < b) (hab : b ≤ a) : 2 * (a % b) < a := by
  have h1 := Int.mul_ediv_add_emod a b
  have h2 := Int.emod_lt_of_pos a hb
  have h3 : 1 ≤ a / b := Int.le_ediv_of_mul_le hb (by simpa using hab)
  nlinarith

/-- **Fuel sufficiency**: each step of Euclid at least halves the product of the two remainders, so
`k + 1` steps reach remainder zero from a product below `2 ^ k`; the first component is then the gcd. -/
theorem xgcdAux_fst : ∀ (k fuel : Nat) (r0 r1 s0 s1 : Int), 0 ≤ r1 → r1 < r0 → r0 * r1 < 2 ^ k →
    k + 1 ≤ fuel → (xgcdAux fuel r0 r1 s0 s1).1 = Int.gcd r0 r1 := by
  have base : ∀ (f : Nat) (r0 s0 s1 : Int), 0 < r0 → (xgcdAux (f + 1) r0 0 s0 s1).1 = Int.gcd r0 0 := by
    intro f r0 s0 s1 h
    rw [xgcdAux_zero_right, Int.gcd_zero_right, Int.natAbs_of_nonneg (le_of_lt h)]
  intro k
  induction k with
  | zero =>
    intro fuel r0 r1 s0 s1 h0 h1 h2 hf
    obtain ⟨f, rfl⟩ : ∃ f, fuel = f + 1 := ⟨fuel - 1, by omega⟩
    have : r1 = 0 := by nlinarith
    subst this
    exact base f r0 s0 s1 h1
  | succ k ih =>
    intro fuel r0 r1 s0 s1 h0 h1 h2 hf
    obtain ⟨f, rfl⟩ : ∃ f, fuel = f + 1 := ⟨fuel - 1, by omega⟩
    by_cases hr1 : r1 = 0
    · subst hr1; exact base f r0 s0 s1 h1
    · have hr1pos : 0 < r1 := lt_of_le_of_ne h0 (Ne.symm hr1)
      rw [xgcdAux_step f s0 s1 hr1, ← Int.gcd_emod, Int.gcd_comm]
      refine ih f _ _ _ _ (Int.emod_nonneg r0 hr1) (Int.emod_lt_of_pos r0 hr1pos) ?_ (by omega)
      have := two_mul_emod_lt hr1pos (le_of_lt h1)
      rw [pow_succ] at h2
      nlinarith

theorem natCast_lt_two_pow_log2 (n : Nat) : (n : Int) < 2 ^ (n.log2 + 1) := by
  exact_mod_cast (Nat.lt_log2_self : n < 2 ^ (n.log2 + 1))

/-- the extended-Euclid call made by `modInverse` returns the gcd: both remainders are below `2^(log2 n + 1)`, so
their product is below `2^k` for `k = 2·(log2 n + 1)`, and the fuel `2·log2 n + 4` exceeds `k + 1` -/
theorem xgcdAux_modInverse_fst (a : Int) {n : Nat} (hn : n ≠ 0) :
    (xgcdAux (2 * n.log2 + 4) (n : Int) (a % (n : Int)) 0 1).1 = Int.gcd a n := by
  have hnpos : (0 : Int) < n := by exact_mod_cast Nat.pos_of_ne_zero hn
  have hlt := Int.emod_lt_of_pos a hnpos
  have hnn := Int.emod_nonneg a (ne_of_gt hnpos)
  have hlog := natCast_lt_two_pow_log2 n
  rw [xgcdAux_fst (2 * (n.log2 + 1)) _ _ _ _ _ hnn hlt ?_ (by omega), Int.gcd_comm, Int.gcd_emod]
  rw [pow_mul', sq]
  exact mul_lt_mul'' hlog (hlt.trans hlog) hnpos.le hnn

/-- `modInverse` unfolded with the gcd made explicit -/
theorem modInverse_eq (a : Int) {n : Nat} (hn : n ≠ 0) :
    modInverse a n =
      if Int.gcd a n = 1 then
        some ((xgcdAux (2 * n.log2 + 4) (n : Int) (a % (n : Int)) 0 1).2 % (n : Int)).toNat
      else none := by
  simp only [modInverse, if_neg hn, xgcdAux_modInverse_fst a hn, Nat.cast_eq_one]
  split_ifs with h h1
  · rfl
  · subst h1; simp at h
  · rfl

/-- **soundness of `modInverse`** -/
theorem modInverse_spec {a : Int} {n b : Nat} (h : modInverse a n = some b) :
    (a * b) % (n : Int) = 1 % (n : Int) ∧ b < n := by
  by_cases hn : n = 0
  · subst hn; simp [modInverse] at h
  rw [modInverse_eq a hn] at h
  split at h
  · rename_i hg
    injection h with hb
    subst hb
    obtain ⟨t, ht⟩ := xgcdAux_bezout (a % n) n (2 * n.log2 + 4) (n : Int) (a % n) 0 1
      ⟨1, by ring⟩ ⟨0, by ring⟩
    rw [xgcdAux_modInverse_fst a hn, hg] at ht
    generalize (xgcdAux (2 * n.log2 + 4) (↑n) (a % ↑n) 0 1).2 = x at ht ⊢
    have hnpos : (0 : Int) < n := by exact_mod_cast Nat.pos_of_ne_zero hn
    have hx0 : 0 ≤ x % (n : Int) := Int.emod_nonneg _ (ne_of_gt hnpos)
    have hxlt : x % (n : Int) < n := Int.emod_lt_of_pos _ hnpos
    refine ⟨?_, by omega⟩
    rw [Int.toNat_of_nonneg hx0]
    have : (a * (x % (n : Int))) % n = (x * (a % n)) % n := by
      rw [Int.mul_emod, Int.emod_emod, Int.mul_emod x, Int.emod_emod, mul_comm]
    rw [this]
    have : x * (a % (n : Int)) = 1 - t * n := by push_cast at ht; linarith
    rw [this, sub_eq_add_neg, ← neg_mul, Int.add_mul_emod_self_right]
  · simp at h

/-- **completeness of `modInverse`**: the fuel `2·log2 n + 4` always suffices -/
theorem modInverse_isSome {a : Int} {n : Nat} (hn : n ≠ 0) (hg : Int.gcd a n = 1) :
    (modInverse a n).isSome := by
  rw [modInverse_eq a hn, if_pos hg]; rfl

/-- Go's `ModInverse` returns non-nil exactly for a positive modulus and a unit -/
theorem modInverse_isSome_iff (a : Int) (n : Nat) :
    (modInverse a n).isSome ↔ n ≠ 0 ∧ Int.gcd a n = 1 := by
  by_cases hn : n = 0
  · subst hn; simp [modInverse]
  · rw [modInverse_eq a hn]
    by_cases hg : Int.gcd a n = 1 <;> simp [hg, hn]

theorem modInverse_eq_none_iff (a : Int) (n : Nat) :
    modInverse a n = none ↔ n = 0 ∨ Int.gcd a n ≠ 1 := by
  rw [← Option.not_isSome_iff_eq_none, modInverse_isSome_iff]
  by_cases hn : n = 0 <;> simp [hn]

theorem modInverse_exists {a : Int} {n : Nat} (hn : n ≠ 0) (hg : Int.gcd a n = 1) :
    ∃ b : Nat, modInverse a n = some b ∧ (a * b) % (n : Int) = 1 % (n : Int) ∧ b < n := by
  obtain ⟨b, hb⟩ := Option.isSome_iff_exists.1 (modInverse_isSome hn hg)
  exact ⟨b, hb, modInverse_spec hb⟩

theorem modInverse_spec_nat {a n b : Nat} (h : modInverse (a : Int) n = some b) :
    a * b % n = 1 % n ∧ b < n := by
  obtain ⟨h1, h2⟩ := modInverse_spec h
  exact ⟨by exact_mod_cast h1, h2⟩

/-- the inverse only depends on the residue of the argument -/
theorem modInverse_emod (a : Int) (n : Nat) : modInverse (a % (n : Int)) n = modInverse a n := by
  unfold modInverse
  rw [Int.emod_emod_of_dvd _ (dvd_refl _)]

/-! ## `goExp` -/

theorem goExp_zero_mod (x y : Int) : goExp x y 0 = none := by simp [goExp]

theorem goExp_of_nonneg (x : Int) {y : Int} {m : Nat} (hm : m ≠ 0) (hy : 0 ≤ y) :
    goExp x y m = some ((x % (m : Int)).toNat ^ y.toNat % m) := by
  unfold goExp
  rw [if_neg hm]
  simp only [ge_iff_le, hy, if_true, modPow_spec]

theorem goExp_of_neg (x : Int) {y : Int} {m : Nat} (hm : m ≠ 0) (hy : y < 0) :
    goExp x y m = (modInverse x m).map fun inv => inv ^ (-y).toNat % m := by
  unfold goExp
  rw [if_neg hm]
  have : ¬ y ≥ 0 := by omega
  simp only [this, if_false]
  cases modInverse x m <;> simp [modPow_spec]

/-- Go's `Exp` returns nil exactly for modulus zero, or a negative exponent and a non-unit base -/
theorem goExp_eq_none_iff (x y : Int) (m : Nat) :
    goExp x y m = none ↔ m = 0 ∨ (y < 0 ∧ Int.gcd x m ≠ 1) := by
  by_cases hm : m = 0
  · subst hm; simp [goExp]
  · by_cases hy : 0 ≤ y
    · rw [goExp_of_nonneg x hm hy]; simp [hm]; omega
    · have hy' : y < 0 := by omega
      rw [goExp_of_neg x hm hy', Option.map_eq_none_iff, modInverse_eq_none_iff]
      simp [hm, hy']

end TssVerif
