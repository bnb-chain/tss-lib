import TssVerif.Lemmas.C10Dln
import TssVerif.Lemmas.ZkVerify
import TssVerif.Lemmas.C11
import TssVerif.Lemmas.Paillier
import Mathlib.Data.Nat.Totient
/-! For the completeness of the Paillier key proof (`(*PrivateKey).Proof` / `Proof.Verify`, stated in
`Props/C10.lean`): what `GenerateXs` returns when it succeeds, membership in `Z_N^*` as the verifier tests it, and
the small-primes test for an `N` without prime factor below 1000. -/
set_option autoImplicit false
namespace TssVerif.C10L
open TssVerif Zk Paillier

theorem generateXsLoop_spec (H : HashFn) (m : Nat) (kb sxb syb nb : Bytes) (nInt : Int) (blocks : Nat) :
    ∀ (fuel i cnt : Nat) (acc xs : List Nat),
      generateXsLoop H m kb sxb syb nb nInt blocks fuel i cnt acc = some xs →
      acc.length = i → i ≤ m → (∀ x ∈ acc, isNumberInMultiplicativeGroup nInt x = true) →
      xs.length = m ∧ ∀ x ∈ xs, isNumberInMultiplicativeGroup nInt x = true := by
  intro fuel
  induction fuel with
  | zero => intro i cnt acc xs h; simp [generateXsLoop] at h
  | succ fuel ih =>
    intro i cnt acc xs h hlen hi hacc
    rw [generateXsLoop] at h
    split at h
    · next hge =>
      injection h with h
      subst h
      refine ⟨by rw [List.length_reverse]; omega, fun x hx => hacc x (List.mem_reverse.1 hx)⟩
    · next hlt =>
      simp only [] at h
      split at h
      · next hgood =>
        refine ih (i + 1) cnt _ xs h (by simp [hlen]) (by omega) ?_
        intro x hx
        rcases List.mem_cons.1 hx with rfl | hx
        · exact hgood
        · exact hacc x hx
      · split at h
        · cases h
        · exact ih i (cnt + 1) acc xs h hlen hi hacc

theorem generateXs_spec {H : HashFn} {m : Nat} {k n : Int} {pub : ECPoint} {xs : List Nat}
    (h : generateXs H m k n pub = some xs) :
    xs.length = m ∧ ∀ x ∈ xs, isNumberInMultiplicativeGroup n x = true := by
  unfold generateXs at h
  exact generateXsLoop_spec H m _ _ _ _ n _ _ 0 0 [] xs h rfl (Nat.zero_le _) (by simp)

theorem inGroup_iff {n x : Nat} :
    isNumberInMultiplicativeGroup (n : Int) x = true ↔ 0 < n ∧ x < n ∧ 1 ≤ x ∧ Nat.Coprime x n := by
  unfold isNumberInMultiplicativeGroup
  simp only [Bool.and_eq_true, decide_eq_true_eq, beq_iff_eq, Int.toNat_natCast, and_assoc]
  constructor
  · rintro ⟨h1, h2, h3, h4⟩; exact ⟨by omega, by omega, h3, h4⟩
  · rintro ⟨h1, h2, h3, h4⟩; exact ⟨by omega, by omega, h3, h4⟩

theorem smallPrimes_any_false {n : Nat} (h : ∀ p : Nat, p.Prime → p < 1000 → ¬ p ∣ n) :
    smallPrimes.any (fun prm => (n : Int) % (prm : Int) == 0) = false := by
  rw [List.any_eq_false]
  intro p hp
  obtain ⟨h1, h2⟩ := (C11L.mem_smallPrimes_iff p).1 hp
  simp only [beq_iff_eq]
  intro h0
  apply h p h1 h2
  have : ((n % p : Nat) : Int) = 0 := by push_cast; exact h0
  exact Nat.dvd_of_mod_eq_zero (by exact_mod_cast this)

end TssVerif.C10L
