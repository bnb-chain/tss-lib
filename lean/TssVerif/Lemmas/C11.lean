import TssVerif.Lemmas.ZkVerify
import TssVerif.Lemmas.CurveLaw
import TssVerif.Lemmas.C17
import TssVerif.Lemmas.VssVerify
import Mathlib.Data.Int.ModEq
import Mathlib.Data.ZMod.Basic
import Mathlib.Algebra.Field.ZMod
import Mathlib.Tactic.Abel
import Mathlib.Data.Nat.Prime.Basic
import Mathlib.Tactic.Ring
import Mathlib.Tactic.Linarith
/-! Helpers for C11 (decision logic of the zero-knowledge verifiers): the specification of Go's `Exp` in
congruence form, what the point operations of a lawful curve return, and the algebra of the extraction steps. -/
set_option autoImplicit false
namespace TssVerif.C11L
open TssVerif TssVerif.Zk TssVerif.Paillier

/-! ## Go's `Exp` as a congruence -/

/-- **specification of `Exp`** (non-nil result `r`), uniformly in the sign of the exponent:
`r · x^{y⁻} ≡ x^{y⁺} (mod m)` with `y⁺ = max y 0`, `y⁻ = max (−y) 0`; a negative exponent needs a unit. -/
theorem goExp_modEq {x y : Int} {m r : Nat} (h : goExp x y m = some r) :
    m ≠ 0 ∧ r < m ∧ (r : Int) * x ^ (-y).toNat ≡ x ^ y.toNat [ZMOD m] ∧ (y < 0 → Int.gcd x m = 1) := by
  have hm : m ≠ 0 := by
    rintro rfl; rw [goExp_zero_mod] at h; cases h
  have hmpos : 0 < m := Nat.pos_of_ne_zero hm
  refine ⟨hm, ?_⟩
  by_cases hy : 0 ≤ y
  · rw [goExp_of_nonneg x hm hy] at h
    injection h with h
    subst h
    refine ⟨Nat.mod_lt _ hmpos, ?_, fun h0 => absurd h0 (by omega)⟩
    have : (-y).toNat = 0 := by omega
    rw [this, pow_zero, mul_one]
    push_cast
    rw [natCast_emod_toNat x hm]
    exact (Int.emod_emod_of_dvd _ (dvd_refl _)).trans (Int.ModEq.pow _ (Int.mod_modEq x m))
  · have hy' : y < 0 := by omega
    rw [goExp_of_neg x hm hy'] at h
    cases hinv : modInverse x m with
    | none => rw [hinv] at h; cases h
    | some inv =>
      rw [hinv] at h
      injection h with h
      subst h
      obtain ⟨h1, _⟩ := modInverse_spec hinv
      refine ⟨Nat.mod_lt _ hmpos, ?_, fun _ => ((modInverse_isSome_iff x m).1 (by rw [hinv]; rfl)).2⟩
      have : y.toNat = 0 := by omega
      rw [this, pow_zero]
      push_cast
      have e1 : ((inv : Int) ^ (-y).toNat % (m : Int)) * x ^ (-y).toNat ≡ (inv : Int) ^ (-y).toNat * x ^ (-y).toNat [ZMOD m] :=
        Int.ModEq.mul_right _ (Int.mod_modEq _ _)
      refine e1.trans ?_
      rw [← mul_pow]
      have e2 : (inv : Int) * x ≡ 1 [ZMOD m] := by
        rw [mul_comm]
        show x * inv % (m : Int) = 1 % m
        exact h1
      simpa using e2.pow (-y).toNat

/-- non-negative exponent -/
theorem goExp_modEq_nonneg {x y : Int} {m r : Nat} (hy : 0 ≤ y) (h : goExp x y m = some r) :
    (r : Int) ≡ x ^ y.toNat [ZMOD m] := by
  obtain ⟨_, _, h3, _⟩ := goExp_modEq h
  have : (-y).toNat = 0 := by omega
  rwa [this, pow_zero, mul_one] at h3

/-- exponent `−e`, `e` a natural number -/
theorem goExp_modEq_negNat {x : Int} {e m r : Nat} (h : goExp x (-(e : Int)) m = some r) :
    (r : Int) * x ^ e ≡ 1 [ZMOD m] := by
  obtain ⟨_, _, h3, _⟩ := goExp_modEq h
  have h1 : (-(-(e : Int))).toNat = e := by omega
  have h2 : (-(e : Int)).toNat = 0 := by omega
  rwa [h1, h2, pow_zero] at h3

theorem natAbs_cast_of_pos {n : Int} (h : 0 < n) : ((n.natAbs : Nat) : Int) = n := by omega

theorem natAbs_mul_self_cast (n : Int) : (((n * n).natAbs : Nat) : Int) = n * n := by
  rw [Int.natCast_natAbs, abs_mul_self]

/-- `(a·b mod M)·c mod M`, the shape of every three-factor product in the verifiers -/
theorem natCast_mulmod3 (a b c M : Nat) : ((a * b % M * c % M : Nat) : Int) ≡ (a : Int) * b * c [ZMOD M] := by
  have : a * b % M * c % M ≡ a * b * c [MOD M] := (Nat.mod_modEq _ _).trans ((Nat.mod_modEq _ _).mul_right c)
  have := Int.natCast_modEq_iff.2 this
  push_cast at this ⊢
  exact this

theorem natCast_mulmod2 (a b M : Nat) : ((a * b % M : Nat) : Int) ≡ (a : Int) * b [ZMOD M] := by
  have := Int.natCast_modEq_iff.2 (Nat.mod_modEq (a * b) M)
  push_cast at this ⊢
  exact this

/-- `(x · b mod M).toNat`, the shape of the right-hand sides computed over `Int` -/
theorem toNat_emod_cast (x : Int) {M : Nat} (hM : M ≠ 0) : (((x % (M : Int)).toNat : Nat) : Int) ≡ x [ZMOD M] := by
  rw [natCast_emod_toNat x hM]; exact Int.mod_modEq _ _

/-- from the inverse-based check `u = g · s · c⁻ᵉ` to the multiplied-through form `u · cᵉ ≡ G · S` -/
theorem mul_through {M u g s cE cPow G S : Int} (hu : u ≡ g * s * cE [ZMOD M]) (hc : cE * cPow ≡ 1 [ZMOD M])
    (hg : g ≡ G [ZMOD M]) (hs : s ≡ S [ZMOD M]) : u * cPow ≡ G * S [ZMOD M] := by
  have h1 : u * cPow ≡ g * s * cE * cPow [ZMOD M] := hu.mul_right _
  have h2 : g * s * cE * cPow = g * s * (cE * cPow) := by ring
  have h3 : g * s * (cE * cPow) ≡ G * S * 1 [ZMOD M] := (hg.mul hs).mul hc
  rw [h2] at h1
  simpa using h1.trans h3


/-- `a·b mod M = (x mod M).toNat` is the congruence `a·b ≡ x` -/
theorem modEq_of_mulmod2_eq {M a b : Nat} {x : Int} (hM : M ≠ 0) (h : a * b % M = (x % (M : Int)).toNat) :
    (a : Int) * b ≡ x [ZMOD M] := by
  have e1 := natCast_mulmod2 a b M
  rw [h] at e1
  exact e1.symm.trans (toNat_emod_cast x hM)

theorem modEq_of_mulmod3_eq {M a b c : Nat} {x : Int} (hM : M ≠ 0)
    (h : a * b % M * c % M = (x % (M : Int)).toNat) : (a : Int) * b * c ≡ x [ZMOD M] := by
  have e1 := natCast_mulmod3 a b c M
  rw [h] at e1
  exact e1.symm.trans (toNat_emod_cast x hM)

/-! ## curve operations on a lawful curve -/
section curve
variable {P : Type} {C : Curve P}

theorem ecBaseMult_nat_ok {k : Nat} {r : ECPoint} (h : C.ecBaseMult (k : Int) = .ok r) :
    C.toAffine (C.smul k C.base) = some r := by
  have := ((C17L.ecBaseMult_outcomes C (k : Int)).2.2 r).1 h
  rwa [Int.natAbs_natCast] at this

theorem ecScalarMult_nat_ok {a : ECPoint} {k : Nat} {r : ECPoint} (h : C.ecScalarMult a (k : Int) = .ok r) :
    ∃ pa, C.lift a = some pa ∧ C.toAffine (C.smul k pa) = some r := by
  have := ((C17L.ecScalarMult_outcomes C a (k : Int)).2.2 r).1 h
  rwa [Int.natAbs_natCast] at this

/-- `ecAdd` of the affine form of a known point `pa` -/
theorem ecAdd_ok_left (hC : C.Lawful) {a b r : ECPoint} {pa : P} (ha : C.toAffine pa = some a)
    (h : C.ecAdd a b = .ok r) : ∃ pb, C.lift b = some pb ∧ C.toAffine (C.add pa pb) = some r := by
  obtain ⟨pa', pb, ha', hb, hr⟩ := (C17L.ecAdd_ok_iff C a b r).1 h
  rw [Vss.lift_of_toAffine hC ha] at ha'
  cases ha'
  exact ⟨pb, hb, hr⟩

theorem ecAdd_ok_right (hC : C.Lawful) {a b r : ECPoint} {pb : P} (hb : C.toAffine pb = some b)
    (h : C.ecAdd a b = .ok r) : ∃ pa, C.lift a = some pa ∧ C.toAffine (C.add pa pb) = some r := by
  obtain ⟨pa, pb', ha, hb', hr⟩ := (C17L.ecAdd_ok_iff C a b r).1 h
  rw [Vss.lift_of_toAffine hC hb] at hb'
  cases hb'
  exact ⟨pa, ha, hr⟩

theorem ecAdd_ok_both (hC : C.Lawful) {a b r : ECPoint} {pa pb : P} (ha : C.toAffine pa = some a)
    (hb : C.toAffine pb = some b) (h : C.ecAdd a b = .ok r) : C.toAffine (C.add pa pb) = some r := by
  obtain ⟨pb', hb', hr⟩ := ecAdd_ok_left hC ha h
  rw [Vss.lift_of_toAffine hC hb] at hb'
  cases hb'
  exact hr

/-- the point check of `ProofBobWC.Verify` as an equation between group elements:
`s·G = e·X + U` for the points `X`, `U` that the coordinates denote -/
theorem point_relation (hC : C.Lawful) {s e : Nat} {X U g xe : ECPoint}
    (h1 : C.ecBaseMult (s : Int) = .ok g) (h2 : C.ecScalarMult X (e : Int) = .ok xe)
    (h3 : C.ecAdd xe U = .ok g) :
    ∃ pX pU : P, C.lift X = some pX ∧ C.lift U = some pU ∧ C.smul s C.base = C.add (C.smul e pX) pU := by
  obtain ⟨pX, hX, hxe⟩ := ecScalarMult_nat_ok h2
  obtain ⟨pU, hU, hsum⟩ := ecAdd_ok_left hC hxe h3
  exact ⟨pX, pU, hX, hU, hC.toAffine_inj _ _ ((ecBaseMult_nat_ok h1).trans hsum.symm)⟩

end curve

/-! ## `modproof` -/

theorem modYs_length (H : HashFn) (sess : Bytes) (w n : Int) : ∀ (k : Nat) (acc ys : List Nat),
    modYs H sess w n k acc = .ok ys → ys.length = acc.length + k
  | 0, acc, ys, h => by
    simp only [modYs, Outcome.ok.injEq] at h; subst h; simp
  | k + 1, acc, ys, h => by
    unfold modYs at h
    split at h
    · cases h
    · have := modYs_length H sess w n k _ ys h
      simp only [List.length_append, List.length_singleton] at this
      omega

theorem natpow_mod_cast {x : Int} (hx : 0 ≤ x) (k : Nat) {n : Int} (hn : 0 < n) :
    ((x.toNat ^ k % n.toNat : Nat) : Int) ≡ x ^ k [ZMOD n] := by
  have := Int.natCast_modEq_iff.2 (Nat.mod_modEq (x.toNat ^ k) n.toNat)
  rw [Int.toNat_of_nonneg (le_of_lt hn), Nat.cast_pow, Int.toNat_of_nonneg hx] at this
  exact this

/-- the right-hand side of the fourth-root check of `modVerify`, as a congruence -/
theorem mod_rhs_modEq {n : Int} (hn : 0 < n) (w : Int) (hw : 0 ≤ w) (y : Nat) (ai bi : Bool) :
    (((if bi then (w.toNat * (if ai then ((-1 : Int) * y % n).toNat else y)) % n.toNat
        else (if ai then ((-1 : Int) * y % n).toNat else y) : Nat)) : Int)
      ≡ (-1) ^ ai.toNat * w ^ bi.toNat * y [ZMOD n] := by
  have hn0 : n.toNat ≠ 0 := by omega
  have hnc : ((n.toNat : Nat) : Int) = n := Int.toNat_of_nonneg (le_of_lt hn)
  have hwc : ((w.toNat : Nat) : Int) = w := Int.toNat_of_nonneg hw
  have r1 : (((if ai then ((-1 : Int) * y % n).toNat else y : Nat)) : Int) ≡ (-1) ^ ai.toNat * y [ZMOD n] := by
    cases ai
    · simp
    · have := toNat_emod_cast ((-1 : Int) * y) hn0
      rw [hnc] at this
      simpa using this
  cases bi
  · simpa using r1
  · have e := natCast_mulmod2 w.toNat (if ai then ((-1 : Int) * y % n).toNat else y) n.toNat
    rw [hnc, hwc] at e
    simp only [if_true, Bool.toNat_true, pow_one]
    refine e.trans ?_
    have := r1.mul_left w
    refine this.trans ?_
    rw [show w * ((-1) ^ ai.toNat * (y : Int)) = (-1) ^ ai.toNat * w * y by ring]

/-! ## `facproof` -/

/-- first and second equation of `facproof`: `a, b, c` are the values of `Exp(s, z)`, `Exp(t, w)`, `Exp(P, e)`,
`x, p` what `a`, `c` are congruent to, and `b·nw ≡ pw` is `Exp` with a possibly negative exponent `w` -/
theorem fac_eq12 {M a b c A x p pw nw : Int} (h : a * b ≡ A * c [ZMOD M]) (ha : a ≡ x [ZMOD M])
    (hb : b * nw ≡ pw [ZMOD M]) (hc : c ≡ p [ZMOD M]) : x * pw ≡ A * p * nw [ZMOD M] := by
  have h1 : x * pw ≡ a * (b * nw) [ZMOD M] := (ha.mul hb).symm
  have h2 : a * (b * nw) = a * b * nw := by ring
  rw [h2] at h1
  exact h1.trans ((h.trans (hc.mul_left A)).mul_right nw)

/-- third equation of `facproof`: `x6, x7, x8` are `Exp(Q, z1)`, `Exp(t, v)`, `Exp(R, e)` with
`R = Exp(s, N0)·Exp(t, σ) mod N̂` (`a`, `b`); `v`, `σ` may be negative (`x7·vn ≡ vp`, `b·sn ≡ sp`) -/
theorem fac_eq3 {M x6 x7 x8 T R a b Qz vp vn sp sn sn0 : Int} {e : Nat}
    (h : x6 * x7 ≡ T * x8 [ZMOD M]) (h6 : x6 ≡ Qz [ZMOD M]) (h7 : x7 * vn ≡ vp [ZMOD M])
    (h8 : x8 ≡ R ^ e [ZMOD M]) (hR : R ≡ a * b [ZMOD M]) (ha : a ≡ sn0 [ZMOD M]) (hb : b * sn ≡ sp [ZMOD M]) :
    Qz * vp * sn ^ e ≡ T * (sn0 * sp) ^ e * vn [ZMOD M] := by
  have h1 : Qz * vp * sn ^ e ≡ x6 * (x7 * vn) * sn ^ e [ZMOD M] := ((h6.mul h7).symm).mul_right _
  have h2 : x6 * (x7 * vn) * sn ^ e = x6 * x7 * (vn * sn ^ e) := by ring
  rw [h2] at h1
  have h3 : x6 * x7 * (vn * sn ^ e) ≡ T * R ^ e * (vn * sn ^ e) [ZMOD M] := (h.trans (h8.mul_left T)).mul_right _
  have h4 : T * R ^ e * (vn * sn ^ e) = T * (R * sn) ^ e * vn := by ring
  rw [h4] at h3
  have h5 : R * sn ≡ sn0 * sp [ZMOD M] := by
    have : R * sn ≡ a * b * sn [ZMOD M] := hR.mul_right _
    rw [show a * b * sn = a * (b * sn) by ring] at this
    exact this.trans (ha.mul hb)
  exact (h1.trans h3).trans (((h5.pow e).mul_left T).mul_right vn)

/-- one two-factor check of a verifier, `Exp(a, s1)·Exp(b, s2) mod m = (Exp(c, e)·v mod m)`, as a congruence -/
theorem exp_mul_exp_modEq {m : Nat} (hm : m ≠ 0) {a b c v s1 s2 : Int} {e r1 r2 r3 : Nat} (hs1 : 0 ≤ s1)
    (hs2 : 0 ≤ s2) (h1 : goExp a s1 m = some r1) (h2 : goExp b s2 m = some r2) (h3 : goExp c e m = some r3)
    (h : r1 * r2 % m = ((r3 : Int) * v % (m : Int)).toNat) :
    a ^ s1.toNat * b ^ s2.toNat ≡ c ^ e * v [ZMOD m] := by
  have e3 := goExp_modEq_nonneg (Int.natCast_nonneg e) h3
  rw [Int.toNat_natCast] at e3
  exact (((goExp_modEq_nonneg hs1 h1).mul (goExp_modEq_nonneg hs2 h2)).symm.trans (modEq_of_mulmod2_eq hm h)).trans
    (e3.mul_right _)

/-- first and second check of `facproof` on the values of `Exp`; the exponent `w` may be negative -/
theorem fac_check12 {m : Nat} (hm : m ≠ 0) {s t A P z w : Int} {e x1 x2 x3 : Nat} (hz : 0 ≤ z)
    (h1 : goExp s z m = some x1) (h2 : goExp t w m = some x2) (h3 : goExp P e m = some x3)
    (h : x1 * x2 % m = (A * (x3 : Int) % (m : Int)).toNat) :
    s ^ z.toNat * t ^ w.toNat ≡ A * P ^ e * t ^ (-w).toNat [ZMOD m] := by
  have e3 := goExp_modEq_nonneg (Int.natCast_nonneg e) h3
  rw [Int.toNat_natCast] at e3
  exact fac_eq12 (modEq_of_mulmod2_eq hm h) (goExp_modEq_nonneg hz h1) (goExp_modEq h2).2.2.1 e3

/-- third check of `facproof` on the values of `Exp`; `σ` and `v` may be negative -/
theorem fac_check3 {m : Nat} (hm : m ≠ 0) {s t Q T n0 σ z1 v : Int} {e r1 r2 r3 r4 r5 : Nat} (hn0 : 0 ≤ n0)
    (hz1 : 0 ≤ z1) (h1 : goExp s n0 m = some r1) (h2 : goExp t σ m = some r2) (h3 : goExp Q z1 m = some r3)
    (h4 : goExp t v m = some r4) (h5 : goExp ((r1 * r2 % m : Nat) : Int) e m = some r5)
    (h : r3 * r4 % m = (T * (r5 : Int) % (m : Int)).toNat) :
    Q ^ z1.toNat * t ^ v.toNat * (t ^ (-σ).toNat) ^ e ≡
      T * (s ^ n0.toNat * t ^ σ.toNat) ^ e * t ^ (-v).toNat [ZMOD m] := by
  have e8 := goExp_modEq_nonneg (Int.natCast_nonneg e) h5
  rw [Int.toNat_natCast] at e8
  exact fac_eq3 (modEq_of_mulmod2_eq hm h) (goExp_modEq_nonneg hz1 h3) (goExp_modEq h4).2.2.1 e8
    (natCast_mulmod2 r1 r2 m) (goExp_modEq_nonneg hn0 h1) (goExp_modEq h2).2.2.1

/-! ## extraction steps -/

/-- scalars act modulo `q` on a point killed by `q` -/
theorem zsmul_congr_of_torsion {G : Type} [AddCommGroup G] {q : Nat} {Y : G} (hY : q • Y = 0) {a b : ℤ}
    (hab : a ≡ b [ZMOD q]) : a • Y = b • Y := by
  obtain ⟨j, hj⟩ := (Int.modEq_iff_dvd.1 hab)
  have : b • Y - a • Y = 0 := by
    rw [← sub_smul, hj, mul_comm, mul_zsmul, natCast_zsmul, hY, zsmul_zero]
  exact (sub_eq_zero.1 this).symm

/-- **special soundness of the Schnorr protocol** in an abstract group: two transcripts with the same commitment and
different challenges determine the discrete logarithm -/
theorem special_sound_group {G : Type} [AddCommGroup G] {q : Nat} (hq : q.Prime) {g X A : G}
    (hg : q • g = 0) (hX : q • X = 0) {t t' c c' : Nat} (hc : c < q) (hc' : c' < q) (hne : c ≠ c')
    (e1 : t • g = A + c • X) (e2 : t' • g = A + c' • X) :
    X = ((((t : ZMod q) - t') * ((c : ZMod q) - c')⁻¹).val) • g := by
  have : Fact q.Prime := ⟨hq⟩
  have : NeZero q := ⟨hq.ne_zero⟩
  set k : ZMod q := ((c : ZMod q) - c')⁻¹ with hk
  have hcc : (c : ZMod q) - c' ≠ 0 := by
    rw [sub_ne_zero]
    intro h
    exact hne (Nat.ModEq.eq_of_lt_of_lt ((ZMod.natCast_eq_natCast_iff _ _ _).1 h) hc hc')
  -- the difference of the two equations, with integer scalars
  have hd : ((t : ℤ) - t') • g = ((c : ℤ) - c') • X := by
    rw [sub_smul, sub_smul, natCast_zsmul, natCast_zsmul, natCast_zsmul, natCast_zsmul, e1, e2]
    abel
  have h1 : ((k.val : ℤ) * ((c : ℤ) - c')) • X = (1 : ℤ) • X := by
    apply zsmul_congr_of_torsion hX
    rw [← ZMod.intCast_eq_intCast_iff]
    push_cast
    rw [ZMod.natCast_zmod_val, hk, inv_mul_cancel₀ hcc]
  have h2 : ((k.val : ℤ) * ((t : ℤ) - t')) • g
      = (((((t : ZMod q) - t') * k).val : ℕ) : ℤ) • g := by
    apply zsmul_congr_of_torsion hg
    rw [← ZMod.intCast_eq_intCast_iff]
    push_cast
    rw [ZMod.natCast_zmod_val, ZMod.natCast_zmod_val, mul_comm]
  rw [one_zsmul] at h1
  rw [← natCast_zsmul, ← h2, mul_zsmul, hd, ← mul_zsmul, h1]

/-- an honest response `e·x + α` with `e ≥ 1` exceeds every bound that `x` exceeds -/
theorem lt_response {B e x α : Nat} (hx : B < x) (he : 1 ≤ e) : (B : Int) < ((e * x + α : Nat) : Int) :=
  Int.ofNat_lt.2 (lt_of_lt_of_le hx (le_trans (Nat.le_mul_of_pos_left x he) (Nat.le_add_right _ _)))

/-- the other way round: a response `s = e·m + α ≤ B` with `e ≥ 1`, `α ≥ 0` bounds `m` -/
theorem le_of_mul_add_le {s e m α B : Int} (hs : s = e * m + α) (hα : 0 ≤ α) (he : 1 ≤ e) (hB : s ≤ B)
    (hB0 : 0 ≤ B) : m ≤ B := by
  by_cases hm : m ≤ 0
  · omega
  · have : m ≤ e * m := le_mul_of_one_le_left (by omega) he
    omega

section bobrej
variable {P : Type} (C : Curve P)

/-- the `(X, U)` argument of the challenge as `ProveBobWC` forms it -/
def proverXU (X u : Option ECPoint) : Option (ECPoint × ECPoint) :=
  match X, u with
  | some X, some U => some (X, U)
  | _, _ => none

/-- the two responses of `ProveBob(WC)` that the verifier range-checks, as natural numbers -/
theorem bobProve_s1_t1 (H : HashFn) (sess : Bytes) (n ntilde h1 h2 c1 c2 x y r : Nat) (X : Option ECPoint) (k : BobCoins)
    (pf : BobProof) (u : Option ECPoint)
    (hp : bobProve C H sess n ntilde h1 h2 c1 c2 x y r X k = .ok (pf, u)) :
    pf.s1 = ((bobChallenge C H sess n c1 c2 (proverXU X u) pf * x + k.alpha : Nat) : Int) ∧
    pf.t1 = ((bobChallenge C H sess n c1 c2 (proverXU X u) pf * y + k.gamma : Nat) : Int) := by
  unfold bobProve at hp
  cases X <;>
  · dsimp only at hp
    obtain ⟨u', hu', hp⟩ := Outcome.bind_eq_ok.1 hp
    cases hp
    refine ⟨?_, ?_⟩ <;> simp only [proverXU] <;> push_cast <;> rfl
end bobrej

/-! ## `paillier.Proof` -/

/-- `smallPrimes` is exactly the set of primes below 1000 -/
theorem mem_smallPrimes_iff (p : Nat) : p ∈ smallPrimes ↔ p.Prime ∧ p < 1000 := by
  unfold smallPrimes
  simp only [List.mem_filter, List.mem_range, Bool.and_eq_true, decide_eq_true_eq, List.all_eq_true,
    Bool.or_eq_true, bne_iff_ne, ne_eq]
  rw [Nat.prime_def_lt]
  constructor
  · rintro ⟨hlt, h2, hall⟩
    refine ⟨⟨h2, fun m hm hd => ?_⟩, hlt⟩
    rcases hall m hm with h | h
    · have : m ≠ 0 := by rintro rfl; simp at hd; omega
      omega
    · exact absurd (Nat.mod_eq_zero_of_dvd hd) h
  · rintro ⟨⟨h2, hall⟩, hlt⟩
    refine ⟨hlt, h2, fun d hd => ?_⟩
    by_cases h : d < 2
    · exact Or.inl h
    · right
      intro hmod
      have := hall d hd (Nat.dvd_of_mod_eq_zero hmod)
      omega

/-- nothing is a unit modulo `n ≤ 1` … -/
theorem not_inGroup_of_le_one {n : Int} (hn : n ≤ 1) (v : Nat) : isNumberInMultiplicativeGroup n v = false := by
  unfold isNumberInMultiplicativeGroup
  rw [Bool.eq_false_iff]
  intro h
  simp only [Bool.and_eq_true, decide_eq_true_eq] at h
  omega

/-- … so every candidate is rejected and the loop leaves through the rejection bound; each rejection costs
one unit of fuel, so `maxXsRejections - cnt + 1` units reach the bound from counter `cnt` -/
theorem loop_all_rejected (H : HashFn) (m : Nat) (kb sxb syb nb : Bytes) (nInt : Int) (blocks : Nat)
    (hn : nInt ≤ 1) : ∀ (fuel i cnt : Nat) (acc : List Nat), i < m → cnt ≤ maxXsRejections →
      maxXsRejections - cnt + 1 ≤ fuel →
      generateXsLoop H m kb sxb syb nb nInt blocks fuel i cnt acc = none := by
  intro fuel
  induction fuel with
  | zero => intro i cnt acc _ _ h; omega
  | succ fuel ih =>
    intro i cnt acc hi hc hf
    unfold generateXsLoop
    rw [if_neg (by omega)]
    dsimp only
    rw [not_inGroup_of_le_one hn]
    simp only [Bool.false_eq_true, if_false]
    split
    · rfl
    · exact ih _ _ _ hi (by omega) (by omega)

theorem generateXs_none_of_le_one (H : HashFn) {m : Nat} (hm : 0 < m) (k : Int) {n : Int} (hn : n ≤ 1)
    (pub : ECPoint) : generateXs H m k n pub = none := by
  unfold generateXs
  exact loop_all_rejected H m _ _ _ _ n _ hn _ _ _ _ hm (Nat.zero_le _) (by omega)

theorem generateXs_some_pos {H : HashFn} {m : Nat} {k n : Int} {pub : ECPoint} {xs : List Nat} (hm : 0 < m)
    (h : generateXs H m k n pub = some xs) : 0 < n := by
  by_contra hn
  rw [generateXs_none_of_le_one H hm k (by omega) pub] at h
  cases h

end TssVerif.C11L
