import TssVerif.Core.Outcome
/-! The `Outcome` monad as the proofs use it: `>>=` evaluated on each constructor, and inverted ("a bind
returned this, so its first half returned a value and the rest returned this"), also through the guard
shapes the model is written in (`if c then .ok false else k`, `if c then .err t else k`, `if c then .ok a else .err t`).
Core Lean only, so that every lemma file can import it. -/
set_option autoImplicit false
namespace TssVerif.Outcome

instance : LawfulMonad Outcome := LawfulMonad.mk' (m := Outcome)
  (id_map := fun x => by cases x <;> rfl)
  (pure_bind := fun _ _ => rfl)
  (bind_assoc := fun x _ _ => by cases x <;> rfl)

@[simp] theorem ok_bind {α β} (a : α) (f : α → Outcome β) : (Outcome.ok a >>= f) = f a := rfl
@[simp] theorem err_bind {α β} (t : String) (f : α → Outcome β) : (Outcome.err t >>= f) = .err t := rfl
@[simp] theorem panic_bind {α β} (t : String) (f : α → Outcome β) :
    (Outcome.panic t >>= f) = .panic t := rfl
@[simp] theorem pure_eq {α} (a : α) : (pure a : Outcome α) = .ok a := rfl

variable {α β : Type}

theorem bind_eq_ok {x : Outcome α} {f : α → Outcome β} {b : β} :
    (x >>= f) = .ok b ↔ ∃ a, x = .ok a ∧ f a = .ok b := by
  cases x with
  | ok a => exact ⟨fun h => ⟨a, rfl, h⟩, fun ⟨_, e, h⟩ => by cases e; exact h⟩
  | err t => exact ⟨nofun, fun ⟨_, e, _⟩ => nomatch e⟩
  | panic t => exact ⟨nofun, fun ⟨_, e, _⟩ => nomatch e⟩

theorem bind_eq_err {x : Outcome α} {f : α → Outcome β} {t : String} :
    (x >>= f) = .err t ↔ x = .err t ∨ ∃ a, x = .ok a ∧ f a = .err t := by
  cases x with
  | ok a => exact ⟨fun h => .inr ⟨a, rfl, h⟩, fun h => h.elim nofun fun ⟨_, e, h⟩ => by cases e; exact h⟩
  | err s => exact ⟨fun h => .inl (by cases h; rfl), fun h => h.elim (fun e => by cases e; rfl) fun ⟨_, e, _⟩ => nomatch e⟩
  | panic s => exact ⟨nofun, fun h => h.elim nofun fun ⟨_, e, _⟩ => nomatch e⟩

theorem bind_eq_panic {x : Outcome α} {f : α → Outcome β} {t : String} :
    (x >>= f) = .panic t ↔ x = .panic t ∨ ∃ a, x = .ok a ∧ f a = .panic t := by
  cases x with
  | ok a => exact ⟨fun h => .inr ⟨a, rfl, h⟩, fun h => h.elim nofun fun ⟨_, e, h⟩ => by cases e; exact h⟩
  | err s => exact ⟨nofun, fun h => h.elim nofun fun ⟨_, e, _⟩ => nomatch e⟩
  | panic s => exact ⟨fun h => .inl (by cases h; rfl), fun h => h.elim (fun e => by cases e; rfl) fun ⟨_, e, _⟩ => nomatch e⟩

/-- a verifier guard `if c then return false` that an accepting run got past -/
theorem guard_false_eq_true {c : Prop} [Decidable c] {k : Outcome Bool} :
    (if c then Outcome.ok false else k) = .ok true ↔ ¬ c ∧ k = .ok true := by
  by_cases h : c
  · rw [if_pos h]; exact ⟨nofun, fun ⟨hc, _⟩ => absurd h hc⟩
  · rw [if_neg h]; exact ⟨fun hk => ⟨h, hk⟩, fun ⟨_, hk⟩ => hk⟩

/-- a guard `if c then return err` that a run returning a value got past -/
theorem guard_err_eq_ok {c : Prop} [Decidable c] {t : String} {k : Outcome α} {a : α} :
    (if c then Outcome.err t else k) = .ok a ↔ ¬ c ∧ k = .ok a := by
  by_cases h : c
  · rw [if_pos h]; exact ⟨nofun, fun ⟨hc, _⟩ => absurd h hc⟩
  · rw [if_neg h]; exact ⟨fun hk => ⟨h, hk⟩, fun ⟨_, hk⟩ => hk⟩

/-- a range test in front of a value (`if c then .ok a else .err t`, the shape of the pure Paillier operations), read
by outcome -/
theorem ite_ok_err (c : Prop) [Decidable c] (a : α) (t : String) :
    ((∃ s, (if c then Outcome.ok a else .err t) = .err s) ↔ ¬ c) ∧
    ((∃ b, (if c then Outcome.ok a else .err t) = .ok b) ↔ c) ∧
    (∀ s, (if c then Outcome.ok a else .err t) ≠ .panic s) := by
  by_cases h : c <;> simp [h]

theorem ite_ok_err_eq_ok {c : Prop} [Decidable c] {a b : α} {t : String} :
    (if c then Outcome.ok a else .err t) = .ok b ↔ c ∧ b = a := by
  by_cases h : c <;> simp [h, eq_comm]

/-- a value is returned exactly when the call neither crashes nor reports an error -/
theorem exists_ok_iff {o : Outcome α} :
    (∃ a, o = .ok a) ↔ (∀ t, o ≠ .panic t) ∧ (∀ t, o ≠ .err t) := by
  cases o with
  | ok a => exact ⟨fun _ => ⟨fun _ => nofun, fun _ => nofun⟩, fun _ => ⟨a, rfl⟩⟩
  | err t => exact ⟨fun ⟨_, h⟩ => (nomatch h), fun ⟨_, h⟩ => absurd rfl (h t)⟩
  | panic t => exact ⟨fun ⟨_, h⟩ => (nomatch h), fun ⟨h, _⟩ => absurd rfl (h t)⟩

end TssVerif.Outcome
