import Mathlib.Data.List.Perm.Basic
import Mathlib.Data.List.Nodup
/-! A small executable model of `BuildLocalSaveDataSubset` (`ecdsa/keygen/save_data.go`). -/
set_option autoImplicit false
namespace TssVerif.MiscL

/-- `keysToIndices[key]` of the Go code: the map is filled front to back, so the LAST position wins -/
def lastPos (key : Nat) : List Nat → Option Nat
  | [] => none
  | k :: ks =>
    match lastPos key ks with
    | some j => some (j + 1)
    | none => if k = key then some 0 else none

/-- one re-indexed column entry: `source[keysToIndices[key]]`; `none` = Go panics (key missing, or column too short) -/
def entryBy {α : Type} (keys : List Nat) (cols : List α) (key : Nat) : Option α :=
  (lastPos key keys).bind fun idx => cols[idx]?

/-- `BuildLocalSaveDataSubset` on one column (`Ks`, `NTildej`, `H1j`, `H2j`, `BigXj`, `PaillierPKs` alike):
for each selected key the saved entry at that key's position; `none` = panic -/
def subsetBy {α : Type} (keys : List Nat) (cols : List α) : List Nat → Option (List α)
  | [] => some []
  | s :: sel =>
    match entryBy keys cols s, subsetBy keys cols sel with
    | some a, some r => some (a :: r)
    | _, _ => none

theorem lastPos_some {key : Nat} {keys : List Nat} {idx : Nat} (h : lastPos key keys = some idx) :
    ∃ hlt : idx < keys.length, keys[idx] = key := by
  induction keys generalizing idx with
  | nil => exact absurd h (by simp [lastPos])
  | cons k ks ih =>
    unfold lastPos at h
    cases hl : lastPos key ks with
    | some j =>
      rw [hl] at h
      simp only [Option.some.injEq] at h
      subst h
      obtain ⟨h1, h2⟩ := ih hl
      exact ⟨by simp only [List.length_cons]; omega, by simpa using h2⟩
    | none =>
      rw [hl] at h
      simp only at h
      split at h
      · next hk =>
        simp only [Option.some.injEq] at h
        subst h
        exact ⟨by simp, by simpa using hk⟩
      · exact absurd h (by simp)

theorem lastPos_eq_none_iff (key : Nat) (keys : List Nat) : lastPos key keys = none ↔ key ∉ keys := by
  induction keys with
  | nil => simp [lastPos]
  | cons k ks ih =>
    unfold lastPos
    cases hl : lastPos key ks with
    | some j =>
      have : key ∈ ks := by
        by_contra hn
        rw [ih.2 hn] at hl
        exact absurd hl (by simp)
      simp [this]
    | none =>
      have hn := ih.1 hl
      by_cases hk : k = key
      · simp [hk]
      · simp only [hk, if_false, List.mem_cons, hn, or_false, true_iff]
        exact fun h => hk h.symm

theorem lastPos_of_nodup {keys : List Nat} (hnd : keys.Nodup) {idx : Nat} (hlt : idx < keys.length) :
    lastPos keys[idx] keys = some idx := by
  cases h : lastPos keys[idx] keys with
  | none => exact absurd (List.getElem_mem hlt) ((lastPos_eq_none_iff _ _).1 h)
  | some j =>
    obtain ⟨hj, he⟩ := lastPos_some h
    rw [(hnd.getElem_inj_iff (hi := hj) (hj := hlt)).1 he]

/-- one more selected key -/
theorem subsetBy_cons_eq_some_iff {α : Type} {keys : List Nat} {cols : List α} {s : Nat} {sel : List Nat}
    {r : List α} : subsetBy keys cols (s :: sel) = some r ↔
      ∃ a r', entryBy keys cols s = some a ∧ subsetBy keys cols sel = some r' ∧ r = a :: r' := by
  rw [subsetBy]
  cases entryBy keys cols s with
  | none => exact ⟨nofun, fun ⟨_, _, he, _⟩ => nomatch he⟩
  | some a =>
    cases subsetBy keys cols sel with
    | none => exact ⟨nofun, fun ⟨_, _, _, hs, _⟩ => nomatch hs⟩
    | some r' =>
      exact ⟨fun h => ⟨a, r', rfl, rfl, (Option.some.inj h).symm⟩,
        fun ⟨_, _, he, hs, hr⟩ => by cases he; cases hs; rw [hr]⟩

theorem subsetBy_eq_some_iff {α : Type} (keys : List Nat) (cols : List α) (sel : List Nat) (r : List α) :
    subsetBy keys cols sel = some r ↔
      r.length = sel.length ∧ ∀ j (h1 : j < sel.length) (h2 : j < r.length),
        entryBy keys cols sel[j] = some r[j] := by
  induction sel generalizing r with
  | nil =>
    simp only [subsetBy, Option.some.injEq, List.length_nil, List.length_eq_zero_iff]
    exact ⟨fun h => ⟨h.symm, fun j h1 => absurd h1 (by omega)⟩, fun h => h.1.symm⟩
  | cons s sel ih =>
    rw [subsetBy_cons_eq_some_iff]
    constructor
    · rintro ⟨a, r', he, hs, rfl⟩
      obtain ⟨hl, hall⟩ := (ih r').1 hs
      refine ⟨by simp [hl], fun j h1 h2 => ?_⟩
      cases j with
      | zero => simpa using he
      | succ j => simpa using hall j (by simpa using h1) (by simpa using h2)
    · rintro ⟨hlen, hall⟩
      cases r with
      | nil => simp at hlen
      | cons b r' =>
        have h0 := hall 0 (by simp) (by simp)
        simp only [List.getElem_cons_zero] at h0
        refine ⟨b, r', h0, (ih r').2 ⟨by simpa using hlen, fun j h1 h2 => ?_⟩, rfl⟩
        have hj := hall (j + 1) (by simpa using h1) (by simpa using h2)
        simp only [List.getElem_cons_succ] at hj
        exact hj

theorem subsetBy_isSome_iff {α : Type} (keys : List Nat) (cols : List α) (sel : List Nat) :
    (subsetBy keys cols sel).isSome ↔ ∀ s ∈ sel, (entryBy keys cols s).isSome := by
  induction sel with
  | nil => simp [subsetBy]
  | cons s sel ih =>
    rw [List.forall_mem_cons, ← ih]
    simp only [Option.isSome_iff_exists, subsetBy_cons_eq_some_iff]
    exact ⟨fun ⟨_, a, r', he, hs, _⟩ => ⟨⟨a, he⟩, r', hs⟩, fun ⟨⟨a, he⟩, r', hs⟩ => ⟨_, a, r', he, hs, rfl⟩⟩

theorem entryBy_isSome_iff {α : Type} (keys : List Nat) (cols : List α) (hlen : cols.length = keys.length)
    (key : Nat) : (entryBy keys cols key).isSome ↔ key ∈ keys := by
  unfold entryBy
  cases h : lastPos key keys with
  | none => simpa using (lastPos_eq_none_iff key keys).1 h
  | some idx =>
    obtain ⟨hlt, he⟩ := lastPos_some h
    have : key ∈ keys := he ▸ List.getElem_mem hlt
    simp only [Option.bind_some, this, iff_true]
    rw [List.getElem?_eq_getElem (by omega)]
    rfl

/-- re-ordering the selection re-orders the result the same way (the key ↦ entry association is preserved) -/
theorem subsetBy_perm {α : Type} (keys : List Nat) (cols : List α) {sel sel' : List Nat}
    (hp : sel.Perm sel') : ∀ {r : List α}, subsetBy keys cols sel = some r →
      ∃ r', subsetBy keys cols sel' = some r' ∧ (sel.zip r).Perm (sel'.zip r') := by
  induction hp with
  | nil => intro r h; exact ⟨r, h, List.Perm.refl _⟩
  | cons x _ ih =>
    intro r h
    obtain ⟨a, r1, he, hs, rfl⟩ := subsetBy_cons_eq_some_iff.1 h
    obtain ⟨r2, h2, hz⟩ := ih hs
    exact ⟨a :: r2, subsetBy_cons_eq_some_iff.2 ⟨a, r2, he, h2, rfl⟩, by simpa using hz.cons (x, a)⟩
  | swap x y l =>
    intro r h
    obtain ⟨b, r1, hey, hs, rfl⟩ := subsetBy_cons_eq_some_iff.1 h
    obtain ⟨a, r2, hex, hs2, rfl⟩ := subsetBy_cons_eq_some_iff.1 hs
    exact ⟨a :: b :: r2, subsetBy_cons_eq_some_iff.2
      ⟨a, _, hex, subsetBy_cons_eq_some_iff.2 ⟨b, r2, hey, hs2, rfl⟩, rfl⟩, by
      simpa using List.Perm.swap (x, a) (y, b) (l.zip r2)⟩
  | trans _ _ ih1 ih2 =>
    intro r h
    obtain ⟨r1, h1, hz1⟩ := ih1 h
    obtain ⟨r2, h2, hz2⟩ := ih2 h1
    exact ⟨r2, h2, hz1.trans hz2⟩

end TssVerif.MiscL
