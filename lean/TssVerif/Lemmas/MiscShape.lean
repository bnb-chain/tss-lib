import TssVerif.Core.Primes
import TssVerif.Lemmas.Paillier
import TssVerif.Lemmas.AlgBytes
import Mathlib.Data.Nat.Bitwise
import Mathlib.Tactic.Ring
/-! The byte masking of the safe-prime generator yields an odd
candidate of exactly the requested length with its two top bits set. -/
set_option autoImplicit false
namespace TssVerif.MiscL
open TssVerif TssVerif.Primes TssVerif.AlgL

theorem bytesToNat_concat (bs : List UInt8) (l : UInt8) :
    bytesToNat (bs ++ [l]) = bytesToNat bs * 256 + l.toNat := by
  rw [bytesToNat_append, bytesToNat_cons]
  simp [bytesToNat]

theorem bytesToNat_cons_bounds (x : UInt8) (rest : List UInt8) {lo hi : Nat} (h1 : lo ≤ x.toNat)
    (h2 : x.toNat < hi) :
    lo * 256 ^ rest.length ≤ bytesToNat (x :: rest) ∧ bytesToNat (x :: rest) < hi * 256 ^ rest.length := by
  rw [bytesToNat_cons]
  have hr := bytesToNat_lt rest
  have hl := Nat.mul_le_mul_right (256 ^ rest.length) h1
  have hu := Nat.mul_le_mul_right (256 ^ rest.length) (Nat.succ_le_of_lt h2)
  rw [Nat.succ_mul] at hu
  omega

theorem or_one_eq (x : Nat) : x ||| 1 = x + (1 - x % 2) := by
  have h1 : (x ||| 1) / 2 = x / 2 := by rw [Nat.or_div_two]; exact Nat.or_zero _
  have h2 : (x ||| 1) % 2 = 1 := Nat.or_mod_two_eq_one.2 (Or.inr rfl)
  omega

theorem u8_or_one (l : UInt8) :
    (UInt8.ofNat (l.toNat ||| 1)).toNat = l.toNat + (1 - l.toNat % 2) := by
  have hl := UInt8.toNat_lt l
  rw [UInt8.toNat_ofNat', or_one_eq]
  omega

theorem u8_or_128 (l : UInt8) :
    128 ≤ (UInt8.ofNat (l.toNat ||| 0x80)).toNat ∧ (UInt8.ofNat (l.toNat ||| 0x80)).toNat < 256 := by
  have hlt : l.toNat ||| 0x80 < 2 ^ 8 := Nat.or_lt_two_pow (UInt8.toNat_lt l) (by decide)
  rw [UInt8.toNat_ofNat', Nat.mod_eq_of_lt hlt]
  exact ⟨Nat.right_le_or, hlt⟩

theorem lastOdd_val (all : List UInt8) (hne : all ≠ []) :
    bytesToNat (match all.reverse with
      | [] => []
      | l :: r => (UInt8.ofNat (l.toNat ||| 1) :: r).reverse) =
    bytesToNat all + (1 - bytesToNat all % 2) := by
  rcases List.eq_nil_or_concat all with h | ⟨D, L, h⟩
  · exact absurd h hne
  · subst h
    rw [List.concat_eq_append, List.reverse_append, List.reverse_singleton, List.singleton_append]
    simp only [List.reverse_cons, List.reverse_reverse]
    rw [bytesToNat_concat, bytesToNat_concat, u8_or_one]
    omega

theorem pow256 (m : Nat) : 256 ^ m = 2 ^ (8 * m) := by
  rw [pow_mul]; rfl

/-- first byte, case `b ≥ 2` bits used: masked to `b` bits with the two top bits set -/
theorem head_bounds {b : Nat} (hb2 : 2 ≤ b) (hb8 : b ≤ 8) (x : Nat) :
    3 * 2 ^ (b - 2) ≤ (x % 2 ^ b ||| 3 * 2 ^ (b - 2)) ∧ (x % 2 ^ b ||| 3 * 2 ^ (b - 2)) < 2 ^ b ∧
    (x % 2 ^ b ||| 3 * 2 ^ (b - 2)) < 256 := by
  have e : 2 ^ b = 4 * 2 ^ (b - 2) := by
    obtain ⟨j, rfl⟩ : ∃ j, b = j + 2 := ⟨b - 2, by omega⟩
    rw [Nat.add_sub_cancel, pow_add]; ring
  have hpos : 0 < 2 ^ (b - 2) := Nat.two_pow_pos _
  have h1 : x % 2 ^ b < 2 ^ b := Nat.mod_lt _ (Nat.two_pow_pos _)
  have h2 : 3 * 2 ^ (b - 2) < 2 ^ b := by omega
  have h3 : (x % 2 ^ b ||| 3 * 2 ^ (b - 2)) < 2 ^ b := Nat.or_lt_two_pow h1 h2
  have h4 : 2 ^ b ≤ 2 ^ 8 := Nat.pow_le_pow_right (by omega) hb8
  exact ⟨Nat.right_le_or, h3, by omega⟩

/-- the shape of the candidate, stated on `qB = pBitLen − 1` (the generator asks for `pBitLen ≥ 6`; `qB ≥ 2`
is what the two top bits need) -/
theorem shape_core (qB : Nat) (b0 : UInt8) (rest : List UInt8) (hqB : 2 ≤ qB)
    (hlen : rest.length + 1 = (qB + 7) / 8) :
    shapeCandidate (qB + 1) (b0 :: rest) % 2 = 1 ∧
    3 * 2 ^ (qB - 2) ≤ shapeCandidate (qB + 1) (b0 :: rest) ∧
    shapeCandidate (qB + 1) (b0 :: rest) < 2 ^ qB := by
  -- evenness of the upper bound
  have hevenB : 2 ^ qB = 2 * 2 ^ (qB - 1) := by
    obtain ⟨j, rfl⟩ : ∃ j, qB = j + 1 := ⟨qB - 1, by omega⟩
    rw [Nat.add_sub_cancel, pow_succ]; ring
  -- it suffices to bound the value before the last bit is set
  suffices H : ∀ all : List UInt8, all ≠ [] →
      3 * 2 ^ (qB - 2) ≤ bytesToNat all → bytesToNat all < 2 ^ qB →
      (bytesToNat all + (1 - bytesToNat all % 2)) % 2 = 1 ∧
      3 * 2 ^ (qB - 2) ≤ bytesToNat all + (1 - bytesToNat all % 2) ∧
      bytesToNat all + (1 - bytesToNat all % 2) < 2 ^ qB by
    unfold shapeCandidate
    simp only [Nat.add_sub_cancel]
    by_cases hb : (if qB % 8 = 0 then 8 else qB % 8) ≥ 2
    · -- the first byte carries both top bits
      rw [if_pos hb]
      simp only
      -- `erw`: the `match` of `shapeCandidate` is another matcher than the one in `lastOdd_val`'s statement
      erw [lastOdd_val _ (List.cons_ne_nil _ _)]
      set b := (if qB % 8 = 0 then 8 else qB % 8) with hbdef
      have hb8 : b ≤ 8 := by rw [hbdef]; split <;> omega
      have hq : qB = 8 * rest.length + b := by rw [hbdef]; split <;> omega
      obtain ⟨g1, g2, g3⟩ := head_bounds hb hb8 b0.toNat
      have hto : (UInt8.ofNat (b0.toNat % 2 ^ b ||| 3 * 2 ^ (b - 2))).toNat =
          (b0.toNat % 2 ^ b ||| 3 * 2 ^ (b - 2)) := by
        rw [UInt8.toNat_ofNat', Nat.mod_eq_of_lt (by omega)]
      obtain ⟨hl, hu⟩ := bytesToNat_cons_bounds _ rest (hto.symm ▸ g1) (hto.symm ▸ g2)
      have e : 3 * 2 ^ (qB - 2) = 3 * 2 ^ (b - 2) * 256 ^ rest.length := by
        rw [pow256, hq, show 8 * rest.length + b - 2 = (b - 2) + 8 * rest.length by omega, pow_add]; ring
      have e' : 2 ^ qB = 2 ^ b * 256 ^ rest.length := by rw [pow256, hq, Nat.add_comm, pow_add]
      exact H _ (List.cons_ne_nil _ _) (e ▸ hl) (e' ▸ hu)
    · -- one bit in the first byte: the second top bit lives in the next byte
      rw [if_neg hb]
      have hb1 : (if qB % 8 = 0 then 8 else qB % 8) = 1 := by
        split at hb <;> split <;> omega
      have hq1 : qB % 8 = 1 := by split at hb1 <;> omega
      simp only [hb1]
      have hhead : (b0.toNat % 2 ^ 1 ||| 1) = 1 := by
        have : b0.toNat % 2 ^ 1 = 0 ∨ b0.toNat % 2 ^ 1 = 1 := by omega
        rcases this with h | h <;> rw [h] <;> rfl
      rw [hhead]
      cases rest with
      | nil => simp only [List.length_nil] at hlen; omega
      | cons b1 r =>
        simp only
        erw [lastOdd_val _ (List.cons_ne_nil _ _)]
        simp only [List.length_cons] at hlen
        have hq : qB = 8 * r.length + 9 := by omega
        obtain ⟨g1, g2⟩ := u8_or_128 b1
        obtain ⟨hl, hu⟩ := bytesToNat_cons_bounds _ r g1 g2
        have e1 : 256 ^ (r.length + 1) = 256 * 256 ^ r.length := by rw [pow_succ]; ring
        have e2 : 2 ^ qB = 512 * 256 ^ r.length := by rw [pow256, hq, pow_add]; ring
        have e3 : 2 ^ (qB - 2) = 128 * 256 ^ r.length := by
          rw [pow256, hq, show 8 * r.length + 9 - 2 = 8 * r.length + 7 by omega, pow_add]; ring
        have e0 : bytesToNat (UInt8.ofNat 1 :: UInt8.ofNat (b1.toNat ||| 0x80) :: r) =
            256 ^ (r.length + 1) + bytesToNat (UInt8.ofNat (b1.toNat ||| 0x80) :: r) := by
          rw [bytesToNat_cons, List.length_cons]
          show 1 * _ + _ = _
          rw [Nat.one_mul]
        -- the value is `256·P + inner` (`e0`, `e1`) with `128·P ≤ inner < 256·P` (`hl`, `hu`), and the
        -- targets are `384·P` and `512·P` (`e3`, `e2`), `P = 256^len`
        exact H _ (List.cons_ne_nil _ _) (by omega) (by omega)
  intro all _ hlo hhi
  have hpos : 0 < 2 ^ (qB - 2) := Nat.two_pow_pos _
  -- the upper bound is even (`hevenB`), so the next odd number stays below it
  refine ⟨by omega, by omega, by omega⟩

theorem bitLen_of_top_bits {n k : Nat} (hk : 2 ≤ k) (h1 : 3 * 2 ^ (k - 2) ≤ n) (h2 : n < 2 ^ k) :
    bitLen n = k := by
  apply PaillierL.bitLen_eq_of_bounds (by omega) _ h2
  have : 2 ^ (k - 1) = 2 * 2 ^ (k - 2) := by
    obtain ⟨j, rfl⟩ : ∃ j, k = j + 2 := ⟨k - 2, by omega⟩
    rw [show j + 2 - 1 = j + 1 by omega, Nat.add_sub_cancel, pow_succ, mul_comm]
  omega

theorem safePrime_shape {q k : Nat} (hk : 2 ≤ k) (h1 : 3 * 2 ^ (k - 2) ≤ q) (h2 : q < 2 ^ k) :
    3 * 2 ^ (k + 1 - 2) ≤ safePrimeOf q ∧ safePrimeOf q < 2 ^ (k + 1) ∧ bitLen (safePrimeOf q) = k + 1 := by
  have e1 : 2 ^ (k + 1 - 2) = 2 * 2 ^ (k - 2) := by
    obtain ⟨j, rfl⟩ : ∃ j, k = j + 2 := ⟨k - 2, by omega⟩
    rw [show j + 2 + 1 - 2 = j + 1 by omega, Nat.add_sub_cancel, pow_succ, mul_comm]
  have e2 : 2 ^ (k + 1) = 2 * 2 ^ k := by rw [pow_succ, mul_comm]
  have a : 3 * 2 ^ (k + 1 - 2) ≤ safePrimeOf q := by unfold safePrimeOf; omega
  have b : safePrimeOf q < 2 ^ (k + 1) := by unfold safePrimeOf; omega
  exact ⟨a, b, bitLen_of_top_bits (by omega) a b⟩

end TssVerif.MiscL
