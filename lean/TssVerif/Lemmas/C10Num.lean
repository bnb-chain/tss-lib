import TssVerif.Lemmas.ZkBase
import TssVerif.Lemmas.VssVerify
import Mathlib.Data.Nat.ModEq
import Mathlib.Data.Int.ModEq
import Mathlib.Tactic.Ring
import Mathlib.Tactic.Linarith
/-! Shared arithmetic for the completeness proofs of C10: the cancellation lemma for Go's negative exponents,
commitments `a^x · b^r mod M` and the response equation of their sigma protocol, coprimality of such products,
list lemmas. -/
set_option autoImplicit false
namespace TssVerif.C10L
open TssVerif Zk

theorem isInInterval_of_lt (a : Nat) (b : Int) (h : (a : Int) < b) : isInInterval (a : Int) b = true :=
  isInInterval_iff.2 ⟨Int.natCast_nonneg a, h⟩

/-- `Exp(x, v, m)` for an arbitrary integer exponent and a unit `x`: there is an `r` with
`x^a · r ≡ x^b` whenever `v = b − a`. -/
theorem expP_int_unit {Z M : Nat} (hM : M ≠ 0) (hZ : Nat.Coprime Z M) (v : Int) :
    ∃ zE, expP (Z : Int) v M = .ok zE ∧
      ∀ a b : Nat, v = (b : Int) - (a : Int) → Z ^ a * zE ≡ Z ^ b [MOD M] := by
  by_cases hv : 0 ≤ v
  · obtain ⟨k, rfl⟩ := Int.eq_ofNat_of_zero_le hv
    refine ⟨Z ^ k % M, expP_nat Z k hM, ?_⟩
    intro a b hab
    have : b = a + k := by omega
    subst this
    rw [pow_add]
    exact (Nat.mod_modEq _ _).mul_left _
  · have hneg : v < 0 := by omega
    obtain ⟨k, hk⟩ : ∃ k : Nat, v = -(k : Int) := ⟨(-v).toNat, by omega⟩
    subst hk
    have hg : Int.gcd (Z : Int) (M : Int) = 1 := by rw [Int.gcd_natCast_natCast]; exact hZ
    obtain ⟨inv, hinv, hspec, _⟩ := modInverse_exists hM hg
    refine ⟨inv ^ k % M, ?_, ?_⟩
    · unfold expP nilPanic
      rw [goExp_of_neg _ hM hneg, hinv]
      simp [Outcome.ofOption]
    · intro a b hab
      have : a = b + k := by omega
      subst this
      have h1 : Z * inv ≡ 1 [MOD M] := by
        have : (Z * inv) % M = 1 % M := by exact_mod_cast hspec
        exact this
      have h2 : Z ^ (b + k) * (inv ^ k % M) ≡ Z ^ (b + k) * inv ^ k [MOD M] :=
        (Nat.mod_modEq _ _).mul_left _
      have h3 : Z ^ (b + k) * inv ^ k = Z ^ b * (Z * inv) ^ k := by rw [pow_add, mul_pow, mul_assoc]
      rw [h3] at h2
      have h4 : Z ^ b * (Z * inv) ^ k ≡ Z ^ b * 1 [MOD M] := by
        have := h1.pow k
        rw [one_pow] at this
        exact this.mul_left _
      have := h2.trans h4
      rwa [mul_one] at this

/-- `Exp(x, -e, m)` for a unit `x` cancels `x^e`: the form in which the range verifier uses it -/
theorem expP_neg_cancel {A W Z e M : Nat} (hM : M ≠ 0) (hZ : Nat.Coprime Z M)
    (h : A ≡ W * Z ^ e [MOD M]) :
    ∃ zE, expP (Z : Int) (-(e : Int)) M = .ok zE ∧ A * zE % M = W % M := by
  obtain ⟨zE, hzE, hs⟩ := expP_int_unit hM hZ (-(e : Int))
  refine ⟨zE, hzE, ?_⟩
  have h1 : Z ^ e * zE ≡ 1 [MOD M] := by simpa using hs e 0 (by simp)
  have h2 : A * zE ≡ W * (Z ^ e * zE) [MOD M] := by rw [← mul_assoc]; exact h.mul_right _
  have h3 : A * zE ≡ W * 1 [MOD M] := h2.trans (h1.mul_left W)
  rwa [mul_one] at h3

theorem mod_mul_mod_modEq (x y M : Nat) : x % M * (y % M) % M ≡ x * y [MOD M] :=
  (Nat.mod_modEq _ _).trans ((Nat.mod_modEq _ _).mul (Nat.mod_modEq _ _))

/-- the verification equation of a sigma protocol for a commitment: with responses `e·x + al`, `e·r + rp`,
`a^(e·x+al) · b^(e·r+rp) ≡ z^e · zp` for the commitments `z` of `(x, r)` and `zp` of `(al, rp)` -/
theorem ped_response_modEq {M a b x r al rp z zp : Nat} (e : Nat) (hz : z ≡ a ^ x * b ^ r [MOD M])
    (hzp : zp ≡ a ^ al * b ^ rp [MOD M]) :
    a ^ (e * x + al) * b ^ (e * r + rp) ≡ z ^ e * zp [MOD M] := by
  have h := (hz.pow e).mul hzp
  have e1 : (a ^ x * b ^ r) ^ e * (a ^ al * b ^ rp) = a ^ (e * x + al) * b ^ (e * r + rp) := by ring
  rw [e1] at h
  exact h.symm

theorem coprime_mod {a M : Nat} (ha : Nat.Coprime a M) : Nat.Coprime (a % M) M := by
  unfold Nat.Coprime at *
  rw [← Nat.gcd_rec, Nat.gcd_comm]; exact ha

theorem coprime_mul_pow_mod {a b M : Nat} (x y : Nat) (ha : Nat.Coprime a M) (hb : Nat.Coprime b M) :
    Nat.Coprime (a ^ x % M * (b ^ y % M) % M) M := by
  rw [← Nat.mul_mod]
  exact coprime_mod ((ha.pow_left x).mul_left (hb.pow_left y))

/-- a common divisor of `b` and `M` is trivial once `a · b mod M` is a unit modulo `M` -/
theorem eq_one_of_dvd_of_coprime_mul_mod {d a b M : Nat} (hM : d ∣ M) (hb : d ∣ b)
    (h : Nat.gcd (a * b % M) M = 1) : d = 1 :=
  Nat.eq_one_of_dvd_one (h ▸ Nat.dvd_gcd ((Nat.dvd_mod_iff hM).2 (hb.mul_left a)) hM)

theorem coprime_sq {a n : Nat} (h : Nat.Coprime a n) : Nat.Coprime a (n * n) := Nat.Coprime.mul_right h h

/-- congruent modulo `n` gives `n`-th powers congruent modulo `n²` -/
theorem pow_n_modEq_sq {a b n : Nat} (h : a ≡ b [MOD n]) : a ^ n ≡ b ^ n [MOD n * n] := by
  -- in `Int`, with `a = b + n·k`: `key` is the binomial expansion to first order,
  -- `a^(m+1) = b^(m+1) + (m+1)·b^m·(n·k) + n²·t`; at the exponent `m + 1 = n` the middle term is a multiple of `n²` too
  have hz : (a : Int) ≡ b [ZMOD n] := (Int.natCast_modEq_iff).2 h
  obtain ⟨k, hk⟩ : ∃ k : Int, (a : Int) = b + n * k := by
    have := Int.ModEq.dvd hz.symm
    obtain ⟨k, hk⟩ := this
    exact ⟨k, by linarith⟩
  have key : ∀ m : Nat, ∃ t : Int,
      (a : Int) ^ (m + 1) = (b : Int) ^ (m + 1) + (m + 1) * (b : Int) ^ m * (n * k) + (n * n) * t := by
    intro m
    induction m with
    | zero => exact ⟨0, by simp [hk]⟩
    | succ m ih =>
      obtain ⟨t, ht⟩ := ih
      refine ⟨t * a + (m + 1) * (b : Int) ^ m * k * k, ?_⟩
      rw [pow_succ, ht]
      push_cast
      rw [hk]
      ring
  rcases Nat.eq_zero_or_pos n with rfl | hn
  · simp [Nat.ModEq]
  obtain ⟨m, rfl⟩ : ∃ m, n = m + 1 := ⟨n - 1, by omega⟩
  obtain ⟨t, ht⟩ := key m
  have : (a : Int) ^ (m + 1) ≡ (b : Int) ^ (m + 1) [ZMOD (((m + 1) * (m + 1) : Nat) : Int)] := by
    rw [ht]
    push_cast
    have e : (b : Int) ^ (m + 1) + ((m : Int) + 1) * (b : Int) ^ m * (((m : Int) + 1) * k) + ((m : Int) + 1) * ((m : Int) + 1) * t
        = (b : Int) ^ (m + 1) + ((m : Int) + 1) * ((m : Int) + 1) * ((b : Int) ^ m * k + t) := by ring
    rw [e]
    exact Int.modEq_iff_dvd.2 ⟨-((b : Int) ^ m * k + t), by ring⟩
  have h' : ((a ^ (m + 1) : Nat) : Int) ≡ ((b ^ (m + 1) : Nat) : Int) [ZMOD (((m + 1) * (m + 1) : Nat) : Int)] := by
    push_cast; push_cast at this; exact this
  exact (Int.natCast_modEq_iff).1 h'

/-- exponents may be reduced modulo any `m` with `h^m ≡ 1` -/
theorem pow_mod_of_order {h n m : Nat} (hord : h ^ m ≡ 1 [MOD n]) (k : Nat) : h ^ (k % m) ≡ h ^ k [MOD n] := by
  conv_rhs => rw [← Nat.div_add_mod k m, pow_add, pow_mul]
  have := (hord.pow (k / m)).mul_right (h ^ (k % m))
  rw [one_pow, one_mul] at this
  exact this.symm

theorem pow_congr_of_order {h n m a b : Nat} (hord : h ^ m ≡ 1 [MOD n]) (hab : a ≡ b [MOD m]) :
    h ^ a ≡ h ^ b [MOD n] := by
  have e : a % m = b % m := hab
  exact ((pow_mod_of_order hord a).symm.trans (by rw [e])).trans (pow_mod_of_order hord b)

/-- taking the `inv`-th power undoes the `n`-th power when `n · inv ≡ 1` modulo a multiple `phi` of the order -/
theorem pow_inv_pow_modEq {x n phi inv : Nat} (hord : x ^ phi ≡ 1 [MOD n]) (hinv : n * inv % phi = 1 % phi) :
    (x ^ inv) ^ n ≡ x [MOD n] := by
  have := pow_congr_of_order hord (a := inv * n) (b := 1) (by rw [mul_comm]; exact hinv)
  rwa [pow_one, pow_mul] at this

theorem getD_map' {α β : Type} (f : α → β) (l : List α) (i : Nat) (d : α) :
    (l.map f).getD i (f d) = f (l.getD i d) := by
  simp only [List.getD_eq_getElem?_getD, List.getElem?_map]
  cases l[i]? <;> rfl

theorem getD_of_lt {α : Type} (l : List α) (i : Nat) (d : α) (h : i < l.length) : l.getD i d = l[i] := by
  simp [List.getD_eq_getElem?_getD, List.getElem?_eq_getElem h]

/-- entry `i` of a mapped list, for an index inside the list -/
theorem getD_map_of_lt {α β : Type} (f : α → β) {l : List α} {i : Nat} (hi : i < l.length) (d : β) (d0 : α) :
    (l.map f).getD i d = f (l.getD i d0) := by
  rw [getD_of_lt _ _ _ (by rwa [List.length_map]), List.getElem_map, getD_of_lt _ _ _ hi]

theorem getD_mem {α : Type} {l : List α} {i : Nat} (hi : i < l.length) (d : α) : l.getD i d ∈ l := by
  rw [getD_of_lt _ _ _ hi]; exact List.getElem_mem _

theorem mapM_ok_of {α β : Type} (f : α → Outcome β) (g : α → β) (l : List α)
    (h : ∀ a ∈ l, f a = .ok (g a)) : l.mapM f = .ok (l.map g) := by
  induction l with
  | nil => rfl
  | cons a l ih =>
    rw [List.mapM_cons, h a (List.mem_cons_self ..), ih (fun b hb => h b (List.mem_cons_of_mem _ hb))]
    rfl

end TssVerif.C10L
