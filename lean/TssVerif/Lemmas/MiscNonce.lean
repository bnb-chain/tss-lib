import TssVerif.Lemmas.CurveLaw
import TssVerif.Lemmas.AlgLagrange
import Mathlib.Algebra.Field.ZMod
import Mathlib.Tactic.FieldSimp
import Mathlib.Tactic.Ring
/-! The map nonce `k ↦ R = k⁻¹·G` is injective modulo `q`, and the signature's
`r = R.x` determines the nonce up to sign. -/
set_option autoImplicit false
set_option linter.style.haveILetI false
namespace TssVerif.MiscL
open TssVerif

section
variable {P : Type} {C : Curve P}

/-- equal `x` coordinates only for a point and its negative (true on secp256k1: `y² = x³ + 7` has two roots) -/
def XDeterminesUpToSign (C : Curve P) : Prop :=
  ∀ (a b : P) (x y y' : Nat), C.toAffine a = some (x, y) → C.toAffine b = some (x, y') →
    a = b ∨ a = C.neg b

/-- the same property as `AlgL.NegX` -/
def NegKeepsX (C : Curve P) : Prop :=
  ∀ (a : P) (x y : Nat), C.toAffine a = some (x, y) → ∃ y', C.toAffine (C.neg a) = some (x, y')

theorem inv_modEq_iff {q : Nat} (hq : q.Prime) {k k' ki ki' : Nat}
    (h : modInverse (k : Int) q = some ki) (h' : modInverse (k' : Int) q = some ki') :
    ki ≡ ki' [MOD q] ↔ k ≡ k' [MOD q] := by
  haveI : Fact q.Prime := ⟨hq⟩
  have e := modInverse_cast h
  have e' := modInverse_cast h'
  rw [← ZMod.natCast_eq_natCast_iff, ← ZMod.natCast_eq_natCast_iff, e, e', inv_inj]
  push_cast
  rfl

theorem inv_add_modEq_zero {q : Nat} (hq : q.Prime) {k k' ki ki' : Nat}
    (h : modInverse (k : Int) q = some ki) (h' : modInverse (k' : Int) q = some ki') :
    (ki + ki') % q = 0 ↔ (k + k') % q = 0 := by
  haveI : Fact q.Prime := ⟨hq⟩
  have e := modInverse_cast h
  have e' := modInverse_cast h'
  have hk : (k : ZMod q) ≠ 0 := by simpa using AlgL.intCast_ne_zero_of_modInverse h
  have hk' : (k' : ZMod q) ≠ 0 := by simpa using AlgL.intCast_ne_zero_of_modInverse h'
  rw [← Nat.dvd_iff_mod_eq_zero, ← Nat.dvd_iff_mod_eq_zero, ← ZMod.natCast_eq_zero_iff,
    ← ZMod.natCast_eq_zero_iff, Nat.cast_add, Nat.cast_add, e, e']
  simp only [Int.cast_natCast]
  constructor
  · intro h0
    have : (k : ZMod q) + k' = (k : ZMod q) * k' * ((k : ZMod q)⁻¹ + (k' : ZMod q)⁻¹) := by
      field_simp
      ring
    rw [this, h0, mul_zero]
  · intro h0
    have : (k : ZMod q)⁻¹ + (k' : ZMod q)⁻¹ = ((k : ZMod q) + k') * ((k : ZMod q)⁻¹ * (k' : ZMod q)⁻¹) := by
      field_simp
      ring
    rw [this, h0, zero_mul]

/-- **the nonce point determines the nonce**: `k⁻¹·G = k'⁻¹·G ↔ k ≡ k' (mod q)` -/
theorem nonce_point_inj (hC : C.Lawful) {k k' ki ki' : Nat}
    (h : modInverse (k : Int) C.q = some ki) (h' : modInverse (k' : Int) C.q = some ki') :
    C.smul ki C.base = C.smul ki' C.base ↔ k ≡ k' [MOD C.q] := by
  rw [hC.smul_base_eq_iff, inv_modEq_iff hC.q_prime h h']

theorem smul_eq_neg_iff (hC : C.Lawful) (a b : Nat) :
    C.smul a C.base = C.neg (C.smul b C.base) ↔ (a + b) % C.q = 0 := by
  rw [hC.smul_eq_neg_iff, hC.smul_base_eq_zero_iff]

/-- **`r` determines the nonce up to sign** -/
theorem nonce_r_inj (hC : C.Lawful) (hX : XDeterminesUpToSign C) {k k' ki ki' : Nat}
    (h : modInverse (k : Int) C.q = some ki) (h' : modInverse (k' : Int) C.q = some ki')
    {r y y' : Nat} (hR : C.toAffine (C.smul ki C.base) = some (r, y))
    (hR' : C.toAffine (C.smul ki' C.base) = some (r, y')) :
    k ≡ k' [MOD C.q] ∨ (k + k') % C.q = 0 := by
  rcases hX _ _ r y y' hR hR' with heq | hneg
  · exact Or.inl ((nonce_point_inj hC h h').1 heq)
  · exact Or.inr ((inv_add_modEq_zero hC.q_prime h h').1 ((smul_eq_neg_iff hC ki ki').1 hneg))

/-- conversely, nonces equal up to sign give the same `r` when negation keeps `x` -/
theorem nonce_r_collision (hC : C.Lawful) (hN : NegKeepsX C) {k k' ki ki' : Nat}
    (h : modInverse (k : Int) C.q = some ki) (h' : modInverse (k' : Int) C.q = some ki')
    (hk : k ≡ k' [MOD C.q] ∨ (k + k') % C.q = 0)
    {r y : Nat} (hR : C.toAffine (C.smul ki C.base) = some (r, y)) :
    ∃ y', C.toAffine (C.smul ki' C.base) = some (r, y') := by
  rcases hk with heq | hneg
  · rw [← (nonce_point_inj hC h h').2 heq]; exact ⟨y, hR⟩
  · have h1 : (ki' + ki) % C.q = 0 := by
      rw [Nat.add_comm]; exact (inv_add_modEq_zero hC.q_prime h h').2 hneg
    rw [(smul_eq_neg_iff hC ki' ki).2 h1]
    exact hN _ r y hR

end
end TssVerif.MiscL
