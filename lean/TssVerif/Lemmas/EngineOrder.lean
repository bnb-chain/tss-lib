import TssVerif.Lemmas.Engine
/-! Order independence of deliveries: local confluence, duplicates, permutations, pre-`Start` deliveries. -/
set_option autoImplicit false
namespace TssVerif.EngineL
open TssVerif.Engine

variable {tbl : List RoundSpec} {p : Party} {r : RoundSpec} {m : Msg}

/-- `m` is acceptable wherever its type is needed, and is not from the party itself -/
def Good (tbl : List RoundSpec) (self : Nat) (m : Msg) : Prop :=
  m.frm ≠ self ∧ ∀ r ∈ tbl, ∀ tf ∈ r.needs, tf.1 = m.ty → tf.2 = m.slot.flag

theorem sat_storeMsg (hr : r ∈ tbl) {m : Msg}
    (hg : Good tbl p.self m) (j : Nat) (h : sat r p.store j = true) :
    sat r (storeMsg m p).store j = true := by
  rw [sat_eq] at *
  exact Slots.sat_setSlot (hg.2 r hr) j h

theorem scanOk_storeMsg (hr : r ∈ tbl) {m : Msg}
    (hg : Good tbl p.self m) (j : Nat) (h : scanOk r p j = true) : scanOk r (storeMsg m p) j = true :=
  scanOk_mono (p := p) (q := storeMsg m p) rfl (fun _ h => h) (sat_storeMsg hr hg) j h

theorem startRound_storeMsg (r : RoundSpec) (k : Nat) (m : Msg) (p : Party) (hm : m.frm ≠ p.self) :
    startRound r k (storeMsg m p) = storeMsg m (startRound r k p) := by
  simp only [startRound, storeMsg]
  congr 1
  exact Slots.putSelf_setSlot p.self k r.selfStore m.slot (fun h => hm h.1) p.store

theorem storeLaws (tbl : List RoundSpec) : Loop.StoreLaws ops tbl (Good tbl) where
  scan_store_scan := by
    intro r p m hr hg
    have e : scanOk r (storeMsg m (scan r p)) = scanOk r (storeMsg m p) := by
      funext j
      apply Bool.eq_iff_iff.mpr
      constructor
      · exact scanOk_le (p := storeMsg m (scan r p)) (q := storeMsg m p) rfl (fun j h => scanOk_storeMsg hr hg j h)
          (fun _ h => h) (fun j h => h.elim (fun h => (cov_of_scanOk h).imp id (sat_storeMsg hr hg j)) Or.inr) j
      · exact scanOk_mono (p := storeMsg m p) (q := storeMsg m (scan r p)) rfl
          (fun j hj => scanOk_of_ok (p := p) hj) (fun _ h => h) j
    show { storeMsg m (scan r p) with ok := scanOk r (storeMsg m (scan r p)) } =
      { storeMsg m p with ok := scanOk r (storeMsg m p) }
    rw [e]; rfl
  scan_store := by
    intro r p m hr hg hcp
    -- both scans are all-true below `n` and equal to `p.ok` from `n` on
    have e : scanOk r (storeMsg m p) = scanOk r p := by
      funext j
      by_cases hj : j < p.n
      · have h := (canProceed_iff _).mp hcp j hj
        exact (scanOk_storeMsg hr hg j h).trans h.symm
      · rw [scanOk_of_not_lt hj, scanOk_of_not_lt (p := storeMsg m p) hj]; rfl
    show { storeMsg m p with ok := scanOk r (storeMsg m p) } = storeMsg m { p with ok := scanOk r p }
    rw [e]; rfl
  start_store := fun _ hg => startRound_storeMsg _ _ _ _ hg.1
  finish_store := fun _ _ => rfl
  canProceed_store := fun _ _ => rfl

theorem settle_store_settle (tbl : List RoundSpec) (m : Msg) (p : Party) (hg : Good tbl p.self m) :
    settleF tbl (storeMsg m (settleF tbl p)) = settleF tbl (storeMsg m p) := by
  rw [settleF_loop]; exact Loop.settle_store_settle frame (storeLaws tbl) p hg

theorem slotLaws : Loop.SlotLaws ops (fun m : Msg => (m.ty, m.frm)) where
  store_comm := fun a b p hne => by
    simp only [storeMsg]
    congr 1
    exact Slots.setSlot_comm a.slot b.slot p.store fun h => hne (by rw [h.1, h.2])
  store_idem := fun a p => by
    simp only [storeMsg]
    congr 1
    exact Slots.setSlot_idem a.ty a.frm a.slot p.store

/-- two good messages for different slots may be delivered in either order -/
theorem deliver_comm (tbl : List RoundSpec) (a b : Msg) (p : Party)
    (ha : Good tbl p.self a) (hb : Good tbl p.self b) (hne : ¬ (a.ty = b.ty ∧ a.frm = b.frm)) :
    deliver tbl a (deliver tbl b p) = deliver tbl b (deliver tbl a p) := by
  rw [deliver_loop]
  exact Loop.deliver_comm frame (storeLaws tbl) slotLaws a b p ha hb fun h => hne ⟨congrArg Prod.fst h, congrArg Prod.snd h⟩

/-- duplicates are idempotent -/
theorem deliver_dup (tbl : List RoundSpec) (a : Msg) (p : Party) (ha : Good tbl p.self a) :
    deliver tbl a (deliver tbl a p) = deliver tbl a p := by
  rw [deliver_loop]; exact Loop.deliver_dup frame (storeLaws tbl) slotLaws a p ha

def GoodList (tbl : List RoundSpec) (self : Nat) (ms : List Msg) : Prop := ∀ m ∈ ms, Good tbl self m

/-- two messages for the same slot are the same message: a sender does not equivocate within one run -/
def SlotConsistent (ms : List Msg) : Prop := ∀ a ∈ ms, ∀ b ∈ ms, a.ty = b.ty → a.frm = b.frm → a = b

theorem delivers_loop (tbl : List RoundSpec) : delivers tbl = Loop.delivers ops tbl := by
  funext ms p; unfold delivers Loop.delivers; rw [deliver_loop]

/-- permuting a slot-consistent list of good messages does not change the outcome -/
theorem delivers_perm (tbl : List RoundSpec) {ms ms' : List Msg} (hp : ms.Perm ms') (p : Party)
    (hg : GoodList tbl p.self ms) (hc : SlotConsistent ms) : delivers tbl ms p = delivers tbl ms' p := by
  rw [delivers_loop]
  exact Loop.delivers_perm frame (storeLaws tbl) slotLaws hp p hg fun a ha b hb h =>
    hc a ha b hb (congrArg Prod.fst h) (congrArg Prod.snd h)

/-- the outcome depends only on the *set* of (slot-consistent, good) messages delivered -/
theorem delivers_same_set (tbl : List RoundSpec) (ms ms' : List Msg) (p : Party)
    (hset : ∀ m, m ∈ ms ↔ m ∈ ms') (hg : GoodList tbl p.self ms) (hc : SlotConsistent ms) :
    delivers tbl ms p = delivers tbl ms' p := by
  rw [delivers_loop]
  exact Loop.delivers_same_set frame (storeLaws tbl) slotLaws ms ms' p hset hg fun a ha b hb h =>
    hc a ha b hb (congrArg Prod.fst h) (congrArg Prod.snd h)

def stores (ms : List Msg) (p : Party) : Party := ms.foldl (fun p m => storeMsg m p) p

theorem stores_rnd (ms : List Msg) (p : Party) : (stores ms p).rnd = p.rnd := Loop.stores_rnd frame ms p

theorem stores_self (ms : List Msg) (p : Party) : (stores ms p).self = p.self := Loop.stores_self frame ms p

theorem delivers_of_not_started (tbl : List RoundSpec) (ms : List Msg) (p : Party) (h : p.rnd = 0) :
    delivers tbl ms p = stores ms p := by
  rw [delivers_loop]; exact Loop.delivers_of_not_started frame ms p h

theorem start_delivers (tbl : List RoundSpec) (ms : List Msg) (p : Party) (h0 : p.rnd = 0)
    (hg : GoodList tbl p.self ms) :
    start tbl (delivers tbl ms p) = delivers tbl ms (start tbl p) := by
  rw [start_loop, delivers_loop]; exact Loop.start_true_delivers frame (storeLaws tbl) ms p h0 hg

end TssVerif.EngineL
