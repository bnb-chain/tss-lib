import TssVerif.Core.Curve
import Mathlib.Data.ZMod.Basic
import Mathlib.GroupTheory.OrderOfElement
import Mathlib.Data.Nat.ModEq
import Mathlib.Tactic.Ring
import Mathlib.Algebra.Group.MinimalAxioms
/-! The algebraic contract of a `Curve P` record (`Curve.Lawful`) and what follows from it:
double-and-add `Curve.smul` is repeated addition, it is additive and multiplicative in the scalar,
scalars act on the base point modulo `q`, and the base point has order exactly `q`.
Two small proved-lawful instances (`zmodCurve`, `zmodCurveW`) show that the contract is satisfiable,
with and without an affine form for the identity. -/
set_option linter.style.haveILetI false
set_option autoImplicit false
namespace TssVerif

/-- in a commutative group, scalars congruent modulo `l` act alike on a point killed by `l` -/
theorem AlgL.nsmul_congr_of_modEq {G : Type*} [AddCommGroup G] {B : G} {l a b : ℕ} (hl : l • B = 0)
    (h : a ≡ b [MOD l]) : a • B = b • B :=
  (nsmul_eq_nsmul_iff_modEq (x := B)).2 (h.of_dvd (addOrderOf_dvd_of_nsmul_eq_zero hl))

namespace Curve
variable {P : Type} (C : Curve P)

/-- commutative-group laws of `add`, `zero`, `neg` (the part of `Lawful` that makes `smul` meaningful) -/
structure GroupLaws : Prop where
  add_assoc : ∀ a b c, C.add (C.add a b) c = C.add a (C.add b c)
  add_comm : ∀ a b, C.add a b = C.add b a
  zero_add : ∀ a, C.add C.zero a = a
  neg_add : ∀ a, C.add (C.neg a) a = C.zero

/-- The algebraic contract of a curve record: commutative group laws, a base point of prime order `q`, and an
affine view that is a partial bijection with `ofAffine` and misses at most the identity. -/
structure Lawful : Prop where
  add_assoc : ∀ a b c, C.add (C.add a b) c = C.add a (C.add b c)
  add_comm : ∀ a b, C.add a b = C.add b a
  zero_add : ∀ a, C.add C.zero a = a
  neg_add : ∀ a, C.add (C.neg a) a = C.zero
  q_prime : Nat.Prime C.q
  smul_q_base : C.smul C.q C.base = C.zero
  base_ne_zero : C.base ≠ C.zero
  toAffine_inj : ∀ a b, C.toAffine a = C.toAffine b → a = b
  ofAffine_toAffine : ∀ x y a, C.ofAffine x y = some a → C.toAffine a = some (x, y)
  toAffine_ofAffine : ∀ x y a, C.toAffine a = some (x, y) → C.ofAffine x y = some a
  /-- the identity is the only point that may lack affine coordinates (injectivity of `toAffine` only says
  that at most one point lacks them) -/
  toAffine_none : ∀ a, C.toAffine a = none → a = C.zero

variable {C}

theorem Lawful.groupLaws (h : C.Lawful) : C.GroupLaws :=
  ⟨h.add_assoc, h.add_comm, h.zero_add, h.neg_add⟩

/-- `k`-fold repeated addition, the specification of `smul` -/
def iter (C : Curve P) : Nat → P → P
  | 0, _ => C.zero
  | k + 1, a => C.add (C.iter k a) a

/-- the group structure carried by a lawful record; used locally (`letI`) to reach Mathlib -/
@[reducible] def GroupLaws.addCommGroup (h : C.GroupLaws) : AddCommGroup P :=
  letI : Add P := ⟨C.add⟩
  letI : Zero P := ⟨C.zero⟩
  letI : Neg P := ⟨C.neg⟩
  { AddGroup.ofLeftAxioms h.add_assoc h.zero_add h.neg_add with add_comm := h.add_comm }

theorem GroupLaws.iter_eq_nsmul (h : C.GroupLaws) (k : Nat) (a : P) :
    C.iter k a = letI := h.addCommGroup; k • a := by
  letI := h.addCommGroup
  induction k with
  | zero => show C.zero = 0 • a; rw [zero_nsmul]; rfl
  | succ k ih => show C.add (C.iter k a) a = (k + 1) • a; rw [succ_nsmul, ih]; rfl

/-- value of a bit string read most significant bit first, on top of an accumulator -/
def bitsVal (bs : List Bool) (acc : Nat) : Nat := bs.foldl (fun a b => 2 * a + b.toNat) acc

theorem bitsVal_msb (k m : Nat) (acc : Nat) :
    bitsVal ((List.range m).reverse.map fun i => k.testBit i) acc = acc * 2 ^ m + k % 2 ^ m := by
  induction m generalizing acc with
  | zero => simp [bitsVal, Nat.mod_one]
  | succ m ih =>
    rw [List.range_succ, List.reverse_append, List.reverse_singleton, List.singleton_append,
      List.map_cons]
    show bitsVal _ (2 * acc + (k.testBit m).toNat) = _
    rw [ih, Nat.mod_pow_succ, Nat.toNat_testBit]
    ring

theorem bitsVal_bitsMSB (k : Nat) : bitsVal (bitsMSB k) 0 = k := by
  unfold bitsMSB
  rw [bitsVal_msb, Nat.zero_mul, Nat.zero_add]
  exact Nat.mod_eq_of_lt Nat.lt_log2_self

theorem GroupLaws.smulBits_eq (h : C.GroupLaws) (bs : List Bool) (pt : P) (n : Nat) :
    C.smulBits bs pt (C.iter n pt) = C.iter (bitsVal bs n) pt := by
  letI := h.addCommGroup
  induction bs generalizing n with
  | nil => rfl
  | cons b bs ih =>
    have key : (if b then C.add (C.add (C.iter n pt) (C.iter n pt)) pt
        else C.add (C.iter n pt) (C.iter n pt)) = C.iter (2 * n + b.toNat) pt := by
      rw [h.iter_eq_nsmul, h.iter_eq_nsmul]
      cases b
      · show (n • pt + n • pt : P) = (2 * n + 0) • pt
        rw [Nat.add_zero, two_mul, add_nsmul]
      · show (n • pt + n • pt + pt : P) = (2 * n + 1) • pt
        rw [succ_nsmul, two_mul, add_nsmul]
    show C.smulBits bs pt _ = _
    rw [key, ih]
    rfl

theorem GroupLaws.smul_eq_iter (h : C.GroupLaws) (k : Nat) (a : P) : C.smul k a = C.iter k a := by
  unfold smul
  split
  · next hk => subst hk; rfl
  · have := h.smulBits_eq (bitsMSB k) a 0
    rw [bitsVal_bitsMSB] at this
    exact this

theorem GroupLaws.smul_eq_nsmul (h : C.GroupLaws) (k : Nat) (a : P) :
    C.smul k a = letI := h.addCommGroup; k • a := by
  rw [h.smul_eq_iter, h.iter_eq_nsmul]

theorem smul_zero_left (C : Curve P) (a : P) : C.smul 0 a = C.zero := rfl

namespace Lawful
variable (h : C.Lawful)
include h

theorem smul_eq_iter (k : Nat) (a : P) : C.smul k a = C.iter k a := h.groupLaws.smul_eq_iter k a

theorem smul_eq_nsmul (k : Nat) (a : P) :
    C.smul k a = letI := h.groupLaws.addCommGroup; k • a := h.groupLaws.smul_eq_nsmul k a

theorem add_zero (a : P) : C.add a C.zero = a := by rw [h.add_comm]; exact h.zero_add a

theorem smul_one (a : P) : C.smul 1 a = a := by
  rw [h.smul_eq_iter]; exact h.zero_add a

theorem smul_succ (k : Nat) (a : P) : C.smul (k + 1) a = C.add (C.smul k a) a := by
  rw [h.smul_eq_iter, h.smul_eq_iter]; rfl

theorem smul_add (a b : Nat) (p : P) : C.smul (a + b) p = C.add (C.smul a p) (C.smul b p) := by
  letI := h.groupLaws.addCommGroup
  rw [h.smul_eq_nsmul, h.smul_eq_nsmul, h.smul_eq_nsmul]
  exact add_nsmul p a b

theorem smul_mul (a b : Nat) (p : P) : C.smul (a * b) p = C.smul a (C.smul b p) := by
  letI := h.groupLaws.addCommGroup
  rw [h.smul_eq_nsmul, h.smul_eq_nsmul, h.smul_eq_nsmul]
  show (a * b) • p = a • (b • p)
  rw [mul_comm, mul_nsmul]

theorem smul_zero_right (k : Nat) : C.smul k C.zero = C.zero := by
  letI := h.groupLaws.addCommGroup
  rw [h.smul_eq_nsmul]
  exact nsmul_zero k

theorem smul_add_right (k : Nat) (a b : P) :
    C.smul k (C.add a b) = C.add (C.smul k a) (C.smul k b) := by
  letI := h.groupLaws.addCommGroup
  rw [h.smul_eq_nsmul, h.smul_eq_nsmul, h.smul_eq_nsmul]
  exact nsmul_add a b k

/-- `a·p = −(b·p)` exactly when `(a + b)·p` is the identity -/
theorem smul_eq_neg_iff (a b : Nat) (p : P) :
    C.smul a p = C.neg (C.smul b p) ↔ C.smul (a + b) p = C.zero := by
  letI := h.groupLaws.addCommGroup
  rw [h.smul_add]
  exact eq_neg_iff_add_eq_zero

theorem q_pos : 0 < C.q := h.q_prime.pos

theorem one_lt_q : 1 < C.q := h.q_prime.one_lt

theorem addOrderOf_base :
    (letI := h.groupLaws.addCommGroup; addOrderOf C.base) = C.q := by
  letI := h.groupLaws.addCommGroup
  haveI : Fact C.q.Prime := ⟨h.q_prime⟩
  apply addOrderOf_eq_prime
  · have := h.smul_q_base
    rw [h.smul_eq_nsmul] at this
    exact this
  · exact h.base_ne_zero

theorem smul_base_eq_iff (a b : Nat) :
    C.smul a C.base = C.smul b C.base ↔ a ≡ b [MOD C.q] := by
  letI := h.groupLaws.addCommGroup
  rw [h.smul_eq_nsmul, h.smul_eq_nsmul]
  have := nsmul_eq_nsmul_iff_modEq (x := C.base) (m := b) (n := a)
  rw [h.addOrderOf_base] at this
  exact this

theorem smul_base_mod (k : Nat) : C.smul k C.base = C.smul (k % C.q) C.base :=
  (h.smul_base_eq_iff _ _).2 (Nat.mod_modEq k C.q).symm

theorem smul_base_eq_iff_cast (a b : Nat) :
    C.smul a C.base = C.smul b C.base ↔ (a : ZMod C.q) = (b : ZMod C.q) :=
  (h.smul_base_eq_iff a b).trans (ZMod.natCast_eq_natCast_iff a b C.q).symm

theorem smul_congr_of_order {p : P} (hp : C.smul C.q p = C.zero) {a b : Nat}
    (hab : a ≡ b [MOD C.q]) : C.smul a p = C.smul b p := by
  letI := h.groupLaws.addCommGroup
  rw [h.smul_eq_nsmul] at hp ⊢
  rw [h.smul_eq_nsmul]
  exact AlgL.nsmul_congr_of_modEq hp hab

theorem smul_base_eq_zero_iff (k : Nat) : C.smul k C.base = C.zero ↔ k % C.q = 0 := by
  have := h.smul_base_eq_iff k 0
  rw [smul_zero_left] at this
  rw [this, Nat.ModEq, Nat.zero_mod]

theorem eq_zero_of_smul_eq_zero {p : P} (hq : C.smul C.q p = C.zero) {k : Nat}
    (hk : k % C.q ≠ 0) (hkp : C.smul k p = C.zero) : p = C.zero := by
  letI := h.groupLaws.addCommGroup
  rw [h.smul_eq_nsmul] at hq hkp
  have h1 : addOrderOf p ∣ C.q := addOrderOf_dvd_of_nsmul_eq_zero hq
  have h2 : addOrderOf p ∣ k := addOrderOf_dvd_of_nsmul_eq_zero hkp
  rcases (Nat.dvd_prime h.q_prime).1 h1 with h3 | h3
  · exact AddMonoid.addOrderOf_eq_one_iff.1 h3
  · rw [h3] at h2
    exact absurd (Nat.mod_eq_zero_of_dvd h2) hk

theorem toAffine_eq_none_iff (a : P) :
    C.toAffine a = none ↔ a = C.zero ∧ C.toAffine C.zero = none := by
  constructor
  · intro ha
    have := h.toAffine_none a ha
    exact ⟨this, this ▸ ha⟩
  · rintro ⟨rfl, hz⟩; exact hz

theorem toAffine_isSome_of_ne_zero {a : P} (ha : a ≠ C.zero) : ∃ r, C.toAffine a = some r :=
  Option.ne_none_iff_exists'.1 fun hr => ha (h.toAffine_none a hr)

theorem ofAffine_eq_some_iff (x y : Nat) (a : P) :
    C.ofAffine x y = some a ↔ C.toAffine a = some (x, y) :=
  ⟨h.ofAffine_toAffine x y a, h.toAffine_ofAffine x y a⟩

theorem lift_of_toAffine {a : P} {v : ECPoint} (hv : C.toAffine a = some v) : C.lift v = some a :=
  h.toAffine_ofAffine v.1 v.2 a hv

theorem toAffine_of_lift {a : P} {v : ECPoint} (hv : C.lift v = some a) : C.toAffine a = some v :=
  h.ofAffine_toAffine v.1 v.2 a hv

end Lawful

theorem ecScalarMult_of_lift {a : ECPoint} {pa : P} (ha : C.lift a = some pa) (k : Nat) :
    C.ecScalarMult a (k : Int) =
      match C.toAffine (C.smul k pa) with
      | some r => .ok r
      | none => .panic "scalar-mult-identity" := by
  unfold ecScalarMult
  rw [ha, Int.natAbs_natCast]
  rfl

theorem ecAdd_of_lift {a b : ECPoint} {pa pb : P} (ha : C.lift a = some pa) (hb : C.lift b = some pb) :
    C.ecAdd a b =
      match C.toAffine (C.add pa pb) with
      | some r => .ok r
      | none => .err "not-on-curve" := by
  unfold ecAdd
  rw [ha, hb]
  rfl

theorem ecBaseMult_natCast (C : Curve P) (k : Nat) :
    C.ecBaseMult (k : Int) =
      match C.toAffine (C.smul k C.base) with
      | some r => .ok r
      | none => .panic "scalar-base-mult-identity" := by
  unfold ecBaseMult
  rw [Int.natAbs_natCast]
  rfl

end Curve

/-- `ZMod q` as a curve whose identity HAS affine coordinates (like edwards25519):
the point `a` is "`a·G`", its affine form is `(a.val, 0)` -/
def zmodCurve (q : Nat) [Fact q.Prime] : Curve (ZMod q) where
  name := "zmod"
  p := q
  q := q
  zero := 0
  add := (· + ·)
  neg := fun a => -a
  base := 1
  toAffine := fun a => some (a.val, 0)
  ofAffine := fun x y => if x < q ∧ y = 0 then some (x : ZMod q) else none
  beq := fun a b => decide (a = b)

/-- `ZMod q` as a curve whose identity has NO affine coordinates (like secp256k1) -/
def zmodCurveW (q : Nat) [Fact q.Prime] : Curve (ZMod q) where
  name := "zmodW"
  p := q
  q := q
  zero := 0
  add := (· + ·)
  neg := fun a => -a
  base := 1
  toAffine := fun a => if a = 0 then none else some (a.val, 0)
  ofAffine := fun x y => if x < q ∧ y = 0 ∧ (x : ZMod q) ≠ 0 then some (x : ZMod q) else none
  beq := fun a b => decide (a = b)

/-- a record on `ZMod q` whose group part is `(ZMod q, +)` with base point `1` is lawful as soon as its affine
view is a partial bijection that only the identity may miss; scalar multiplication is then multiplication, and
`q` kills every point -/
theorem lawful_of_exponent {q : Nat} [hq : Fact q.Prime] (C : Curve (ZMod q))
    (hadd : ∀ a b, C.add a b = a + b) (hzero : C.zero = 0) (hneg : ∀ a, C.neg a = -a)
    (hbase : C.base = 1) (hCq : C.q = q)
    (hinj : ∀ a b, C.toAffine a = C.toAffine b → a = b)
    (hoa : ∀ x y a, C.ofAffine x y = some a → C.toAffine a = some (x, y))
    (hao : ∀ x y a, C.toAffine a = some (x, y) → C.ofAffine x y = some a)
    (hnone : ∀ a, C.toAffine a = none → a = C.zero) :
    C.Lawful ∧ (∀ (k : Nat) (a : ZMod q), C.smul k a = (k : ZMod q) * a) ∧
      ∀ p, C.smul C.q p = C.zero := by
  have hg : C.GroupLaws :=
    ⟨fun a b c => by simp only [hadd, add_assoc], fun a b => by simp only [hadd, add_comm],
      fun a => by rw [hadd, hzero, zero_add], fun a => by rw [hadd, hneg, hzero, neg_add_cancel]⟩
  have hiter : ∀ (k : Nat) (a : ZMod q), C.iter k a = (k : ZMod q) * a := by
    intro k a
    induction k with
    | zero => rw [Curve.iter, hzero, Nat.cast_zero, zero_mul]
    | succ k ih => rw [Curve.iter, hadd, ih]; push_cast; ring
  have hsmul : ∀ (k : Nat) (a : ZMod q), C.smul k a = (k : ZMod q) * a := fun k a => by
    rw [hg.smul_eq_iter, hiter]
  have hkill : ∀ p, C.smul C.q p = C.zero := fun p => by
    rw [hsmul, hCq, ZMod.natCast_self, zero_mul, hzero]
  refine ⟨{ hg with
    q_prime := by rw [hCq]; exact hq.out
    smul_q_base := hkill _
    base_ne_zero := by
      haveI : Fact (1 < q) := ⟨hq.out.one_lt⟩
      rw [hbase, hzero]
      exact one_ne_zero
    toAffine_inj := hinj
    ofAffine_toAffine := hoa
    toAffine_ofAffine := hao
    toAffine_none := hnone }, hsmul, hkill⟩

section
variable (q : Nat) [hq : Fact q.Prime]

theorem zmodCurve_spec : (zmodCurve q).Lawful ∧
    (∀ (k : Nat) (a : ZMod q), (zmodCurve q).smul k a = (k : ZMod q) * a) ∧
    ∀ p, (zmodCurve q).smul (zmodCurve q).q p = (zmodCurve q).zero :=
  lawful_of_exponent (zmodCurve q) (fun _ _ => rfl) rfl (fun _ => rfl) rfl rfl
    (fun a b hab => by
      simp only [zmodCurve, Option.some.injEq, Prod.mk.injEq, and_true] at hab
      exact ZMod.val_injective q hab)
    (fun x y a hxy => by
      simp only [zmodCurve] at hxy ⊢
      split at hxy
      · next hc =>
        obtain ⟨hx, rfl⟩ := hc
        injection hxy with hxy
        subst hxy
        rw [ZMod.val_natCast, Nat.mod_eq_of_lt hx]
      · exact absurd hxy (by simp))
    (fun x y a hxy => by
      haveI : NeZero q := ⟨hq.out.ne_zero⟩
      simp only [zmodCurve, Option.some.injEq, Prod.mk.injEq] at hxy ⊢
      obtain ⟨rfl, rfl⟩ := hxy
      rw [if_pos ⟨ZMod.val_lt a, rfl⟩, ZMod.natCast_zmod_val])
    (fun a ha => by simp [zmodCurve] at ha)

theorem zmodCurveW_spec : (zmodCurveW q).Lawful ∧
    (∀ (k : Nat) (a : ZMod q), (zmodCurveW q).smul k a = (k : ZMod q) * a) ∧
    ∀ p, (zmodCurveW q).smul (zmodCurveW q).q p = (zmodCurveW q).zero :=
  lawful_of_exponent (zmodCurveW q) (fun _ _ => rfl) rfl (fun _ => rfl) rfl rfl
    (fun a b hab => by
      simp only [zmodCurveW] at hab
      by_cases ha : a = 0 <;> by_cases hb : b = 0
      · rw [ha, hb]
      · simp [ha, hb] at hab
      · simp [ha, hb] at hab
      · simp only [ha, hb, if_false, Option.some.injEq, Prod.mk.injEq, and_true] at hab
        exact ZMod.val_injective q hab)
    (fun x y a hxy => by
      simp only [zmodCurveW] at hxy ⊢
      split at hxy
      · next hc =>
        obtain ⟨hx, rfl, hne⟩ := hc
        injection hxy with hxy
        subst hxy
        rw [if_neg hne, ZMod.val_natCast, Nat.mod_eq_of_lt hx]
      · exact absurd hxy (by simp))
    (fun x y a hxy => by
      haveI : NeZero q := ⟨hq.out.ne_zero⟩
      simp only [zmodCurveW] at hxy ⊢
      by_cases ha : a = 0
      · simp [ha] at hxy
      · simp only [ha, if_false, Option.some.injEq, Prod.mk.injEq] at hxy
        obtain ⟨rfl, rfl⟩ := hxy
        rw [ZMod.natCast_zmod_val, if_pos ⟨ZMod.val_lt a, rfl, ha⟩])
    (fun a ha => by
      simp only [zmodCurveW] at ha
      by_cases h0 : a = 0
      · exact h0
      · simp [h0] at ha)

theorem zmodCurve_lawful : (zmodCurve q).Lawful := (zmodCurve_spec q).1

theorem zmodCurveW_lawful : (zmodCurveW q).Lawful := (zmodCurveW_spec q).1

theorem zmodCurve_smul (k : Nat) (a : ZMod q) : (zmodCurve q).smul k a = (k : ZMod q) * a :=
  (zmodCurve_spec q).2.1 k a

theorem zmodCurveW_smul (k : Nat) (a : ZMod q) : (zmodCurveW q).smul k a = (k : ZMod q) * a :=
  (zmodCurveW_spec q).2.1 k a

theorem zmodCurve_toAffine_zero : (zmodCurve q).toAffine (zmodCurve q).zero ≠ none := by
  simp [zmodCurve]

theorem zmodCurveW_toAffine_zero : (zmodCurveW q).toAffine (zmodCurveW q).zero = none := by
  simp [zmodCurveW]

end
end TssVerif
