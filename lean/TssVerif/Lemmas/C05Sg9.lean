import TssVerif.Core.BlameSg9
import TssVerif.Lemmas.C05Sg
/-! Round 9 of threshold-ECDSA signing (`Core/BlameSg9.lean`), the last check before a signer reveals its share;
the property theorems are in `Props/C05e.lean`.

* the judgements about one peer's opening: `Opens` (valid: at least four values, the first two pairs on the
  curve), `NoOpen`, `Short` (fewer than four values), `OffU`, `OffT` (a pair off the curve);
* `peer9`: the loop body for one peer, what it returns under each judgement, and its exact pass / fail / crash
  conditions;
* the loop as an instance of `seqLoop` on the two running sums (`round9Go_eq`; `runs9_iff`: valid openings only
  move the sums), and from it the exact fail / crash conditions of `round9Go`. -/
set_option autoImplicit false
namespace TssVerif.C05Sg9L
open TssVerif BlameSg C05L

variable {P : Type} (C : Curve P) (H : HashFn)

/-- the error texts of `round_9.go` -/
abbrev decommitMsg : String := "de-commitment for bigVj and bigAj failed"
abbrev selfMsg : String := "U doesn't equal T"
abbrev offUMsg : String := "NewECPoint(Uj)"
abbrev offTMsg : String := "NewECPoint(Tj)"
abbrev rangeMsg : String := "index-out-of-range"

/-- peer `p`'s de-commitment opens its commitment to at least four values, the first two are the affine
coordinates of the curve point `uj`, the next two those of `tj` -/
def Opens (p : R8Peer) (uj tj : P) : Prop :=
  ∃ v, decommitWith H p.commitment (p.decommitment.map Int.ofNat) = .ok (some v) ∧ 4 ≤ v.length ∧
    C.ofAffine (v.getD 0 0).toNat (v.getD 1 0).toNat = some uj ∧
    C.ofAffine (v.getD 2 0).toNat (v.getD 3 0).toNat = some tj

/-- the de-commitment does not open the commitment -/
def NoOpen (p : R8Peer) : Prop :=
  decommitWith H p.commitment (p.decommitment.map Int.ofNat) = .ok none

/-- it opens the commitment to fewer than four values -/
def Short (p : R8Peer) : Prop :=
  ∃ v, decommitWith H p.commitment (p.decommitment.map Int.ofNat) = .ok (some v) ∧ v.length < 4

/-- it opens (four values or more) and the pair for `U_j` is not a point of the curve -/
def OffU (p : R8Peer) : Prop :=
  ∃ v, decommitWith H p.commitment (p.decommitment.map Int.ofNat) = .ok (some v) ∧ 4 ≤ v.length ∧
    C.ofAffine (v.getD 0 0).toNat (v.getD 1 0).toNat = none

/-- it opens (four values or more), the pair for `U_j` is a point, the pair for `T_j` is not -/
def OffT (p : R8Peer) : Prop :=
  ∃ v uj, decommitWith H p.commitment (p.decommitment.map Int.ofNat) = .ok (some v) ∧ 4 ≤ v.length ∧
    C.ofAffine (v.getD 0 0).toNat (v.getD 1 0).toNat = some uj ∧
    C.ofAffine (v.getD 2 0).toNat (v.getD 3 0).toNat = none

/-- who is named for an off-curve pair: the sender with the tag of the failed decoding after the repair
(`cp = true`); before it, the party itself with the text of the final assertion -/
def Named (cp : Bool) (own : Nat) (p : R8Peer) (tag why : String) (c : Nat) : Prop :=
  (cp = true ∧ why = tag ∧ c = p.idx) ∨ (cp = false ∧ why = selfMsg ∧ c = own)

/-- the loop body of round 9 for one peer -/
def peer9 (cp : Bool) (own : Nat) (p : R8Peer) : Outcome (Res (P × P)) :=
  match decommitWith H p.commitment (p.decommitment.map Int.ofNat) with
  | .panic e => .panic e
  | .err e => .err e
  | .ok none => .ok (.fail decommitMsg p.idx)
  | .ok (some v) =>
    if v.length < 4 then .panic rangeMsg else
    match C.ofAffine (v.getD 0 0).toNat (v.getD 1 0).toNat with
    | none => if cp then .ok (.fail offUMsg p.idx) else .ok (.fail selfMsg own)
    | some uj =>
      match C.ofAffine (v.getD 2 0).toNat (v.getD 3 0).toNat with
      | none => if cp then .ok (.fail offTMsg p.idx) else .ok (.fail selfMsg own)
      | some tj => .ok (.pass (uj, tj))

/-- the final comparison -/
def final9 (own : Nat) (u t : P) : Outcome (Res Unit) :=
  if C.toAffine u == C.toAffine t then .ok (.pass ()) else .ok (.fail selfMsg own)

section peer
variable (cp : Bool) (own : Nat) (p : R8Peer)

/-- the verdict for an off-curve pair with decoding tag `tag` -/
def offVerdict (tag : String) : Outcome (Res (P × P)) :=
  .ok (.fail (if cp then tag else selfMsg) (if cp then p.idx else own))

theorem peer9_of_panic {e : String}
    (h : decommitWith H p.commitment (p.decommitment.map Int.ofNat) = .panic e) :
    peer9 C H cp own p = .panic e := by
  unfold peer9; rw [h]

theorem peer9_of_noOpen (h : NoOpen H p) : peer9 C H cp own p = .ok (.fail decommitMsg p.idx) := by
  unfold peer9; rw [h]

theorem peer9_of_short (h : Short H p) : peer9 C H cp own p = .panic rangeMsg := by
  obtain ⟨v, hd, hl⟩ := h
  unfold peer9; rw [hd]; simp only [hl, if_true]

theorem peer9_of_offU (h : OffU C H p) : peer9 C H cp own p = offVerdict cp own p offUMsg := by
  obtain ⟨v, hd, hl, hu⟩ := h
  have hl' : ¬ v.length < 4 := by omega
  unfold peer9 offVerdict; rw [hd]; simp only [hl', if_false, hu]
  cases cp <;> rfl

theorem peer9_of_offT (h : OffT C H p) : peer9 C H cp own p = offVerdict cp own p offTMsg := by
  obtain ⟨v, uj, hd, hl, hu, ht⟩ := h
  have hl' : ¬ v.length < 4 := by omega
  unfold peer9 offVerdict; rw [hd]; simp only [hl', if_false, hu, ht]
  cases cp <;> rfl

theorem peer9_of_opens {uj tj : P} (h : Opens C H p uj tj) : peer9 C H cp own p = .ok (.pass (uj, tj)) := by
  obtain ⟨v, hd, hl, hu, ht⟩ := h
  have hl' : ¬ v.length < 4 := by omega
  unfold peer9; rw [hd]; simp only [hl', if_false, hu, ht]

/-- a peer's opening falls under one of the judgements, unless `DeCommit` itself crashes (it never reports an
error) -/
theorem opening_cases :
    (∃ e, decommitWith H p.commitment (p.decommitment.map Int.ofNat) = .panic e) ∨
    NoOpen H p ∨ Short H p ∨ OffU C H p ∨ OffT C H p ∨ ∃ uj tj, Opens C H p uj tj := by
  cases hd : decommitWith H p.commitment (p.decommitment.map Int.ofNat) with
  | panic e => exact Or.inl ⟨e, rfl⟩
  | err e => exact absurd hd (decommit_no_err H _ _ e)
  | ok o =>
    cases o with
    | none => exact Or.inr (Or.inl hd)
    | some v =>
      by_cases hl : v.length < 4
      · exact Or.inr (Or.inr (Or.inl ⟨v, hd, hl⟩))
      · have h4 : 4 ≤ v.length := by omega
        cases hu : C.ofAffine (v.getD 0 0).toNat (v.getD 1 0).toNat with
        | none => exact Or.inr (Or.inr (Or.inr (Or.inl ⟨v, hd, h4, hu⟩)))
        | some uj =>
          cases ht : C.ofAffine (v.getD 2 0).toNat (v.getD 3 0).toNat with
          | none => exact Or.inr (Or.inr (Or.inr (Or.inr (Or.inl ⟨v, uj, hd, h4, hu, ht⟩))))
          | some tj => exact Or.inr (Or.inr (Or.inr (Or.inr (Or.inr ⟨uj, tj, v, hd, h4, hu, ht⟩))))

/-- **what the loop body returns**, by the judgement that holds of the peer's opening -/
theorem peer9_eq_iff (X : Outcome (Res (P × P))) :
    peer9 C H cp own p = X ↔
      (∃ e, decommitWith H p.commitment (p.decommitment.map Int.ofNat) = .panic e ∧ X = .panic e) ∨
      (NoOpen H p ∧ X = .ok (.fail decommitMsg p.idx)) ∨ (Short H p ∧ X = .panic rangeMsg) ∨
      (OffU C H p ∧ X = offVerdict cp own p offUMsg) ∨ (OffT C H p ∧ X = offVerdict cp own p offTMsg) ∨
      ∃ uj tj, Opens C H p uj tj ∧ X = .ok (.pass (uj, tj)) := by
  constructor
  · rintro rfl
    rcases opening_cases C H p with ⟨e, he⟩ | hn | hs | hu | ht | ⟨uj, tj, ho⟩
    · exact Or.inl ⟨e, he, peer9_of_panic C H cp own p he⟩
    · exact Or.inr (Or.inl ⟨hn, peer9_of_noOpen C H cp own p hn⟩)
    · exact Or.inr (Or.inr (Or.inl ⟨hs, peer9_of_short C H cp own p hs⟩))
    · exact Or.inr (Or.inr (Or.inr (Or.inl ⟨hu, peer9_of_offU C H cp own p hu⟩)))
    · exact Or.inr (Or.inr (Or.inr (Or.inr (Or.inl ⟨ht, peer9_of_offT C H cp own p ht⟩))))
    · exact Or.inr (Or.inr (Or.inr (Or.inr (Or.inr ⟨uj, tj, ho, peer9_of_opens C H cp own p ho⟩))))
  · rintro (⟨e, he, rfl⟩ | ⟨h, rfl⟩ | ⟨h, rfl⟩ | ⟨h, rfl⟩ | ⟨h, rfl⟩ | ⟨uj, tj, h, rfl⟩)
    · exact peer9_of_panic C H cp own p he
    · exact peer9_of_noOpen C H cp own p h
    · exact peer9_of_short C H cp own p h
    · exact peer9_of_offU C H cp own p h
    · exact peer9_of_offT C H cp own p h
    · exact peer9_of_opens C H cp own p h

theorem fail_eq_offVerdict_iff (tag why : String) (c : Nat) :
    .ok (.fail why c) = offVerdict (P := P) cp own p tag ↔ Named cp own p tag why c := by
  unfold offVerdict Named
  cases cp <;> simp

theorem peer9_pass_iff (uj tj : P) : peer9 C H cp own p = .ok (.pass (uj, tj)) ↔ Opens C H p uj tj := by
  simp only [peer9_eq_iff, offVerdict, reduceCtorEq, and_false, exists_false, false_or, Outcome.ok.injEq,
    Res.pass.injEq, Prod.mk.injEq]
  exact ⟨fun ⟨_, _, h, e1, e2⟩ => e1 ▸ e2 ▸ h, fun h => ⟨_, _, h, rfl, rfl⟩⟩

/-- a peer whose opening is valid is not the one at which the loop body fails -/
theorem not_opens_of_fail {why : String} {c : Nat} (h : peer9 C H cp own p = .ok (.fail why c)) :
    ¬ ∃ uj tj, Opens C H p uj tj := by
  rintro ⟨uj, tj, ho⟩
  rw [peer9_of_opens C H cp own p ho] at h
  cases h

theorem opens_unique {uj tj uj' tj' : P} (h : Opens C H p uj tj) (h' : Opens C H p uj' tj') :
    uj = uj' ∧ tj = tj' := by
  -- what `peer9` returns is a function of the opening; the tree and the own index play no role here
  have := (peer9_of_opens C H true 0 p h).symm.trans (peer9_of_opens C H true 0 p h')
  injection this with this; injection this with this; injection this with h1 h2
  exact ⟨h1, h2⟩

theorem peer9_fail_iff (why : String) (c : Nat) :
    peer9 C H cp own p = .ok (.fail why c) ↔
      (NoOpen H p ∧ why = decommitMsg ∧ c = p.idx) ∨
      (OffU C H p ∧ Named cp own p offUMsg why c) ∨
      (OffT C H p ∧ Named cp own p offTMsg why c) := by
  simp only [peer9_eq_iff, fail_eq_offVerdict_iff, reduceCtorEq, and_false, exists_false, false_or, or_false,
    Outcome.ok.injEq, Res.fail.injEq]

theorem peer9_panic_iff (e : String) :
    peer9 C H cp own p = .panic e ↔
      decommitWith H p.commitment (p.decommitment.map Int.ofNat) = .panic e ∨ (Short H p ∧ e = rangeMsg) := by
  simp only [peer9_eq_iff, offVerdict, reduceCtorEq, and_false, exists_false, false_or, or_false,
    Outcome.panic.injEq, exists_eq_right']

theorem peer9_no_err (e : String) : peer9 C H cp own p ≠ .err e := by
  simp only [ne_eq, peer9_eq_iff, offVerdict, reduceCtorEq, and_false, exists_false, or_false, not_false_eq_true]

end peer

section loop
variable (cp : Bool) (own : Nat)

/-- every peer opens validly, with these points, in peer order -/
abbrev AllOpen (peers : List R8Peer) (uts : List (P × P)) : Prop :=
  List.Forall₂ (fun q ut => Opens C H q ut.1 ut.2) peers uts

/-- the running sums after the peers whose points are `uts` -/
abbrev sumU (u : P) (uts : List (P × P)) : P := (uts.map (·.1)).foldl C.add u
abbrev sumT (t : P) (uts : List (P × P)) : P := (uts.map (·.2)).foldl C.add t

/-- the loop body as a step of `seqLoop` on the two running sums -/
def step9 (s : P × P) (p : R8Peer) : Outcome (Res Unit ⊕ P × P) :=
  peer9 C H cp own p >>= fun v =>
    match v with
    | .fail why c => .ok (.inl (.fail why c))
    | .pass ut => .ok (.inr (C.add s.1 ut.1, C.add s.2 ut.2))

theorem round9Go_eq (peers : List R8Peer) : ∀ u t : P,
    round9Go C H cp own u t peers = seqLoop (step9 C H cp own) (fun s => final9 C own s.1 s.2) (u, t) peers := by
  induction peers with
  | nil => intro u t; rfl
  | cons p rest ih =>
    intro u t
    rw [round9Go, seqLoop, step9]
    unfold peer9
    cases decommitWith H p.commitment (p.decommitment.map Int.ofNat) with
    | panic e => rfl
    | err e => rfl
    | ok o =>
      cases o with
      | none => rfl
      | some v =>
        simp only
        by_cases hl : v.length < 4
        · rw [if_pos hl, if_pos hl]; rfl
        · rw [if_neg hl, if_neg hl]
          cases C.ofAffine (v.getD 0 0).toNat (v.getD 1 0).toNat with
          | none => cases cp <;> rfl
          | some uj =>
            cases C.ofAffine (v.getD 2 0).toNat (v.getD 3 0).toNat with
            | none => cases cp <;> rfl
            | some tj => exact ih _ _

theorem allOpen_unique {peers : List R8Peer} {uts uts' : List (P × P)}
    (h : AllOpen C H peers uts) (h' : AllOpen C H peers uts') : uts = uts' := by
  induction h generalizing uts' with
  | nil => cases h'; rfl
  | cons h1 _ ih =>
    cases h' with
    | cons h1' h2' =>
      obtain ⟨e1, e2⟩ := opens_unique C H _ h1 h1'
      rw [ih h2']
      congr 1
      exact Prod.ext e1 e2

theorem allOpen_of_forall (peers : List R8Peer) (h : ∀ q ∈ peers, ∃ uj tj, Opens C H q uj tj) :
    ∃ uts, AllOpen C H peers uts :=
  exists_forall₂ peers fun q hq => by
    obtain ⟨uj, tj, ho⟩ := h q hq
    exact ⟨(uj, tj), ho⟩

theorem forall_of_allOpen {peers : List R8Peer} {uts : List (P × P)} (h : AllOpen C H peers uts) :
    ∀ q ∈ peers, ∃ uj tj, Opens C H q uj tj := by
  intro q hq
  obtain ⟨ut, hut⟩ := forall₂_left h q hq
  exact ⟨ut.1, ut.2, hut⟩

theorem allOpen_prefix {pre post : List R8Peer} {p : R8Peer} {uts : List (P × P)}
    (h : AllOpen C H (pre ++ p :: post) uts) : ∃ uj tj, Opens C H p uj tj :=
  forall_of_allOpen C H h p (by simp)

/-- the first peer without a valid opening is unique -/
theorem split_unique {pre pre' post post' : List R8Peer} {p p' : R8Peer}
    (he : pre ++ p :: post = pre' ++ p' :: post')
    (hpre : ∀ q ∈ pre, ∃ uj tj, Opens C H q uj tj) (hp : ¬ ∃ uj tj, Opens C H p uj tj)
    (hpre' : ∀ q ∈ pre', ∃ uj tj, Opens C H q uj tj) (hp' : ¬ ∃ uj tj, Opens C H p' uj tj) :
    pre = pre' ∧ p = p' ∧ post = post' := by
  induction pre generalizing pre' with
  | nil =>
    cases pre' with
    | nil =>
      simp only [List.nil_append, List.cons.injEq] at he
      exact ⟨rfl, he.1, he.2⟩
    | cons a l =>
      simp only [List.nil_append, List.cons_append, List.cons.injEq] at he
      exact absurd (he.1 ▸ hpre' a (List.mem_cons_self ..)) hp
  | cons a l ih =>
    cases pre' with
    | nil =>
      simp only [List.nil_append, List.cons_append, List.cons.injEq] at he
      exact absurd (he.1 ▸ hpre a (List.mem_cons_self ..)) hp'
    | cons a' l' =>
      simp only [List.cons_append, List.cons.injEq] at he
      obtain ⟨e1, e2, e3⟩ := ih he.2 (fun q hq => hpre q (List.mem_cons_of_mem _ hq))
        (fun q hq => hpre' q (List.mem_cons_of_mem _ hq))
      exact ⟨by rw [he.1, e1], e2, e3⟩

theorem final9_pass_iff (u t : P) : final9 C own u t = .ok (.pass ()) ↔ C.toAffine u = C.toAffine t := by
  unfold final9
  by_cases h : C.toAffine u = C.toAffine t
  · simp [h]
  · have : (C.toAffine u == C.toAffine t) = false := by simpa using h
    simp [this, h]

theorem final9_fail_iff (u t : P) (why : String) (c : Nat) :
    final9 C own u t = .ok (.fail why c) ↔ C.toAffine u ≠ C.toAffine t ∧ why = selfMsg ∧ c = own := by
  unfold final9
  by_cases h : C.toAffine u = C.toAffine t
  · simp [h]
  · have : (C.toAffine u == C.toAffine t) = false := by simpa using h
    simp only [this, Bool.false_eq_true, if_false, Outcome.ok.injEq, Res.fail.injEq, ne_eq, h, not_false_eq_true,
      true_and]
    exact ⟨fun ⟨a, b⟩ => ⟨a.symm, b.symm⟩, fun ⟨a, b⟩ => ⟨a.symm, b.symm⟩⟩

theorem final9_no_panic (u t : P) (e : String) : final9 C own u t ≠ .panic e := by
  unfold final9; split <;> simp

theorem step9_go_iff (s s' : P × P) (p : R8Peer) :
    step9 C H cp own s p = .ok (.inr s') ↔
      ∃ ut : P × P, Opens C H p ut.1 ut.2 ∧ s' = (C.add s.1 ut.1, C.add s.2 ut.2) := by
  unfold step9
  rw [Outcome.bind_eq_ok]
  constructor
  · rintro ⟨_ | ut, hv, h⟩ <;> cases h
    exact ⟨_, (peer9_pass_iff C H cp own p _ _).1 hv, rfl⟩
  · rintro ⟨ut, ho, rfl⟩
    exact ⟨_, (peer9_pass_iff C H cp own p _ _).2 ho, rfl⟩


theorem step9_halt_ok_iff (s : P × P) (p : R8Peer) (r : Res Unit) :
    halt (step9 C H cp own s p) = some (.ok r) ↔
      ∃ why c, peer9 C H cp own p = .ok (.fail why c) ∧ r = .fail why c := by
  rw [halt_eq_some_ok_iff]
  unfold step9
  rw [Outcome.bind_eq_ok]
  constructor
  · rintro ⟨_ | ⟨why, c⟩, hv, h⟩ <;> cases h
    exact ⟨_, _, hv, rfl⟩
  · rintro ⟨why, c, hv, rfl⟩
    exact ⟨_, hv, rfl⟩


theorem step9_halt_panic_iff (s : P × P) (p : R8Peer) (e : String) :
    halt (step9 C H cp own s p) = some (.panic e) ↔ peer9 C H cp own p = .panic e := by
  rw [halt_eq_some_panic_iff]
  unfold step9
  rw [Outcome.bind_eq_panic]
  constructor
  · rintro (h | ⟨_ | _, _, h⟩)
    · exact h
    · cases h
    · cases h
  · exact Or.inl


/-- running through `peers`: valid openings throughout, which only move the running sums -/
theorem runs9_iff (peers : List R8Peer) : ∀ (s s' : P × P),
    Runs (step9 C H cp own) s peers s' ↔
      ∃ uts, AllOpen C H peers uts ∧ s' = (sumU C s.1 uts, sumT C s.2 uts) := by
  induction peers with
  | nil =>
    intro s s'
    simp only [Runs, List.forall₂_nil_left_iff, exists_eq_left]
    exact Iff.rfl
  | cons p rest ih =>
    intro s s'
    simp only [Runs, step9_go_iff, ih, List.forall₂_cons_left_iff]
    constructor
    · rintro ⟨_, ⟨ut, ho, rfl⟩, uts, ha, rfl⟩
      exact ⟨ut :: uts, ⟨ut, uts, ho, ha, rfl⟩, rfl⟩
    · rintro ⟨_, ⟨ut, uts, ho, ha, rfl⟩, rfl⟩
      exact ⟨_, ⟨ut, ho, rfl⟩, uts, ha, rfl⟩

/-- the others open validly: the loop goes on at every peer other than `dev`, whatever the sums are -/
theorem round9_others_go (peers : List R8Peer) (dev : Nat)
    (hothers : ∀ p ∈ peers, p.idx ≠ dev → ∃ uj tj, Opens C H p uj tj)
    (pre : List R8Peer) (p : R8Peer) (post : List R8Peer) (s : P × P) (he : peers = pre ++ p :: post)
    (hne : p.idx ≠ dev) : halt (step9 C H cp own s p) = none := by
  obtain ⟨uj, tj, ho⟩ := hothers p (by rw [he]; simp) hne
  exact (halt_eq_none_iff _).2 ⟨_, (step9_go_iff C H cp own s _ p).2 ⟨(uj, tj), ho, rfl⟩⟩

/-- **exact failure condition**: the final comparison after valid openings throughout, or the verdict of the
first peer whose opening is not valid -/
theorem round9Go_fail_iff (u t : P) (peers : List R8Peer) (why : String) (c : Nat) :
    round9Go C H cp own u t peers = .ok (.fail why c) ↔
      (∃ uts, AllOpen C H peers uts ∧ C.toAffine (sumU C u uts) ≠ C.toAffine (sumT C t uts) ∧
        why = selfMsg ∧ c = own) ∨
      (∃ pre p post, peers = pre ++ p :: post ∧ (∀ q ∈ pre, ∃ uj tj, Opens C H q uj tj) ∧
        peer9 C H cp own p = .ok (.fail why c)) := by
  rw [round9Go_eq, seqLoop_eq_iff]
  constructor
  · rintro (⟨_, hr, hf⟩ | ⟨pre, p, post, s', he, hr, hq⟩)
    · obtain ⟨uts, ha, rfl⟩ := (runs9_iff C H cp own peers _ _).1 hr
      exact Or.inl ⟨uts, ha, (final9_fail_iff C own _ _ _ _).1 hf⟩
    · obtain ⟨uts, ha, _⟩ := (runs9_iff C H cp own pre _ _).1 hr
      obtain ⟨_, _, hp, hv⟩ := (step9_halt_ok_iff C H cp own s' p _).1 hq
      cases hv
      exact Or.inr ⟨pre, p, post, he, forall_of_allOpen C H ha, hp⟩
  · rintro (⟨uts, ha, hne⟩ | ⟨pre, p, post, he, hpre, hp⟩)
    · exact Or.inl ⟨_, (runs9_iff C H cp own peers _ _).2 ⟨uts, ha, rfl⟩, (final9_fail_iff C own _ _ _ _).2 hne⟩
    · obtain ⟨uts, ha⟩ := allOpen_of_forall C H pre hpre
      exact Or.inr ⟨pre, p, post, _, he, (runs9_iff C H cp own pre _ _).2 ⟨uts, ha, rfl⟩,
        (step9_halt_ok_iff C H cp own _ p _).2 ⟨why, c, hp, rfl⟩⟩

/-- **exact crash condition**: the first peer whose opening is not valid crashes the loop body -/
theorem round9Go_panic_iff (u t : P) (peers : List R8Peer) (e : String) :
    round9Go C H cp own u t peers = .panic e ↔
      ∃ pre p post, peers = pre ++ p :: post ∧ (∀ q ∈ pre, ∃ uj tj, Opens C H q uj tj) ∧
        peer9 C H cp own p = .panic e := by
  rw [round9Go_eq, seqLoop_eq_iff]
  constructor
  · rintro (⟨_, _, hf⟩ | ⟨pre, p, post, s', he, hr, hq⟩)
    · exact absurd hf (final9_no_panic C own _ _ e)
    · obtain ⟨uts, ha, _⟩ := (runs9_iff C H cp own pre _ _).1 hr
      exact ⟨pre, p, post, he, forall_of_allOpen C H ha, (step9_halt_panic_iff C H cp own s' p e).1 hq⟩
  · rintro ⟨pre, p, post, he, hpre, hp⟩
    obtain ⟨uts, ha⟩ := allOpen_of_forall C H pre hpre
    exact Or.inr ⟨pre, p, post, _, he, (runs9_iff C H cp own pre _ _).2 ⟨uts, ha, rfl⟩,
      (step9_halt_panic_iff C H cp own _ p e).2 hp⟩

/-- the loop never reports an error without a culprit -/
theorem round9Go_no_err (u t : P) (peers : List R8Peer) : C05EcL.NoErr (round9Go C H cp own u t peers) := by
  rw [round9Go_eq]
  refine seqLoop_noErr _ _ (fun p _ s => ?_) (fun s => ?_) _
  · exact C05EcL.NoErr.bind (peer9_no_err C H cp own p) fun v _ => by cases v <;> exact C05EcL.NoErr.ok _
  · unfold final9; split <;> exact C05EcL.NoErr.ok _

end loop

section names
variable (cp : Bool) (own : Nat)

/-- the loop body names its peer, or (tree before the repair only) the party itself -/
theorem peer9_fail_idx (p : R8Peer) (why : String) (c : Nat) (h : peer9 C H cp own p = .ok (.fail why c)) :
    c = p.idx ∨ (cp = false ∧ c = own ∧ why = selfMsg ∧ (OffU C H p ∨ OffT C H p)) := by
  rcases (peer9_fail_iff C H cp own p why c).1 h with ⟨_, _, hc⟩ | ⟨hu, hn⟩ | ⟨ht, hn⟩
  · exact Or.inl hc
  · rcases hn with ⟨_, _, hc⟩ | ⟨h1, h2, h3⟩
    · exact Or.inl hc
    · exact Or.inr ⟨h1, h3, h2, Or.inl hu⟩
  · rcases hn with ⟨_, _, hc⟩ | ⟨h1, h2, h3⟩
    · exact Or.inl hc
    · exact Or.inr ⟨h1, h3, h2, Or.inr ht⟩

/-- after the repair the loop body names its peer, with a reason other than the final assertion's -/
theorem peer9_fail_cur (p : R8Peer) (why : String) (c : Nat) (h : peer9 C H true own p = .ok (.fail why c)) :
    c = p.idx ∧ why ≠ selfMsg ∧
      ((NoOpen H p ∧ why = decommitMsg) ∨ (OffU C H p ∧ why = offUMsg) ∨ (OffT C H p ∧ why = offTMsg)) := by
  rcases (peer9_fail_iff C H true own p why c).1 h with ⟨hn, hw, hc⟩ | ⟨hu, hn⟩ | ⟨ht, hn⟩
  · exact ⟨hc, by rw [hw]; decide, Or.inl ⟨hn, hw⟩⟩
  · rcases hn with ⟨_, hw, hc⟩ | ⟨h1, _, _⟩
    · exact ⟨hc, by rw [hw]; decide, Or.inr (Or.inl ⟨hu, hw⟩)⟩
    · cases h1
  · rcases hn with ⟨_, hw, hc⟩ | ⟨h1, _, _⟩
    · exact ⟨hc, by rw [hw]; decide, Or.inr (Or.inr ⟨ht, hw⟩)⟩
    · cases h1

end names

/-- a peer whose de-commitment has five entries (what `SignRound8Message.ValidateBasic` lets through) cannot crash
the loop body, whatever `checkPoints` is -/
theorem peer9_no_panic_of_five (cp : Bool) (own : Nat) (p : R8Peer) (h5 : p.decommitment.length = 5) (e : String) :
    peer9 C H cp own p ≠ .panic e := by
  intro h
  rcases (peer9_panic_iff C H cp own p e).1 h with hp | ⟨⟨v, hv, hl⟩, _⟩
  · refine decommit_noPanic H _ p.decommitment ?_ e hp
    intro hnil
    rw [hnil] at h5
    cases h5
  · have := decommit_some_length H hv
    rw [List.length_map, h5] at this
    omega

end TssVerif.C05Sg9L
