import TssVerif.Core.Ckd
import TssVerif.Lemmas.CurveLaw
import Mathlib.Tactic.Abel
/-! BIP32 public derivation (`crypto/ckd`): when `Ckd.deriveChild` returns and what, its refusals, and the
accumulator invariant of `Ckd.derivePath`. -/
set_option autoImplicit false
set_option linter.style.haveILetI false
namespace TssVerif.MiscL
open TssVerif TssVerif.Ckd

section ckd
variable {P : Type} (C : Curve P)

/-- the HMAC output `I` of one derivation step -/
def stepI (i : Nat) (k : ExtKey) : Bytes := hmacSha512 k.chainCode (serP k.pub ++ ser32 i)

/-- the child record built from the child point `c` -/
def childOf (i : Nat) (k : ExtKey) (c : ECPoint) : ExtKey :=
  { pub := c, depth := k.depth + 1, childIndex := i, chainCode := (stepI i k).drop 32,
    parentFP := (hash160 (serP k.pub)).take 4, version := k.version }

theorem deriveChild_ok {i : Nat} {k : ExtKey} {il : Nat} {child : ExtKey}
    (h : deriveChild C i k = .ok (il, child)) :
    i < 2 ^ 31 ∧ k.depth ≠ 255 ∧ il = bytesToNat ((stepI i k).take 32) ∧ 0 < il ∧ il < C.q ∧
    ∃ parent, C.lift k.pub = some parent ∧
      (∃ dg, C.toAffine (C.smul il C.base) = some dg ∧ dg.1 ≠ 0 ∧ dg.2 ≠ 0) ∧
      ∃ c, C.toAffine (C.add parent (C.smul il C.base)) = some c ∧ child = childOf i k c := by
  unfold deriveChild at h
  split at h
  · exact absurd h (by simp)
  next h1 =>
  split at h
  · exact absurd h (by simp)
  next h2 =>
  split at h
  · exact absurd h (by simp)
  next parent hpar =>
  simp only at h
  split at h
  · exact absurd h (by simp)
  next h3 =>
  split at h
  · exact absurd h (by simp)
  next dg hdg =>
  split at h
  · exact absurd h (by simp)
  next h4 =>
  split at h
  · exact absurd h (by simp)
  next c hc =>
  simp only [Outcome.ok.injEq, Prod.mk.injEq] at h
  obtain ⟨hil, hchild⟩ := h
  subst hil
  subst hchild
  refine ⟨?_, h2, rfl, by omega, by omega, parent, hpar, ⟨dg, hdg, ?_, ?_⟩, c, hc, rfl⟩
  · simp only [hardenedKeyStart] at h1; omega
  · intro h0; exact h4 (Or.inl h0)
  · intro h0; exact h4 (Or.inr h0)

theorem deriveChild_of {i : Nat} {k : ExtKey} {parent : P} {dg c : ECPoint}
    (h1 : i < 2 ^ 31) (h2 : k.depth ≠ 255) (hpar : C.lift k.pub = some parent)
    (h3 : 0 < bytesToNat ((stepI i k).take 32)) (h4 : bytesToNat ((stepI i k).take 32) < C.q)
    (hdg : C.toAffine (C.smul (bytesToNat ((stepI i k).take 32)) C.base) = some dg)
    (hx : dg.1 ≠ 0) (hy : dg.2 ≠ 0)
    (hc : C.toAffine (C.add parent (C.smul (bytesToNat ((stepI i k).take 32)) C.base)) = some c) :
    deriveChild C i k = .ok (bytesToNat ((stepI i k).take 32), childOf i k c) := by
  unfold deriveChild
  rw [if_neg (by simp only [hardenedKeyStart]; omega), if_neg (show ¬ k.depth = maxDepth from h2), hpar]
  simp only
  rw [if_neg (by unfold stepI at h3 h4; omega)]
  unfold stepI at hdg hc
  rw [hdg]
  simp only
  rw [if_neg (by rintro (h | h); exact hx h; exact hy h), hc]
  rfl

theorem deriveChild_hardened {i : Nat} (k : ExtKey) (h : 2 ^ 31 ≤ i) :
    deriveChild C i k = .err "hardened" := by
  unfold deriveChild
  rw [if_pos (by simp only [hardenedKeyStart]; omega)]

theorem deriveChild_maxDepth {i : Nat} {k : ExtKey} (hi : i < 2 ^ 31) (h : k.depth = 255) :
    deriveChild C i k = .err "max-depth" := by
  unfold deriveChild
  rw [if_neg (by simp only [hardenedKeyStart]; omega), if_pos (show k.depth = maxDepth from h)]

theorem deriveChild_invalid_parent {i : Nat} {k : ExtKey} (hi : i < 2 ^ 31) (hd : k.depth ≠ 255)
    (h : C.lift k.pub = none) : deriveChild C i k = .err "invalid-parent" := by
  unfold deriveChild
  rw [if_neg (by simp only [hardenedKeyStart]; omega), if_neg (show ¬ k.depth = maxDepth from hd), h]

theorem deriveChild_refused {i : Nat} {k : ExtKey}
    (h : 2 ^ 31 ≤ i ∨ k.depth = 255 ∨ C.lift k.pub = none) : ∃ e, deriveChild C i k = .err e := by
  by_cases h1 : 2 ^ 31 ≤ i
  · exact ⟨_, deriveChild_hardened C k h1⟩
  · by_cases h2 : k.depth = 255
    · exact ⟨_, deriveChild_maxDepth C (by omega) h2⟩
    · rcases h with h | h | h
      · exact absurd h h1
      · exact absurd h h2
      · exact ⟨_, deriveChild_invalid_parent C (by omega) h2 h⟩

theorem derivePath_nil (m : Nat) (k : ExtKey) (acc : Nat) : derivePath C m [] k acc = .ok (acc, k) := rfl

theorem derivePath_cons (m i : Nat) (rest : List Nat) (k : ExtKey) (acc : Nat) :
    derivePath C m (i :: rest) k acc =
      match deriveChild C i k with
      | .ok (il, child) => derivePath C m rest child ((il + acc) % m)
      | .err e => .err e
      | .panic e => .panic e := rfl

theorem derivePath_append (m : Nat) (pre suf : List Nat) (k : ExtKey) (acc : Nat) :
    derivePath C m (pre ++ suf) k acc =
      match derivePath C m pre k acc with
      | .ok (a, k') => derivePath C m suf k' a
      | .err e => .err e
      | .panic e => .panic e := by
  induction pre generalizing k acc with
  | nil => rfl
  | cons i pre ih =>
    rw [List.cons_append, derivePath_cons, derivePath_cons]
    cases h : deriveChild C i k with
    | ok r => obtain ⟨il, child⟩ := r; simp only; exact ih child _
    | err e => rfl
    | panic e => rfl

theorem derivePath_depth {m : Nat} {path : List Nat} {k : ExtKey} {acc off : Nat} {child : ExtKey}
    (h : derivePath C m path k acc = .ok (off, child)) :
    child.depth = k.depth + path.length ∧ child.version = k.version ∧
      (k.depth ≤ 255 → child.depth ≤ 255) ∧ ∀ i ∈ path, i < 2 ^ 31 := by
  induction path generalizing k acc with
  | nil =>
    rw [derivePath_nil] at h
    simp only [Outcome.ok.injEq, Prod.mk.injEq] at h
    obtain ⟨_, rfl⟩ := h
    simp
  | cons i rest ih =>
    rw [derivePath_cons] at h
    cases hd : deriveChild C i k with
    | ok r =>
      obtain ⟨il, c1⟩ := r
      rw [hd] at h
      simp only at h
      obtain ⟨g1, g2, g3, g4⟩ := ih h
      obtain ⟨d1, d2, _, _, _, _, _, _, c, _, hc⟩ := deriveChild_ok C hd
      have e1 : c1.depth = k.depth + 1 := by rw [hc]; rfl
      have e2 : c1.version = k.version := by rw [hc]; rfl
      refine ⟨by rw [g1, e1, List.length_cons]; omega, by rw [g2, e2], fun hk => g3 (by omega), ?_⟩
      intro j hj
      rcases List.mem_cons.1 hj with rfl | hj
      · exact d1
      · exact g4 j hj
    | err e => rw [hd] at h; exact absurd h (by simp)
    | panic e => rw [hd] at h; exact absurd h (by simp)

/-- **the accumulator invariant**: `child + acc·G = parent + off·G`; the offset is reduced as soon as the
starting accumulator is (Go starts from `0`) -/
theorem derivePath_invariant (hC : C.Lawful) {path : List Nat} {k : ExtKey} {acc off : Nat}
    {child : ExtKey} {parent : P} (hpar : C.lift k.pub = some parent)
    (h : derivePath C C.q path k acc = .ok (off, child)) :
    ∃ cp, C.lift child.pub = some cp ∧ C.toAffine cp = some child.pub ∧
      C.add cp (C.smul acc C.base) = C.add parent (C.smul off C.base) ∧
      (acc < C.q → off < C.q) := by
  induction path generalizing k acc parent with
  | nil =>
    rw [derivePath_nil] at h
    simp only [Outcome.ok.injEq, Prod.mk.injEq] at h
    obtain ⟨rfl, rfl⟩ := h
    exact ⟨parent, hpar, hC.ofAffine_toAffine _ _ _ hpar, rfl, id⟩
  | cons i rest ih =>
    rw [derivePath_cons] at h
    cases hd : deriveChild C i k with
    | ok r =>
      obtain ⟨il, c1⟩ := r
      rw [hd] at h
      simp only at h
      obtain ⟨_, _, _, _, _, parent', hpar', _, c, hc, hc1⟩ := deriveChild_ok C hd
      rw [hpar] at hpar'
      obtain rfl := Option.some.inj hpar'
      have hlift1 : C.lift c1.pub = some (C.add parent (C.smul il C.base)) := by
        rw [hc1]; exact hC.toAffine_ofAffine _ _ _ hc
      obtain ⟨cp, g1, g2, g3, g4⟩ := ih hlift1 h
      refine ⟨cp, g1, g2, ?_, fun _ => g4 (Nat.mod_lt _ hC.q_pos)⟩
      rw [← hC.smul_base_mod, hC.smul_add] at g3
      letI := hC.groupLaws.addCommGroup
      have g3' : cp + (C.smul il C.base + C.smul acc C.base) =
          parent + C.smul il C.base + C.smul off C.base := g3
      show cp + C.smul acc C.base = parent + C.smul off C.base
      have : cp + C.smul acc C.base + C.smul il C.base =
          parent + C.smul off C.base + C.smul il C.base := by
        rw [add_assoc, add_comm (C.smul acc C.base), g3']; abel
      exact add_right_cancel this
    | err e => rw [hd] at h; exact absurd h (by simp)
    | panic e => rw [hd] at h; exact absurd h (by simp)

end ckd

end TssVerif.MiscL
