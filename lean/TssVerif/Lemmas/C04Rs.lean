import TssVerif.Core.BlameRs
import TssVerif.Lemmas.C05
/-! Helper lemmas for `TssVerif/Props/C04c.lean`: the recursion of `BlameRs.round1Key` (both trees), the
per-old-member check `checkOld` stage by stage, the loop of `round4`, the column sums in the group of a
lawful curve, and totality. -/
set_option autoImplicit false
namespace TssVerif.C04RsL
open TssVerif BlameRs Blame C05L

section round1
variable {P : Type} (C : Curve P)

abbrev mismatchMsg : String := "eddsa pub key did not match what we received previously"
abbrev unmarshalMsg : String := "unable to unmarshal the eddsa pub key"
abbrev noOldMsg : String := "no old member"

theorem r1go_nil (em : Bool) (first : Option OldMsg) (saved : Option ECPoint) :
    round1Key.go C em first saved [] =
      match saved with
      | some k => .pass k
      | none => .fail noOldMsg [] := by
  cases saved <;> rfl

theorem r1go_true_cons (first : Option OldMsg) (saved : Option ECPoint) (m : OldMsg) (rest : List OldMsg) :
    round1Key.go C true first saved (m :: rest) =
      match C.ecNew m.pub.1 m.pub.2 with
      | none => .fail unmarshalMsg [m.idx]
      | some cand =>
        match saved with
        | some k => if cand != k then .fail mismatchMsg [] else round1Key.go C true first (some cand) rest
        | none => round1Key.go C true first (some cand) rest := by
  rw [round1Key.go]
  rfl

theorem r1go_false_cons (first : Option OldMsg) (saved : Option ECPoint) (m : OldMsg) (rest : List OldMsg) :
    round1Key.go C false first saved (m :: rest) =
      match first with
      | none => .fail noOldMsg []
      | some s =>
        match C.ecNew s.pub.1 s.pub.2 with
        | none => .fail unmarshalMsg [m.idx]
        | some cand =>
          match saved with
          | some k => if cand != k then .fail mismatchMsg [m.idx] else round1Key.go C false first (some cand) rest
          | none => round1Key.go C false first (some cand) rest := by
  rw [round1Key.go]
  rfl

/-- (the loop passes with `key` iff every message announces `key` and `key` is what was saved before — or nothing was
saved, and then there must be a message to take it from) -/
theorem r1go_true_pass_iff (first : Option OldMsg) : ∀ (msgs : List OldMsg) (saved : Option ECPoint) (key : ECPoint),
    round1Key.go C true first saved msgs = .pass key ↔
      (∀ m ∈ msgs, C.ecNew m.pub.1 m.pub.2 = some key) ∧ (saved = some key ∨ (saved = none ∧ msgs ≠ [])) := by
  intro msgs
  induction msgs with
  | nil =>
    intro saved key
    rw [r1go_nil]
    cases saved <;> simp
  | cons m rest ih =>
    intro saved key
    rw [r1go_true_cons]
    cases hc : C.ecNew m.pub.1 m.pub.2 with
    | none => simp [hc]
    | some cand =>
      -- without a mismatch the loop goes on with `cand` saved
      have hstep : round1Key.go C true first (some cand) rest = .pass key ↔
          cand = key ∧ ∀ m' ∈ rest, C.ecNew m'.pub.1 m'.pub.2 = some key := by
        rw [ih]; simp [and_comm]
      cases saved with
      | none => simp [hstep, hc]
      | some k =>
        by_cases hk : cand = k
        · subst hk
          simpa [hstep, hc] using fun h _ => h
        · simp only [bne_iff_ne, ne_eq, hk, not_false_eq_true, if_true, reduceCtorEq, false_iff, not_and,
            List.forall_mem_cons, hc, Option.some.injEq]
          rintro ⟨rfl, _⟩ (rfl | ⟨h, _⟩)
          · exact hk rfl
          · exact h

/-- every way the repaired loop, started with `saved` on `msgs`, can fail: no message at all; a disagreement (nobody is
named: the messages before `m` agree on a key `k`, `m` announces another valid key); or a key that does not decode
(its sender is named) -/
def R1Fails (saved : Option ECPoint) (msgs : List OldMsg) (why : String) (cs : List Nat) : Prop :=
  (why = noOldMsg ∧ cs = [] ∧ msgs = [] ∧ saved = none) ∨
  (why = mismatchMsg ∧ cs = [] ∧ ∃ pre m post k k', msgs = pre ++ m :: post ∧
    (∀ p ∈ pre, C.ecNew p.pub.1 p.pub.2 = some k) ∧ (saved = some k ∨ (saved = none ∧ pre ≠ [])) ∧
    C.ecNew m.pub.1 m.pub.2 = some k' ∧ k' ≠ k) ∨
  (why = unmarshalMsg ∧ ∃ pre m post, msgs = pre ++ m :: post ∧ cs = [m.idx] ∧
    C.ecNew m.pub.1 m.pub.2 = none ∧ ∀ p ∈ pre, ∃ k, C.ecNew p.pub.1 p.pub.2 = some k)

theorem r1go_true_fail (first : Option OldMsg) : ∀ (msgs : List OldMsg) (saved : Option ECPoint) (why : String)
    (cs : List Nat), round1Key.go C true first saved msgs = .fail why cs → R1Fails C saved msgs why cs := by
  intro msgs
  induction msgs with
  | nil =>
    intro saved why cs h
    rw [r1go_nil] at h
    cases saved with
    | some k => cases h
    | none =>
      injection h with h1 h2
      exact Or.inl ⟨h1.symm, h2.symm, rfl, rfl⟩
  | cons m rest ih =>
    intro saved why cs h
    rw [r1go_true_cons] at h
    cases hc : C.ecNew m.pub.1 m.pub.2 with
    | none =>
      rw [hc] at h
      injection h with h1 h2
      exact Or.inr (Or.inr ⟨h1.symm, [], m, rest, rfl, h2.symm, hc, fun _ hp => (by cases hp)⟩)
    | some cand =>
      rw [hc] at h
      simp only at h
      -- a failure of the rest of the loop, run with `cand` saved, is a failure of the whole with `m` in front
      have step : ∀ (sv : Option ECPoint), (sv = some cand ∨ sv = none) →
          round1Key.go C true first (some cand) rest = .fail why cs → R1Fails C sv (m :: rest) why cs := by
        intro sv hsv hrec
        have hpre : ∀ pre : List OldMsg, (∀ p ∈ pre, ∃ k, C.ecNew p.pub.1 p.pub.2 = some k) →
            ∀ p ∈ m :: pre, ∃ k, C.ecNew p.pub.1 p.pub.2 = some k :=
          fun pre h => List.forall_mem_cons.2 ⟨⟨cand, hc⟩, h⟩
        rcases ih (some cand) why cs hrec with ⟨_, _, _, h4⟩ | ⟨h1, h2, pre, m', post, k, k', hs, hp, hk, hm', hne⟩ |
          ⟨h1, pre, m', post, hs, hcs, hm', hp⟩
        · cases h4
        · have hkc : k = cand := by
            rcases hk with hk | ⟨hk, _⟩
            · injection hk with hk; exact hk.symm
            · cases hk
          subst hkc
          exact Or.inr (Or.inl ⟨h1, h2, m :: pre, m', post, k, k', by rw [hs]; rfl,
            List.forall_mem_cons.2 ⟨hc, hp⟩, hsv.imp id fun e => ⟨e, List.cons_ne_nil _ _⟩, hm', hne⟩)
        · exact Or.inr (Or.inr ⟨h1, m :: pre, m', post, by rw [hs]; rfl, hcs, hm', hpre pre hp⟩)
      cases saved with
      | none => exact step none (Or.inr rfl) h
      | some k =>
        simp only at h
        by_cases hk : cand = k
        · subst hk
          simp only [bne_self_eq_false, Bool.false_eq_true, if_false] at h
          exact step (some cand) (Or.inl rfl) h
        · have hb : (cand != k) = true := by simp [hk]
          rw [if_pos hb] at h
          injection h with h1 h2
          exact Or.inr (Or.inl ⟨h1.symm, h2.symm, [], m, rest, k, cand, rfl, fun _ hp => (by cases hp),
            Or.inl rfl, hc, hk⟩)

/-- **tree before the repair**: once the first old member's key decodes to `key`, the loop passes with `key`
whatever the messages are -/
theorem r1go_false_saved (m0 : OldMsg) (key : ECPoint) (h0 : C.ecNew m0.pub.1 m0.pub.2 = some key) :
    ∀ (msgs : List OldMsg), round1Key.go C false (some m0) (some key) msgs = .pass key := by
  intro msgs
  induction msgs with
  | nil => rw [r1go_nil]
  | cons m rest ih =>
    rw [r1go_false_cons]
    simp only [h0, bne_self_eq_false, Bool.false_eq_true, if_false]
    exact ih

theorem round1Key_eq (em : Bool) (msgs : List OldMsg) :
    round1Key C em msgs = round1Key.go C em msgs.head? none msgs := rfl

theorem round1Key_false_cons (m0 : OldMsg) (rest : List OldMsg) :
    round1Key C false (m0 :: rest) =
      match C.ecNew m0.pub.1 m0.pub.2 with
      | none => .fail unmarshalMsg [m0.idx]
      | some key => .pass key := by
  rw [round1Key_eq, List.head?_cons, r1go_false_cons]
  cases h0 : C.ecNew m0.pub.1 m0.pub.2 with
  | none => simp only [h0]
  | some key =>
    simp only [h0]
    exact r1go_false_saved C m0 key h0 rest

end round1

section checkOld
variable {P : Type} (C : Curve P) (H : HashFn)
variable (vcfg : Vss.VerifyCfg) (cof cofInv t' ownId : Nat) (m : OldMsg)

abbrev decommitMsg : String := "de-commitment of v_j0..v_jt failed"
abbrev shareMsg : String := "share from old committee did not pass Verify()"

/-- what `checkOld` does once the commitment points are decoded and cleared -/
def coTail (vs : List ECPoint) : Outcome (Verdict (List ECPoint)) :=
  Vss.verify C vcfg t' ⟨t', ownId, m.share⟩ vs >>= fun b =>
    if !b then .ok (.fail shareMsg [m.idx]) else .ok (.pass vs)

theorem checkOld_eq :
    checkOld C H vcfg cof cofInv t' ownId m =
      decommitWith H m.commitment (m.decommitment.map Int.ofNat) >>= fun o =>
        match o with
        | none => .ok (.fail decommitMsg [m.idx])
        | some flat =>
          if flat.length != (t' + 1) * 2 then .ok (.fail decommitMsg [m.idx]) else
          match C.unflatten (flat.map Int.toNat) with
          | none => .ok (.fail "unflatten" [m.idx])
          | some pts => pts.mapM (clear C cof cofInv) >>= coTail C vcfg t' ownId m := by
  unfold checkOld
  cases decommitWith H m.commitment (m.decommitment.map Int.ofNat) with
  | ok o => cases o <;> rfl
  | err e => rfl
  | panic t => rfl

theorem checkOld_of_length (flat : List Int)
    (h : decommitWith H m.commitment (m.decommitment.map Int.ofNat) = .ok (some flat))
    (hl : flat.length = (t' + 1) * 2) :
    checkOld C H vcfg cof cofInv t' ownId m =
      match C.unflatten (flat.map Int.toNat) with
      | none => .ok (.fail "unflatten" [m.idx])
      | some pts => pts.mapM (clear C cof cofInv) >>= coTail C vcfg t' ownId m := by
  rw [checkOld_eq, h]
  exact if_neg (by simp [hl])

theorem coTail_ok_inv (vs : List ECPoint) (v : Verdict (List ECPoint))
    (h : coTail C vcfg t' ownId m vs = .ok v) :
    (Vss.verify C vcfg t' ⟨t', ownId, m.share⟩ vs = .ok true ∧ v = .pass vs) ∨
    (Vss.verify C vcfg t' ⟨t', ownId, m.share⟩ vs = .ok false ∧ v = .fail shareMsg [m.idx]) := by
  unfold coTail at h
  obtain ⟨b, hv, h⟩ := Outcome.bind_eq_ok.1 h
  cases b with
  | true => injection h with h; exact Or.inl ⟨hv, h.symm⟩
  | false => injection h with h; exact Or.inr ⟨hv, h.symm⟩

/-- everything that was checked on an old member's material when it passes -/
def Passes (vs : List ECPoint) : Prop :=
  ∃ flat pts, decommitWith H m.commitment (m.decommitment.map Int.ofNat) = .ok (some flat) ∧
    flat.length = (t' + 1) * 2 ∧
    C.unflatten (flat.map Int.toNat) = some pts ∧
    pts.mapM (clear C cof cofInv) = .ok vs ∧
    Vss.verify C vcfg t' ⟨t', ownId, m.share⟩ vs = .ok true

/-- every way the material of an old member can be rejected -/
inductive Rejected : String → Prop
  | decommit (h : decommitWith H m.commitment (m.decommitment.map Int.ofNat) = .ok none) : Rejected decommitMsg
  | length (flat : List Int)
      (h : decommitWith H m.commitment (m.decommitment.map Int.ofNat) = .ok (some flat))
      (hl : flat.length ≠ (t' + 1) * 2) : Rejected decommitMsg
  | unflatten (flat : List Int)
      (h : decommitWith H m.commitment (m.decommitment.map Int.ofNat) = .ok (some flat))
      (hl : flat.length = (t' + 1) * 2) (hu : C.unflatten (flat.map Int.toNat) = none) : Rejected "unflatten"
  | share (flat : List Int) (pts vs : List ECPoint)
      (h : decommitWith H m.commitment (m.decommitment.map Int.ofNat) = .ok (some flat))
      (hl : flat.length = (t' + 1) * 2) (hu : C.unflatten (flat.map Int.toNat) = some pts)
      (hm : pts.mapM (clear C cof cofInv) = .ok vs)
      (hv : Vss.verify C vcfg t' ⟨t', ownId, m.share⟩ vs = .ok false) : Rejected shareMsg

theorem checkOld_of_passes (vs : List ECPoint) (hp : Passes C H vcfg cof cofInv t' ownId m vs) :
    checkOld C H vcfg cof cofInv t' ownId m = .ok (.pass vs) := by
  obtain ⟨flat, pts, hd, hl, hu, hm, hv⟩ := hp
  rw [checkOld_of_length C H vcfg cof cofInv t' ownId m flat hd hl, hu]
  simp only [hm, Outcome.ok_bind, coTail, hv]
  rfl

theorem checkOld_of_rejected (why : String) (hr : Rejected C H vcfg cof cofInv t' ownId m why) :
    checkOld C H vcfg cof cofInv t' ownId m = .ok (.fail why [m.idx]) := by
  cases hr with
  | decommit h => rw [checkOld_eq, h]; rfl
  | length flat h hl => rw [checkOld_eq, h]; exact if_pos (by simp [hl])
  | unflatten flat h hl hu => rw [checkOld_of_length C H vcfg cof cofInv t' ownId m flat h hl, hu]
  | share flat pts vs h hl hu hm hv =>
    rw [checkOld_of_length C H vcfg cof cofInv t' ownId m flat h hl, hu]
    simp only [hm, Outcome.ok_bind, coTail, hv]
    rfl

/-- **every verdict of `checkOld`**: a pass with everything checked, or a rejection naming the sender -/
theorem checkOld_ok_inv (v : Verdict (List ECPoint))
    (h : checkOld C H vcfg cof cofInv t' ownId m = .ok v) :
    (∃ vs, v = .pass vs ∧ Passes C H vcfg cof cofInv t' ownId m vs) ∨
    (∃ why, v = .fail why [m.idx] ∧ Rejected C H vcfg cof cofInv t' ownId m why) := by
  cases hd : decommitWith H m.commitment (m.decommitment.map Int.ofNat) with
  | err e => rw [checkOld_eq, hd] at h; cases h
  | panic e => rw [checkOld_eq, hd] at h; cases h
  | ok o =>
    cases o with
    | none =>
      rw [checkOld_eq, hd] at h
      injection h with h
      exact Or.inr ⟨_, h.symm, .decommit hd⟩
    | some flat =>
      by_cases hl : flat.length = (t' + 1) * 2
      · rw [checkOld_of_length C H vcfg cof cofInv t' ownId m flat hd hl] at h
        cases hu : C.unflatten (flat.map Int.toNat) with
        | none =>
          rw [hu] at h
          injection h with h
          exact Or.inr ⟨_, h.symm, .unflatten flat hd hl hu⟩
        | some pts =>
          rw [hu] at h
          obtain ⟨vs, hm, h⟩ := Outcome.bind_eq_ok.1 h
          rcases coTail_ok_inv C vcfg t' ownId m vs v h with ⟨hv, rfl⟩ | ⟨hv, rfl⟩
          · exact Or.inl ⟨vs, rfl, flat, pts, hd, hl, hu, hm, hv⟩
          · exact Or.inr ⟨_, rfl, .share flat pts vs hd hl hu hm hv⟩
      · rw [checkOld_of_rejected C H vcfg cof cofInv t' ownId m _ (.length flat hd hl)] at h
        injection h with h
        exact Or.inr ⟨_, h.symm, .length flat hd hl⟩

theorem checkOld_pass_iff (vs : List ECPoint) :
    checkOld C H vcfg cof cofInv t' ownId m = .ok (.pass vs) ↔ Passes C H vcfg cof cofInv t' ownId m vs := by
  constructor
  · intro h
    rcases checkOld_ok_inv C H vcfg cof cofInv t' ownId m _ h with ⟨vs', he, hp⟩ | ⟨_, he, _⟩
    · injection he with he; subst he; exact hp
    · cases he
  · exact checkOld_of_passes C H vcfg cof cofInv t' ownId m vs

/-- **exact rejection condition**, and the culprit is the sender -/
theorem checkOld_fail_iff (why : String) (cs : List Nat) :
    checkOld C H vcfg cof cofInv t' ownId m = .ok (.fail why cs) ↔
      cs = [m.idx] ∧ Rejected C H vcfg cof cofInv t' ownId m why := by
  constructor
  · intro h
    rcases checkOld_ok_inv C H vcfg cof cofInv t' ownId m _ h with ⟨_, he, _⟩ | ⟨why', he, hr⟩
    · cases he
    · injection he with h1 h2; subst h1; exact ⟨h2, hr⟩
  · rintro ⟨rfl, hr⟩
    exact checkOld_of_rejected C H vcfg cof cofInv t' ownId m why hr

/-- a passing old member's points: `t' + 1` of them, all on the curve (`Vss.verify` accepted them) -/
theorem passes_shape (hC : C.Lawful) (vs : List ECPoint) (hp : Passes C H vcfg cof cofInv t' ownId m vs) :
    vs.length = t' + 1 ∧ ∀ v ∈ vs, C.ecIsOnCurve v = true := by
  obtain ⟨_, _, _, _, _, _, hv⟩ := hp
  obtain ⟨V, hV, hVl, _, _⟩ := AlgL.verify_true_feldman hC vcfg t' _ vs hv
  exact ⟨by rw [hV.length_eq, hVl], AlgL.forall₂_lift_onCurve hV⟩

/-- **the check always returns a verdict** on the repaired `Vss.verify`, for a non-empty de-commitment -/
theorem checkOld_total (hC : C.Lawful)
    (hcof : C.toAffine C.zero = none → ∀ p, C.smul C.q p = C.zero)
    (hnz : C.toAffine C.zero = none → cof % C.q ≠ 0 ∧ cofInv % C.q ≠ 0)
    (hd : m.decommitment ≠ []) :
    ∃ v, checkOld C H ⟨true⟩ cof cofInv t' ownId m = .ok v := by
  rw [checkOld_eq]
  refine C05SgL.total_bind (decommit_total H _ _ hd) fun o _ => ?_
  cases o with
  | none => exact ⟨_, rfl⟩
  | some flat =>
    dsimp only
    split
    · exact ⟨_, rfl⟩
    · cases hu : C.unflatten (flat.map Int.toNat) with
      | none => exact ⟨_, rfl⟩
      | some pts =>
        refine C05SgL.total_bind (mapM_clear_total hC hcof hnz ((C17L.unflatten_eq_some_iff C _ _).1 hu).2)
          fun vs hvs => ?_
        refine C05SgL.total_bind (Vss.verify_no_panic hC hcof t' ⟨t', ownId, m.share⟩ vs
          (mapM_clear_onCurve hC hvs)) fun b _ => ?_
        cases b <;> exact ⟨_, rfl⟩

end checkOld

section loop
variable {P : Type} (C : Curve P) (H : HashFn)
variable (vcfg : Vss.VerifyCfg) (cof cofInv t' ownId : Nat)

/-- the loop body as a step of `seqLoop` on the state (accepted rows so far, reversed; sum of the shares so far) -/
def r4Step (st : List (List ECPoint) × Nat) (m : OldMsg) :
    Outcome (Verdict (List (List ECPoint) × Nat) ⊕ List (List ECPoint) × Nat) :=
  checkOld C H vcfg cof cofInv t' ownId m >>= fun v =>
    match v with
    | .fail why cs => .ok (.inl (.fail why cs))
    | .pass vs => .ok (.inr (vs :: st.1, st.2 + m.share))

theorem r4go_eq (msgs : List OldMsg) : ∀ (acc : List (List ECPoint)) (xi : Nat),
    round4.go C H vcfg cof cofInv t' ownId acc xi msgs =
      seqLoop (r4Step C H vcfg cof cofInv t' ownId) (fun st => .ok (.pass (st.1.reverse, st.2))) (acc, xi) msgs := by
  induction msgs with
  | nil => intro acc xi; rw [round4.go]; rfl
  | cons m rest ih =>
    intro acc xi
    rw [round4.go, seqLoop]
    unfold r4Step
    cases checkOld C H vcfg cof cofInv t' ownId m with
    | ok v =>
      cases v with
      | fail why cs => rfl
      | pass vs => exact ih (vs :: acc) (xi + m.share)
    | err e => rfl
    | panic t => rfl

theorem r4Step_go_iff (st st' : List (List ECPoint) × Nat) (m : OldMsg) :
    r4Step C H vcfg cof cofInv t' ownId st m = .ok (.inr st') ↔
      ∃ vs, checkOld C H vcfg cof cofInv t' ownId m = .ok (.pass vs) ∧ st' = (vs :: st.1, st.2 + m.share) := by
  unfold r4Step
  cases checkOld C H vcfg cof cofInv t' ownId m with
  | ok v => cases v <;> simp [eq_comm]
  | err e => simp
  | panic t => simp

theorem r4Step_halt_ok_iff (st : List (List ECPoint) × Nat) (m : OldMsg) (r : Verdict (List (List ECPoint) × Nat)) :
    halt (r4Step C H vcfg cof cofInv t' ownId st m) = some (.ok r) ↔
      ∃ why cs, checkOld C H vcfg cof cofInv t' ownId m = .ok (.fail why cs) ∧ r = .fail why cs := by
  unfold r4Step
  cases checkOld C H vcfg cof cofInv t' ownId m with
  | ok v => cases v <;> simp [halt, eq_comm]
  | err e => simp [halt]
  | panic t => simp [halt]

/-- running through `msgs`: every old member passes; the rows pile up and the shares add up -/
theorem r4_runs_iff (msgs : List OldMsg) : ∀ (st st' : List (List ECPoint) × Nat),
    Runs (r4Step C H vcfg cof cofInv t' ownId) st msgs st' ↔
      ∃ vss, List.Forall₂ (fun m vs => checkOld C H vcfg cof cofInv t' ownId m = .ok (.pass vs)) msgs vss ∧
        st' = (vss.reverse ++ st.1, st.2 + (msgs.map (·.share)).sum) := by
  induction msgs with
  | nil =>
    intro st st'
    simp only [Runs, List.forall₂_nil_left_iff, exists_eq_left, List.reverse_nil, List.nil_append, List.map_nil,
      List.sum_nil, Nat.add_zero]
  | cons m rest ih =>
    intro st st'
    simp only [Runs, r4Step_go_iff, ih, List.forall₂_cons_left_iff]
    constructor
    · rintro ⟨_, ⟨vs, hvs, rfl⟩, vss, hf, rfl⟩
      exact ⟨vs :: vss, ⟨vs, vss, hvs, hf, rfl⟩, by
        simp only [List.reverse_cons, List.append_assoc, List.singleton_append, List.map_cons, List.sum_cons,
          Nat.add_assoc]⟩
    · rintro ⟨_, ⟨vs, vss, hvs, hf, rfl⟩, rfl⟩
      exact ⟨_, ⟨vs, hvs, rfl⟩, vss, hf, by
        simp only [List.reverse_cons, List.append_assoc, List.singleton_append, List.map_cons, List.sum_cons,
          Nat.add_assoc]⟩

/-- **the loop passes iff every old member passes**; the rows are the accepted points in message order and
the share is the plain sum -/
theorem r4go_pass_iff (msgs : List OldMsg) (acc : List (List ECPoint)) (xi : Nat)
    (rows : List (List ECPoint)) (x : Nat) :
    round4.go C H vcfg cof cofInv t' ownId acc xi msgs = .ok (.pass (rows, x)) ↔
      ∃ vss, List.Forall₂ (fun m vs => checkOld C H vcfg cof cofInv t' ownId m = .ok (.pass vs)) msgs vss ∧
        rows = acc.reverse ++ vss ∧ x = xi + (msgs.map (·.share)).sum := by
  rw [r4go_eq, seqLoop_eq_iff]
  simp only [r4_runs_iff, r4Step_halt_ok_iff, Outcome.ok.injEq, Verdict.pass.injEq, Prod.mk.injEq, reduceCtorEq,
    and_false, exists_false, or_false]
  constructor
  · rintro ⟨_, ⟨vss, hf, rfl⟩, h1, h2⟩
    exact ⟨vss, hf, by rw [← h1, List.reverse_append, List.reverse_reverse], h2.symm⟩
  · rintro ⟨vss, hf, rfl, rfl⟩
    exact ⟨_, ⟨vss, hf, rfl⟩, by rw [List.reverse_append, List.reverse_reverse], rfl⟩

/-- **the loop reports the first old member (in message order) whose check fails** -/
theorem r4go_fail_iff (msgs : List OldMsg) (acc : List (List ECPoint)) (xi : Nat) (why : String) (cs : List Nat) :
    round4.go C H vcfg cof cofInv t' ownId acc xi msgs = .ok (.fail why cs) ↔
      ∃ pre m post, msgs = pre ++ m :: post ∧
        (∀ p ∈ pre, ∃ vs, checkOld C H vcfg cof cofInv t' ownId p = .ok (.pass vs)) ∧
        checkOld C H vcfg cof cofInv t' ownId m = .ok (.fail why cs) := by
  rw [r4go_eq, seqLoop_eq_iff]
  simp only [r4_runs_iff, r4Step_halt_ok_iff, Outcome.ok.injEq, Verdict.fail.injEq, reduceCtorEq, and_false,
    exists_false, false_or]
  constructor
  · rintro ⟨pre, m, post, _, he, ⟨vss, hf, _⟩, w, c, hm, rfl, rfl⟩
    exact ⟨pre, m, post, he, forall₂_left hf, hm⟩
  · rintro ⟨pre, m, post, he, hpre, hm⟩
    obtain ⟨vss, hf⟩ := exists_forall₂ pre hpre
    exact ⟨pre, m, post, _, he, ⟨vss, hf, rfl⟩, why, cs, hm, rfl, rfl⟩

theorem r4go_total (msgs : List OldMsg) (acc : List (List ECPoint)) (xi : Nat)
    (h : ∀ m ∈ msgs, ∃ v, checkOld C H vcfg cof cofInv t' ownId m = .ok v) :
    ∃ r, round4.go C H vcfg cof cofInv t' ownId acc xi msgs = .ok r := by
  rw [r4go_eq]
  refine seqLoop_total _ _ (fun m hm st => ?_) (fun _ => ⟨_, rfl⟩) _
  obtain ⟨v, hv⟩ := h m hm
  unfold r4Step
  rw [hv]
  cases v <;> exact ⟨_, rfl⟩

theorem forall₂_of_all_pass : ∀ (msgs : List OldMsg),
    (∀ m ∈ msgs, ∃ vs, checkOld C H vcfg cof cofInv t' ownId m = .ok (.pass vs)) →
    ∃ rows, List.Forall₂ (fun m vs => checkOld C H vcfg cof cofInv t' ownId m = .ok (.pass vs)) msgs rows := by
  exact fun msgs h => exists_forall₂ msgs h

abbrev addMsg : String := "Vc[c].Add(vjc[j][c])"
abbrev v0Msg : String := "assertion failed: V_0 != y"

/-- what `round4` does with the result of the loop -/
def r4Tail (ownIdx : Nat) (key : ECPoint) : Verdict (List (List ECPoint) × Nat) → Outcome (Verdict Ack)
  | .fail why cs => .ok (.fail why cs)
  | .pass (rows, xi) =>
    match sumColumns C rows with
    | none => .ok (.fail addMsg [])
    | some vc =>
      match vc.head? with
      | none => .ok (.fail addMsg [])
      | some v0 => if v0 != key then .ok (.fail v0Msg [ownIdx]) else .ok (.pass ⟨xi, vc⟩)

theorem round4_eq (ownIdx : Nat) (key : ECPoint) (msgs : List OldMsg) :
    round4 C H vcfg cof cofInv t' ownId ownIdx key msgs =
      round4.go C H vcfg cof cofInv t' ownId [] 0 msgs >>= r4Tail C ownIdx key := by
  unfold round4
  congr 1

theorem r4Tail_pass (ownIdx : Nat) (key : ECPoint) (rows : List (List ECPoint)) (xi : Nat) :
    r4Tail C ownIdx key (.pass (rows, xi)) =
      match sumColumns C rows with
      | none => .ok (.fail addMsg [])
      | some vc =>
        match vc.head? with
        | none => .ok (.fail addMsg [])
        | some v0 => if v0 != key then .ok (.fail v0Msg [ownIdx]) else .ok (.pass ⟨xi, vc⟩) := rfl

/-- every verdict of the tail on a passing loop -/
theorem r4Tail_pass_inv (ownIdx : Nat) (key : ECPoint) (rows : List (List ECPoint)) (xi : Nat)
    (v : Verdict Ack) (h : r4Tail C ownIdx key (.pass (rows, xi)) = .ok v) :
    (∃ vc, sumColumns C rows = some vc ∧ vc.head? = some key ∧ v = .pass ⟨xi, vc⟩) ∨
    ((sumColumns C rows = none ∨ ∃ vc, sumColumns C rows = some vc ∧ vc.head? = none) ∧
      v = .fail addMsg []) ∨
    (∃ vc v0, sumColumns C rows = some vc ∧ vc.head? = some v0 ∧ v0 ≠ key ∧ v = .fail v0Msg [ownIdx]) := by
  rw [r4Tail_pass] at h
  split at h
  · rename_i hs
    injection h with h
    exact Or.inr (Or.inl ⟨Or.inl hs, h.symm⟩)
  · rename_i vc hs
    split at h
    · rename_i hh
      injection h with h
      exact Or.inr (Or.inl ⟨Or.inr ⟨vc, hs, hh⟩, h.symm⟩)
    · rename_i v0 hh
      split at h
      · rename_i hk
        injection h with h
        exact Or.inr (Or.inr ⟨vc, v0, hs, hh, by simpa using hk, h.symm⟩)
      · rename_i hk
        injection h with h
        have hk : v0 = key := by simpa using hk
        exact Or.inl ⟨vc, hs, hk ▸ hh, h.symm⟩

/-- the two failures of the tail on a passing loop: the column sums are not representable (nobody named), or they
do not start with the key (the member names itself) -/
theorem r4Tail_fail_iff (ownIdx : Nat) (key : ECPoint) (rows : List (List ECPoint)) (xi : Nat) (why : String)
    (cs : List Nat) :
    r4Tail C ownIdx key (.pass (rows, xi)) = .ok (.fail why cs) ↔
      (why = addMsg ∧ cs = [] ∧ (sumColumns C rows = none ∨ ∃ vc, sumColumns C rows = some vc ∧ vc.head? = none)) ∨
      (why = v0Msg ∧ cs = [ownIdx] ∧ ∃ vc v0, sumColumns C rows = some vc ∧ vc.head? = some v0 ∧ v0 ≠ key) := by
  constructor
  · intro h
    rcases r4Tail_pass_inv C ownIdx key rows xi _ h with ⟨_, _, _, h3⟩ | ⟨h1, h3⟩ | ⟨vc, v0, h1, h2, hk, h3⟩
    · cases h3
    · injection h3 with h3 h4
      exact Or.inl ⟨h3, h4, h1⟩
    · injection h3 with h3 h4
      exact Or.inr ⟨h3, h4, vc, v0, h1, h2, hk⟩
  · rintro (⟨rfl, rfl, hs | ⟨vc, hs, hh⟩⟩ | ⟨rfl, rfl, vc, v0, hs, hh, hk⟩)
    · simp only [r4Tail_pass, hs]
    · simp only [r4Tail_pass, hs, hh]
    · simp only [r4Tail_pass, hs, hh, bne_iff_ne.2 hk, if_true]

theorem round4_total (ownIdx : Nat) (key : ECPoint) (msgs : List OldMsg)
    (h : ∀ m ∈ msgs, ∃ v, checkOld C H vcfg cof cofInv t' ownId m = .ok v) :
    ∃ v, round4 C H vcfg cof cofInv t' ownId ownIdx key msgs = .ok v := by
  obtain ⟨r, hr⟩ := r4go_total C H vcfg cof cofInv t' ownId msgs [] 0 h
  rw [round4_eq, hr]
  simp only [Outcome.ok_bind]
  cases r with
  | fail why cs => exact ⟨_, rfl⟩
  | pass p =>
    obtain ⟨rows, xi⟩ := p
    rw [r4Tail_pass]
    cases sumColumns C rows with
    | none => exact ⟨_, rfl⟩
    | some vc =>
      simp only
      cases vc.head? with
      | none => exact ⟨_, rfl⟩
      | some v0 =>
        simp only
        split <;> exact ⟨_, rfl⟩

theorem newMember_eq (em : Bool) (ownIdx : Nat) (msgs : List OldMsg) :
    newMember C H em vcfg cof cofInv t' ownId ownIdx msgs =
      match round1Key C em msgs with
      | .fail why cs => .ok (.fail why cs)
      | .pass key => round4 C H vcfg cof cofInv t' ownId ownIdx key msgs := rfl

end loop

section columns
open AlgL
variable {P : Type} {C : Curve P}

/-- the step of `sumColumns`: add a row to the running sums -/
def addRow (C : Curve P) (acc row : List ECPoint) : Option (List ECPoint) :=
  if acc.length != row.length then none else (acc.zip row).mapM fun (a, b) =>
    match C.ecAdd a b with
    | .ok p => some p
    | _ => none

theorem sumColumns_cons (vs : List ECPoint) (rest : List (List ECPoint)) :
    sumColumns C (vs :: rest) = rest.foldlM (addRow C) vs := rfl

/-- the point a list of coordinates denotes at column `c` -/
abbrev col (C : Curve P) (row : List ECPoint) (c : Nat) : P := (row.map (liftD C)).getD c C.zero

theorem col_nil (c : Nat) : col C [] c = C.zero := by simp [col]
theorem col_cons_zero (a : ECPoint) (l : List ECPoint) : col C (a :: l) 0 = liftD C a := by simp [col]
theorem col_cons_succ (a : ECPoint) (l : List ECPoint) (c : Nat) : col C (a :: l) (c + 1) = col C l c := by
  simp [col]

/-- adding two rows point by point: when every sum is representable, the result has the length of the rows, its points
are on the curve, and column by column it denotes the sum of the two denoted points -/
theorem zipAdd_some (hC : C.Lawful) : ∀ (acc row r : List ECPoint), acc.length = row.length →
    ((acc.zip row).mapM fun (x : ECPoint × ECPoint) =>
      match C.ecAdd x.1 x.2 with
      | .ok p => some p
      | _ => none) = some r →
    r.length = acc.length ∧ (∀ v ∈ r, C.ecIsOnCurve v = true) ∧
      ∀ c, col C r c = C.add (col C acc c) (col C row c) := by
  intro acc
  induction acc with
  | nil =>
    intro row r hl h
    cases row with
    | cons b row => simp at hl
    | nil =>
      simp only [List.zip_nil_left, List.mapM_nil, Option.pure_def, Option.some.injEq] at h
      subst h
      refine ⟨rfl, fun _ hv => (by cases hv), fun c => ?_⟩
      rw [col_nil, hC.zero_add]
  | cons a acc ih =>
    intro row r hl h
    cases row with
    | nil => simp at hl
    | cons b row =>
      rw [List.zip_cons_cons, List.mapM_cons] at h
      cases hab : C.ecAdd a b with
      | err e => simp only [hab, Option.bind_eq_bind, Option.bind_none, reduceCtorEq] at h
      | panic e => simp only [hab, Option.bind_eq_bind, Option.bind_none, reduceCtorEq] at h
      | ok p =>
        simp only [hab, Option.bind_eq_bind, Option.bind_some] at h
        cases hr : ((acc.zip row).mapM fun (x : ECPoint × ECPoint) =>
            match C.ecAdd x.1 x.2 with
            | .ok p => some p
            | _ => none) with
        | none => rw [hr] at h; simp at h
        | some r' =>
          rw [hr] at h
          simp only [Option.bind_some, Option.pure_def, Option.some.injEq] at h
          subst h
          obtain ⟨h1, h2, h3⟩ := ih row r' (by simpa using hl) hr
          obtain ⟨pa, pb, ha, hb, hp⟩ := (C17L.ecAdd_ok_iff C a b p).1 hab
          have hlp : C.lift p = some (C.add pa pb) := Vss.lift_of_toAffine hC hp
          refine ⟨by simp [h1], ?_, ?_⟩
          · intro v hv
            rcases List.mem_cons.1 hv with rfl | hv
            · unfold Curve.ecIsOnCurve; unfold Curve.lift at hlp; rw [hlp]; rfl
            · exact h2 v hv
          · intro c
            cases c with
            | zero =>
              rw [col_cons_zero, col_cons_zero, col_cons_zero]
              unfold liftD
              rw [hlp, ha, hb]
              rfl
            | succ c =>
              rw [col_cons_succ, col_cons_succ, col_cons_succ]
              exact h3 c

theorem addRow_some (hC : C.Lawful) (acc row r : List ECPoint) (h : addRow C acc row = some r) :
    acc.length = row.length ∧ r.length = acc.length ∧ (∀ v ∈ r, C.ecIsOnCurve v = true) ∧
      ∀ c, col C r c = C.add (col C acc c) (col C row c) := by
  unfold addRow at h
  by_cases hl : acc.length = row.length
  · rw [if_neg (by simp [hl])] at h
    exact ⟨hl, zipAdd_some hC acc row r hl h⟩
  · rw [if_pos (by simp [hl])] at h
    cases h

theorem foldl_addRow_some (hC : C.Lawful) : ∀ (rest : List (List ECPoint)) (acc vc : List ECPoint),
    rest.foldlM (addRow C) acc = some vc →
    vc.length = acc.length ∧ (∀ row ∈ rest, row.length = acc.length) ∧
      ((∀ v ∈ acc, C.ecIsOnCurve v = true) → ∀ v ∈ vc, C.ecIsOnCurve v = true) ∧
      ∀ c, col C vc c = C.add (col C acc c) (psum C (rest.map fun row => col C row c)) := by
  intro rest
  induction rest with
  | nil =>
    intro acc vc h
    simp only [List.foldlM_nil, Option.pure_def, Option.some.injEq] at h
    subst h
    refine ⟨rfl, fun _ hr => (by cases hr), fun h => h, fun c => ?_⟩
    rw [List.map_nil, psum_nil, hC.add_zero]
  | cons row rest ih =>
    intro acc vc h
    rw [List.foldlM_cons] at h
    cases ha : addRow C acc row with
    | none => rw [ha] at h; simp at h
    | some acc' =>
      rw [ha] at h
      simp only [Option.bind_eq_bind, Option.bind_some] at h
      obtain ⟨h1, h2, h3, h4⟩ := addRow_some hC acc row acc' ha
      obtain ⟨i1, i2, i3, i4⟩ := ih acc' vc h
      refine ⟨by rw [i1, h2], ?_, fun _ => i3 h3, fun c => ?_⟩
      · intro r hr
        rcases List.mem_cons.1 hr with rfl | hr
        · exact h1.symm
        · rw [i2 r hr, h2]
      · rw [i4 c, h4 c, List.map_cons, psum_cons, hC.add_assoc]

/-- **the column sums are the sums of the denoted points**, all rows have the length of the result -/
theorem sumColumns_some (hC : C.Lawful) (rows : List (List ECPoint)) (vc : List ECPoint)
    (h : sumColumns C rows = some vc) :
    rows ≠ [] ∧ (∀ row ∈ rows, row.length = vc.length) ∧
      ((∀ row ∈ rows, ∀ v ∈ row, C.ecIsOnCurve v = true) → ∀ v ∈ vc, C.ecIsOnCurve v = true) ∧
      ∀ c, col C vc c = psum C (rows.map fun row => col C row c) := by
  cases rows with
  | nil => cases h
  | cons vs rest =>
    rw [sumColumns_cons] at h
    obtain ⟨h1, h2, h3, h4⟩ := foldl_addRow_some hC rest vs vc h
    refine ⟨by simp, ?_, ?_, fun c => ?_⟩
    · intro row hr
      rcases List.mem_cons.1 hr with rfl | hr
      · exact h1.symm
      · rw [h2 row hr, h1]
    · intro hon
      exact h3 (hon vs (List.mem_cons_self ..))
    · rw [h4 c, List.map_cons, psum_cons]

theorem sumColumns_single (vs : List ECPoint) : sumColumns C [vs] = some vs := rfl

theorem zip_map_fst {α β γ : Type} (f : α → γ) : ∀ (l1 : List α) (l2 : List β), l1.length = l2.length →
    (l1.zip l2).map (fun p => f p.1) = l1.map f
  | [], _, _ => by simp
  | a :: l1, [], h => by simp at h
  | a :: l1, b :: l2, h => by
    rw [List.zip_cons_cons, List.map_cons, List.map_cons, zip_map_fst f l1 l2 (by simpa using h)]

theorem zip_map_snd {α β γ : Type} (f : β → γ) : ∀ (l1 : List α) (l2 : List β), l1.length = l2.length →
    (l1.zip l2).map (fun p => f p.2) = l2.map f
  | [], [], _ => by simp
  | [], b :: l2, h => by simp at h
  | a :: l1, [], h => by simp at h
  | a :: l1, b :: l2, h => by
    rw [List.zip_cons_cons, List.map_cons, List.map_cons, zip_map_snd f l1 l2 (by simpa using h)]

/-- **accepted shares sum to a share matching the summed commitments**: every share of `msgs` verifies
against its row, the rows sum (column-wise) to `vc` ⟹ `(Σ shares mod q)·G = BigX_ownId(vc)` -/
theorem shares_sum_consistent (hC : C.Lawful) (vcfg : Vss.VerifyCfg) (t' ownId : Nat) (msgs : List OldMsg)
    (rows : List (List ECPoint)) (vc : List ECPoint)
    (hf : List.Forall₂ (fun m vs => Vss.verify C vcfg t' ⟨t', ownId, m.share⟩ vs = .ok true) msgs rows)
    (hs : sumColumns C rows = some vc) :
    C.smul ((msgs.map (·.share)).sum % C.q) C.base = pubShare C (col C vc) t' ownId := by
  have hlen : msgs.length = rows.length := hf.length_eq
  have key := feldman_sum hC (msgs.zip rows) (fun i => i.1.share) (fun i c => col C i.2 c) t' ownId
    (by
      intro i hi
      have hv := List.forall₂_zip hf (a := i.1) (b := i.2) hi
      obtain ⟨V, hV, _, _, heq⟩ := verify_true_feldman hC vcfg t' _ i.2 hv
      rw [forall₂_lift_eq_map hV] at heq
      exact heq)
  rw [zip_map_fst (fun m : OldMsg => m.share) msgs rows hlen] at key
  rw [key]
  congr 1
  funext c
  rw [zip_map_snd (fun row : List ECPoint => col C row c) msgs rows hlen]
  exact ((sumColumns_some hC rows vc hs).2.2.2 c).symm

end columns

section poly
variable {P : Type} {C : Curve P}

/-- the sum of accepted shares is the value at `ownId` of the sum of the committed polynomials -/
theorem accepted_sum_on_polynomials (hC : C.Lawful) (t' ownId : Nat) :
    ∀ (msgs : List OldMsg) (rows : List (List ECPoint)) (fs : List (List Nat)),
    List.Forall₂ (fun m vs => Vss.verify C ⟨true⟩ t' ⟨t', ownId, m.share⟩ vs = .ok true) msgs rows →
    List.Forall₂ (fun as vs => Vss.IsCommitment C as vs) fs rows →
    (fs.map fun as => Vss.polyNat as ownId).sum ≡ (msgs.map (·.share)).sum [MOD C.q] := by
  intro msgs rows fs h1
  induction h1 generalizing fs with
  | nil => intro h2; cases h2; exact Nat.ModEq.refl _
  | @cons m vs msgs rows hv _ ih =>
    intro h2
    cases h2 with
    | @cons as _ fs' _ hcom h2' =>
      simp only [List.map_cons, List.sum_cons]
      exact Nat.ModEq.add (accepted_on_polynomial hC t' ownId m.share vs hv as hcom).2.2.2 (ih fs' h2')

end poly

end TssVerif.C04RsL
