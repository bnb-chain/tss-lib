import TssVerif.Core.Mta
import TssVerif.Lemmas.C11
import TssVerif.Lemmas.C12
import TssVerif.Lemmas.Paillier
/-! Helper lemmas for `TssVerif/Props/C13.lean`: the multiplicative-to-additive exchange
(`crypto/mta/share_protocol.go`, model `TssVerif/Core/Mta.lean`).

* why real parameters never wrap modulo `n` (`mta_no_wrap`);
* inversion of the three `do` blocks (`aliceInit_ok`, `bobMid_ok`, `aliceEnd_ok`): what an `.ok` result says
  about every intermediate call;
* the ciphertext Bob returns is a well-formed ciphertext of `b·a + β'` (`cB_isCt`), hence decrypts to it;
* the integer lists fed to the challenge hashes (`bobPreimage`, `rangePreimage`: the lists of
  `C12.Bob.preimage`, `C12.Range.preimage`, whose injectivity is proved in `Lemmas/C12.lean`). -/
set_option autoImplicit false
namespace TssVerif.C13L
open TssVerif TssVerif.Paillier TssVerif.PaillierL TssVerif.Zk TssVerif.Mta

set_option exponentiation.threshold 4096 in
/-- why a 2048-bit Paillier modulus never wraps: `a b + β' < 2^512 + 2^1280 ≤ 2^1281 ≤ 2^2047 ≤ n` -/
theorem mta_no_wrap {q n a b betaPrm : ℕ} (hq : q < 2 ^ 256) (hn : 2 ^ 2047 ≤ n)
    (ha : a < q) (hb : b < q) (hbp : betaPrm < q ^ 5) : a * b + betaPrm < n := by
  have h1 : a * b < 2 ^ 256 * 2 ^ 256 := Nat.mul_lt_mul'' (by omega) (by omega)
  have h2 : q ^ 5 ≤ (2 ^ 256) ^ 5 := Nat.pow_le_pow_left (by omega) 5
  have e1 : (2 : ℕ) ^ 256 * 2 ^ 256 = 2 ^ 512 := (pow_add 2 256 256).symm
  have e2 : ((2 : ℕ) ^ 256) ^ 5 = 2 ^ 1280 := (pow_mul 2 256 5).symm
  have e3 : (2 : ℕ) ^ 512 ≤ 2 ^ 1280 := Nat.pow_le_pow_right (by omega) (by omega)
  have e4 : (2 : ℕ) ^ 1281 = 2 ^ 1280 * 2 := pow_succ 2 1280
  have e5 : (2 : ℕ) ^ 1281 ≤ 2 ^ 2047 := Nat.pow_le_pow_right (by omega) (by omega)
  rw [e1] at h1; rw [e2] at h2
  generalize (2 : ℕ) ^ 512 = A at *
  generalize (2 : ℕ) ^ 1280 = B at *
  generalize (2 : ℕ) ^ 1281 = D at *
  generalize (2 : ℕ) ^ 2047 = E at *
  generalize q ^ 5 = F at *
  generalize a * b = G at *
  omega

/-! ## inversion of `aliceInit`, `bobMid`, `aliceEnd` -/

variable {Pt : Type} (C : Curve Pt) (H : HashFn)

theorem aliceInit_ok {nA a : ℕ} {rpB : RP} {x al be ga rho : ℕ} {cA : ℕ} {rpf : RangeProof}
    (h : aliceInit C H nA a rpB x al be ga rho = .ok (cA, rpf)) :
    encryptWith nA (a : ℤ) x = .ok cA ∧
    rangeProve H C.q nA cA rpB.ntilde rpB.h1 rpB.h2 a x al be ga rho = .ok rpf := by
  unfold aliceInit at h
  simp only [Outcome.bind_eq_ok] at h
  obtain ⟨c, h1, pf, h2, h3⟩ := h
  cases h3
  exact ⟨h1, h2⟩

/-- everything an `.ok` result of `BobMid`/`BobMidWC` says -/
theorem bobMid_ok {cfg : Cfg} {sess : Bytes} {nA : ℕ} {rpf : RangeProof} {b cA : ℕ} {rpA rpB : RP}
    {B : Option ECPoint} {betaPrm xB : ℕ} {k : BobCoins} {out : BobOut}
    (h : bobMid C H cfg sess nA rpf b cA rpA rpB B betaPrm xB k = .ok out) :
    rangeVerify cfg H C.q (nA : ℤ) rpB.ntilde rpB.h1 rpB.h2 (cA : ℤ) rpf = .ok true ∧
    ∃ cBp cB0 : ℕ, encryptWith nA (betaPrm : ℤ) xB = .ok cBp ∧ homoMult nA (b : ℤ) (cA : ℤ) = .ok cB0 ∧
      homoAdd nA (cB0 : ℤ) (cBp : ℤ) = .ok out.cB ∧
      bobProve C H sess nA rpA.ntilde rpA.h1 rpA.h2 cA out.cB b betaPrm xB B k = .ok (out.pf, out.u) ∧
      out.beta = (((0 : ℤ) - (betaPrm : ℤ)) % (C.q : ℤ)).toNat ∧ out.betaPrm = betaPrm := by
  unfold bobMid at h
  simp only [Outcome.bind_eq_ok] at h
  obtain ⟨okR, hR, h⟩ := h
  cases okR with
  | false => simp at h
  | true =>
    simp only [Bool.not_true, Bool.false_eq_true, if_false, Outcome.bind_eq_ok] at h
    obtain ⟨cBp, h1, cB0, h2, cB, h3, ⟨pf, u⟩, h4, h5⟩ := h
    cases h5
    exact ⟨hR, cBp, cB0, h1, h2, h3, h4, rfl, rfl⟩

/-- everything an `.ok` result of `AliceEnd`/`AliceEndWC` says -/
theorem aliceEnd_ok {cfg : Cfg} {sess : Bytes} {sk : PrivateKey} {pf : BobProof} {rpA : RP} {cA cB : ℕ}
    {xu : Option (ECPoint × ECPoint)} {alpha : ℕ}
    (h : aliceEnd C H cfg sess sk pf rpA cA cB xu = .ok alpha) :
    bobVerify C H cfg sess (sk.n : ℤ) rpA.ntilde rpA.h1 rpA.h2 (cA : ℤ) (cB : ℤ) pf xu = .ok true ∧
    ∃ alphaPrm : ℕ, decrypt sk (cB : ℤ) = .ok alphaPrm ∧ alpha = alphaPrm % C.q := by
  unfold aliceEnd at h
  simp only [Outcome.bind_eq_ok] at h
  obtain ⟨ok, hV, h⟩ := h
  cases ok with
  | false => simp at h
  | true =>
    simp only [Bool.not_true, Bool.false_eq_true, if_false, Outcome.bind_eq_ok] at h
    obtain ⟨ap, h1, h2⟩ := h
    cases h2
    exact ⟨hV, ap, h1, rfl⟩

/-- `ProveBobWC` always returns `U = α·G` next to the proof -/
theorem bobProve_some_u {sess : Bytes} {n nt h1 h2 c1 c2 x y r : ℕ} {X : ECPoint} {k : BobCoins}
    {pf : BobProof} {u : Option ECPoint}
    (h : bobProve C H sess n nt h1 h2 c1 c2 x y r (some X) k = .ok (pf, u)) :
    ∃ U, u = some U ∧ C.ecBaseMult (k.alpha : ℤ) = .ok U := by
  unfold bobProve at h
  simp only [Outcome.bind_eq_ok] at h
  obtain ⟨u', hu, h⟩ := h
  obtain ⟨U, hU, hu'⟩ := Outcome.bind_eq_ok.1 hu
  cases hu'
  cases h
  exact ⟨U, rfl, hU⟩

/-! ## the algebra: Bob's ciphertext is a well-formed ciphertext of `b·a + β'` -/

/-- what Bob sends back is a well-formed ciphertext of `b·a + β'`, whatever the four calls returned -/
theorem cB_isCt {n a b betaPrm x xB cA cBp cB0 cB : ℕ} (hn : 1 < n)
    (hx : Nat.Coprime x n) (hxB : Nat.Coprime xB n)
    (hA : encryptWith n (a : ℤ) x = .ok cA) (hBp : encryptWith n (betaPrm : ℤ) xB = .ok cBp)
    (hM : homoMult n (b : ℤ) (cA : ℤ) = .ok cB0) (hS : homoAdd n (cB0 : ℤ) (cBp : ℤ) = .ok cB) :
    IsCt n (b * a + betaPrm) cB := by
  obtain ⟨-, rfl⟩ := homoMult_ok_iff.1 hM
  obtain ⟨-, rfl⟩ := homoAdd_ok_iff.1 hS
  simp only [Int.toNat_natCast]
  exact ((isCt_of_encryptWith hn hx hA).homoMult hn b).homoAdd hn (isCt_of_encryptWith hn hxB hBp)

/-- **the share relation**, for any key on which `λ` works (`LamOK`), any configuration of the guards,
with or without the public point -/
theorem mta_core {cfgB cfgA : Cfg} {sess : Bytes} {sk : PrivateKey} (hk : LamOK sk.n sk.lambdaN)
    {rpA rpB : RP} {a b x xB betaPrm : ℕ} {al be ga rho : ℕ} {k : BobCoins}
    {B : Option ECPoint} {xu : Option (ECPoint × ECPoint)}
    (hx : Nat.gcd x sk.n = 1) (hxB : Nat.gcd xB sk.n = 1)
    {cA : ℕ} {rpf : RangeProof} {out : BobOut} {alpha : ℕ}
    (h1 : aliceInit C H sk.n a rpB x al be ga rho = .ok (cA, rpf))
    (h2 : bobMid C H cfgB sess sk.n rpf b cA rpA rpB B betaPrm xB k = .ok out)
    (h3 : aliceEnd C H cfgA sess sk out.pf rpA cA out.cB xu = .ok alpha) :
    decrypt sk (out.cB : ℤ) = .ok ((a * b + betaPrm) % sk.n) ∧
    alpha = (a * b + betaPrm) % sk.n % C.q ∧
    out.beta = (((0 : ℤ) - (betaPrm : ℤ)) % (C.q : ℤ)).toNat := by
  obtain ⟨hA, -⟩ := aliceInit_ok C H h1
  obtain ⟨-, cBp, cB0, hBp, hM, hS, -, hbeta, -⟩ := bobMid_ok C H h2
  obtain ⟨-, ap, hD, halpha⟩ := aliceEnd_ok C H h3
  have hct := cB_isCt hk.one_lt hx hxB hA hBp hM hS
  have hdec := decrypt_isCt hk hct
  rw [mul_comm b a] at hdec
  rw [hdec] at hD
  injection hD with hD
  exact ⟨hdec, by rw [halpha, ← hD], hbeta⟩

/-! ## progress: the proof gates are the only way to fail -/

/-- the ciphertext Bob computes, in closed form -/
def cBOf (n a b betaPrm x xB : ℕ) : ℕ :=
  (encNat n a x) ^ b % (n * n) * encNat n betaPrm xB % (n * n)

/-- if Alice's range proof verifies and Bob's prover returns a proof, `BobMid` returns -/
theorem bobMid_progress {cfg : Cfg} {sess : Bytes} {n : ℕ} {rpf : RangeProof} {a b x : ℕ} {rpA rpB : RP}
    {B : Option ECPoint} {betaPrm xB : ℕ} {k : BobCoins} {pf : BobProof} {u : Option ECPoint}
    (hb : b < n) (hbp : betaPrm < n)
    (hR : rangeVerify cfg H C.q (n : ℤ) rpB.ntilde rpB.h1 rpB.h2 (encNat n a x : ℤ) rpf = .ok true)
    (hP : bobProve C H sess n rpA.ntilde rpA.h1 rpA.h2 (encNat n a x) (cBOf n a b betaPrm x xB)
      b betaPrm xB B k = .ok (pf, u)) :
    bobMid C H cfg sess n rpf b (encNat n a x) rpA rpB B betaPrm xB k =
      .ok ⟨(((0 : ℤ) - (betaPrm : ℤ)) % (C.q : ℤ)).toNat, cBOf n a b betaPrm x xB, betaPrm, pf, u⟩ := by
  have hn : 0 < n := by omega
  unfold bobMid
  rw [hR, Outcome.ok_bind]
  simp only [Bool.not_true, Bool.false_eq_true, if_false]
  rw [encryptWith_eq hbp, Outcome.ok_bind, homoMult_eq hb (encNat_lt hn a x), Outcome.ok_bind,
    homoAdd_eq (Nat.mod_lt _ (Nat.mul_pos hn hn)) (encNat_lt hn betaPrm xB), Outcome.ok_bind]
  change (bobProve C H sess n rpA.ntilde rpA.h1 rpA.h2 (encNat n a x) (cBOf n a b betaPrm x xB)
      b betaPrm xB B k >>= _) = _
  rw [hP, Outcome.ok_bind]
  rfl

/-- if Bob's proof verifies, `AliceEnd` returns the share `(a b + β') mod n mod q` -/
theorem aliceEnd_progress {cfg : Cfg} {sess : Bytes} {sk : PrivateKey} (hk : LamOK sk.n sk.lambdaN)
    {pf : BobProof} {rpA : RP} {a b betaPrm x xB : ℕ} {xu : Option (ECPoint × ECPoint)}
    (hx : Nat.gcd x sk.n = 1) (hxB : Nat.gcd xB sk.n = 1)
    (hV : bobVerify C H cfg sess (sk.n : ℤ) rpA.ntilde rpA.h1 rpA.h2 (encNat sk.n a x : ℤ)
      (cBOf sk.n a b betaPrm x xB : ℤ) pf xu = .ok true) :
    aliceEnd C H cfg sess sk pf rpA (encNat sk.n a x) (cBOf sk.n a b betaPrm x xB) xu =
      .ok ((a * b + betaPrm) % sk.n % C.q) := by
  have hn := hk.one_lt
  have hct : IsCt sk.n (b * a + betaPrm) (cBOf sk.n a b betaPrm x xB) :=
    ((isCt_encNat hn hx a).homoMult hn b).homoAdd hn (isCt_encNat hn hxB betaPrm)
  unfold aliceEnd
  rw [hV, Outcome.ok_bind]
  simp only [Bool.not_true, Bool.false_eq_true, if_false]
  rw [decrypt_isCt hk hct, Outcome.ok_bind, mul_comm b a]

/-! ## what the challenge hashes are fed -/

/-- the integer list `ProofBob(WC).Verify` / `ProveBob(WC)` hash: `[N, N+1, (X), c1, c2, (U), z, z', t, v, w]` -/
def bobPreimage (n c1 c2 : ℤ) (xu : Option (ECPoint × ECPoint)) (pf : BobProof) : List ℤ :=
  match xu with
  | none => [n, n + 1, c1, c2, pf.z, pf.zPrm, pf.t, pf.v, pf.w]
  | some (X, U) => [n, n + 1, X.1, X.2, c1, c2, U.1, U.2, pf.z, pf.zPrm, pf.t, pf.v, pf.w]

/-- the integer list `RangeProofAlice.Verify` / `ProveRangeAlice` hash: `[N, N+1, c, z, u, w]` -/
def rangePreimage (n c z u w : ℤ) : List ℤ := [n, n + 1, c, z, u, w]

theorem rangeChallenge_eq (q : ℕ) (n c z u w : ℤ) :
    rangeChallenge H q n c z u w =
      rejectionSample q ((sha512_256iWith H (rangePreimage n c z u w)).getD 0) := rfl

/-- the byte string that reaches the hash function inside `rangeChallenge` -/
theorem rangeChallenge_bytes (q : ℕ) (n c z u w : ℤ) :
    rangeChallenge H q n c z u w =
      bytesToNat (H (frame ((rangePreimage n c z u w).map intToBytesBE))) % q := rfl

/-! ### the same on the level of bytes: `Bytes()` drops signs, the framing is injective -/

theorem tagged_int_natAbs {tag : Bytes} {l l' : List ℤ} (hs : C16L.Short (l.map intToBytesBE))
    (hs' : C16L.Short (l'.map intToBytesBE))
    (h : taggedPreimage H tag l = taggedPreimage H tag l') :
    l.map Int.natAbs = l'.map Int.natAbs := by
  unfold taggedPreimage at h
  exact C12L.frame_int_natAbs hs hs' (List.append_cancel_left h)

end TssVerif.C13L
