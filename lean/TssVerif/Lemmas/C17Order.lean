import TssVerif.Lemmas.C17Proj
/-! Order of the two base points: one evaluation of the inversion-free `psmulBits` per curve. -/
namespace TssVerif.C17L
open TssVerif

theorem ed_base_order : Ed25519.curve.smul Ed25519.l Ed25519.curve.base = (0, 1) :=
  ed_smul_eq_identity (by decide) (by decide) (by decide) (by decide +kernel)

theorem secp_base_order : Secp256k1.curve.smul Secp256k1.n Secp256k1.curve.base = none :=
  secp_smul_eq_none (by decide) (by decide) (by decide) (by decide +kernel)

end TssVerif.C17L
