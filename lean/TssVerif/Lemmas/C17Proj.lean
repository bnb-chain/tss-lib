import TssVerif.Core.Curve
import TssVerif.Lemmas.GoIntSpec
import Mathlib.Data.ZMod.Basic
import Mathlib.Tactic.LinearCombination
/-! Scalar multiplication without inversions.

The affine group laws of `Core/Curve.lean` run the extended Euclid of `modInverse` on `Int` once or twice
per point operation, which is what makes evaluating `Curve.smul` by the kernel slow. Here a point is a
projective triple `(X, Y, Z)` of residues, no operation inverts, and `psmulBits` mirrors
`Curve.smulBits` on such triples while multiplying all the denominators `Z` it meets into one number.
`psmulBits_rep`: if that one number is a unit mod `p`, every affine inversion of the model was the
inversion of a unit, and the triple computed represents the point the model computes. -/
namespace TssVerif.C17L
open TssVerif

/-! ## `Curve.smul` -/

theorem smul_eq_smulBits {P : Type} (C : Curve P) {k : Nat} (hk : k ≠ 0) (pt : P) :
    C.smul k pt = C.smulBits (bitsMSB k) pt C.zero := by
  simp only [Curve.smul, if_neg hk]

/-- multiples of a point fixed by doubling -/
theorem smulBits_of_add_self {P : Type} (C : Curve P) {z : P} (h : C.add z z = z) :
    ∀ bits : List Bool, C.smulBits bits z z = z
  | [] => rfl
  | b :: bs => by
    cases b <;> simp only [Curve.smulBits, h, if_true, Bool.false_eq_true, if_false] <;>
      exact smulBits_of_add_self C h bs

theorem smul_zero_of_add_self {P : Type} (C : Curve P) (h : C.add C.zero C.zero = C.zero) (k : Nat) :
    C.smul k C.zero = C.zero := by
  unfold Curve.smul
  split
  · rfl
  · exact smulBits_of_add_self C h _

/-! ## the evaluator, for any point type `Q` with an addition `padd` and a denominator `den` -/
section evaluator
variable {P Q : Type} (C : Curve P) (m : Nat) (padd : Q → Q → Q) (den : Q → Nat)

/-- add `B` to the point of `s`; the second component collects the denominators -/
def pstep (s : Q × Nat) (B : Q) : Q × Nat :=
  let r := padd s.1 B
  (r, s.2 * den r % m)

/-- `Curve.smulBits` on pairs (point, product of denominators) -/
def psmulBits : List Bool → Q → Q × Nat → Q × Nat
  | [], _, s => s
  | b :: bs, pt, s =>
    let d := pstep m padd den s s.1
    psmulBits bs pt (if b then pstep m padd den d pt else d)

theorem isUnit_pstep (s : Q × Nat) (B : Q) :
    IsUnit ((pstep m padd den s B).2 : ZMod m) ↔
      IsUnit (s.2 : ZMod m) ∧ IsUnit (den (padd s.1 B) : ZMod m) := by
  simp only [pstep, ZMod.natCast_mod, Nat.cast_mul, IsUnit.mul_iff]

theorem isUnit_of_psmulBits (pt : Q) : ∀ (bits : List Bool) (s : Q × Nat),
    IsUnit ((psmulBits m padd den bits pt s).2 : ZMod m) → IsUnit (s.2 : ZMod m)
  | [], _, h => h
  | b :: bs, s, h => by
    have h1 := isUnit_of_psmulBits pt bs _ h
    cases b
    · exact ((isUnit_pstep m padd den _ _).1 h1).1
    · exact ((isUnit_pstep m padd den _ _).1 ((isUnit_pstep m padd den _ _).1 h1).1).1

/-- If `padd` represents `C.add` whenever the denominator of its result is a unit, then `psmulBits`
represents `C.smulBits` whenever the collected product is a unit. -/
theorem psmulBits_rep {Rep : Q → P → Prop}
    (hadd : ∀ {A B a b}, Rep A a → Rep B b → IsUnit (den (padd A B) : ZMod m) →
      Rep (padd A B) (C.add a b))
    {Pt : Q} {pt : P} (hpt : Rep Pt pt) : ∀ (bits : List Bool) {s : Q × Nat} {a : P}, Rep s.1 a →
      IsUnit ((psmulBits m padd den bits Pt s).2 : ZMod m) →
      Rep (psmulBits m padd den bits Pt s).1 (C.smulBits bits pt a)
  | [], _, _, ha, _ => ha
  | b :: bs, s, a, ha, hu => by
    have h1 := isUnit_of_psmulBits m padd den Pt bs _ hu
    cases b
    · exact psmulBits_rep hadd hpt bs (hadd ha ha ((isUnit_pstep m padd den _ _).1 h1).2) hu
    · obtain ⟨h2, h3⟩ := (isUnit_pstep m padd den _ _).1 h1
      have hd := hadd ha ha ((isUnit_pstep m padd den _ _).1 h2).2
      exact psmulBits_rep hadd hpt bs (hadd hd hpt h3) hu

end evaluator

/-! ## the model's inverse, in `ZMod` -/

theorem natCast_mul_modInverse {m a : Nat} (hm : m ≠ 0) (ha : IsUnit (a : ZMod m)) :
    (a : ZMod m) * ((modInverse a m).getD 0 : Nat) = 1 := by
  have hg : Int.gcd a m = 1 := (ZMod.isUnit_iff_coprime a m).1 ha
  obtain ⟨b, hb, -⟩ := modInverse_exists hm hg
  have h1 := (modInverse_spec_nat hb).1
  rw [hb, Option.getD_some, ← Nat.cast_mul, ← Nat.cast_one (R := ZMod m),
    ZMod.natCast_eq_natCast_iff']
  exact h1

/-- `a + m - b` as the model writes a difference of residues -/
theorem natCast_add_sub {m a b : Nat} (h : b ≤ m) : ((a + m - b : Nat) : ZMod m) = a - b := by
  rw [Nat.cast_sub (Nat.le_add_left_of_le h), Nat.cast_add, ZMod.natCast_self, add_zero]

theorem natCast_sub_self {m b : Nat} (h : b ≤ m) : ((m - b : Nat) : ZMod m) = -b := by
  rw [Nat.cast_sub h, ZMod.natCast_self, zero_sub]

/-- residues are equal when their casts are -/
theorem eq_of_natCast_eq {m a b : Nat} (ha : a < m) (hb : b < m) (h : (a : ZMod m) = b) : a = b := by
  rw [ZMod.natCast_eq_natCast_iff', Nat.mod_eq_of_lt ha, Nat.mod_eq_of_lt hb] at h
  exact h

/-- equality of two fractions `X₁/Z₁`, `X₂/Z₂`, tested on the cross products -/
theorem cross_eq_iff {m x1 x2 X1 X2 Z1 Z2 : Nat} (h1 : x1 < m) (h2 : x2 < m)
    (hZ1 : IsUnit (Z1 : ZMod m)) (hZ2 : IsUnit (Z2 : ZMod m))
    (hx1 : (x1 : ZMod m) * Z1 = X1) (hx2 : (x2 : ZMod m) * Z2 = X2) :
    X1 * Z2 % m = X2 * Z1 % m ↔ x1 = x2 := by
  rw [← ZMod.natCast_eq_natCast_iff', Nat.cast_mul, Nat.cast_mul, ← hx1, ← hx2]
  constructor
  · intro h
    apply eq_of_natCast_eq h1 h2
    apply (hZ1.mul hZ2).mul_left_injective
    linear_combination h
  · rintro rfl; ring

/-- `(X, Y, Z)` stands for the affine point `(X/Z, Y/Z)` of residues mod `m` -/
def ProjRep (m : Nat) (A : Nat × Nat × Nat) (a : Nat × Nat) : Prop :=
  IsUnit (A.2.2 : ZMod m) ∧ a.1 < m ∧ a.2 < m ∧
    (a.1 : ZMod m) * A.2.2 = A.1 ∧ (a.2 : ZMod m) * A.2.2 = A.2.1

theorem projRep_affine {m x y : Nat} (hx : x < m) (hy : y < m) : ProjRep m (x, y, 1) (x, y) :=
  ⟨by simp, hx, hy, by simp, by simp⟩

/-! ## edwards25519 -/
section ed
open Ed25519

theorem ed_p_pos : 0 < Ed25519.p := by decide

theorem ed_mul_inv {a : Nat} (ha : IsUnit (a : ZMod p)) : (a : ZMod p) * (Ed25519.inv a : Nat) = 1 :=
  natCast_mul_modInverse ed_p_pos.ne' ha

/-- projective form of the complete addition law of `Ed25519.add` -/
def edPadd (A B : Nat × Nat × Nat) : Nat × Nat × Nat :=
  let (X1, Y1, Z1) := A
  let (X2, Y2, Z2) := B
  let a := Z1 * Z2 % p
  let b := a * a % p
  let e := d * (X1 * X2 % p) % p * (Y1 * Y2 % p) % p
  let f := (b + (p - e)) % p
  let g := (b + e) % p
  (a * f % p * ((X1 * Y2 + X2 * Y1) % p) % p, a * g % p * ((Y1 * Y2 + X1 * X2) % p) % p, f * g % p)

theorem edPadd_rep {A B : Nat × Nat × Nat} {a b : Ed25519.Pt} (hA : ProjRep p A a) (hB : ProjRep p B b)
    (hu : IsUnit ((edPadd A B).2.2 : ZMod p)) : ProjRep p (edPadd A B) (Ed25519.add a b) := by
  obtain ⟨X1, Y1, Z1⟩ := A
  obtain ⟨X2, Y2, Z2⟩ := B
  obtain ⟨x1, y1⟩ := a
  obtain ⟨x2, y2⟩ := b
  obtain ⟨-, -, -, hx1, hy1⟩ := hA
  obtain ⟨-, -, -, hx2, hy2⟩ := hB
  have hlt : ∀ n : Nat, n % p < p := fun n => Nat.mod_lt n ed_p_pos
  simp only [edPadd, Ed25519.add, ProjRep] at hx1 hy1 hx2 hy2 hu ⊢
  refine ⟨hu, hlt _, hlt _, ?_⟩
  push_cast [ZMod.natCast_mod, natCast_sub_self (hlt _).le, natCast_add_sub (hlt _).le] at hu ⊢
  rw [← hx1, ← hy1, ← hx2, ← hy2] at hu ⊢
  obtain ⟨hf, hg⟩ := IsUnit.mul_iff.1 hu
  have hi := ed_mul_inv (a := (1 + d * (x1 * x2 % p) % p * (y1 * y2 % p) % p) % p) (by
    push_cast [ZMod.natCast_mod]
    exact isUnit_of_mul_isUnit_right (x := ((Z1 : ZMod p) * Z2) ^ 2) (by convert hg using 1; ring))
  have hj := ed_mul_inv (a := (1 + p - d * (x1 * x2 % p) % p * (y1 * y2 % p) % p) % p) (by
    push_cast [ZMod.natCast_mod, natCast_add_sub (hlt _).le]
    exact isUnit_of_mul_isUnit_right (x := ((Z1 : ZMod p) * Z2) ^ 2) (by convert hf using 1; ring))
  push_cast [ZMod.natCast_mod, natCast_add_sub (hlt _).le] at hi hj
  constructor
  · linear_combination
      ((x1 * y2 + x2 * y1 : ZMod p) * ((Z1 * Z2) ^ 2) ^ 2 * (1 - d * (x1 * x2) * (y1 * y2))) * hi
  · linear_combination
      ((y1 * y2 + x1 * x2 : ZMod p) * ((Z1 * Z2) ^ 2) ^ 2 * (1 + d * (x1 * x2) * (y1 * y2))) * hj

/-- the evaluator on `k·(x, y)`: a triple and the product of the denominators met on the way -/
def edSmul (k x y : Nat) : (Nat × Nat × Nat) × Nat :=
  psmulBits p edPadd (fun A => A.2.2) (bitsMSB k) (x, y, 1) ((0, 1, 1), 1)

theorem edSmul_rep {k x y : Nat} (hk : k ≠ 0) (hx : x < p) (hy : y < p)
    (hW : Nat.Coprime (edSmul k x y).2 p) : ProjRep p (edSmul k x y).1 (Ed25519.curve.smul k (x, y)) := by
  rw [smul_eq_smulBits _ hk]
  exact psmulBits_rep Ed25519.curve p edPadd _ (Rep := ProjRep p) (fun hA hB h => edPadd_rep hA hB h)
    (projRep_affine hx hy) (bitsMSB k) (s := ((0, 1, 1), 1)) (projRep_affine (by decide) (by decide))
    ((ZMod.isUnit_iff_coprime _ _).2 hW)

/-- the triple is `(0 : Z : Z)` -/
def EdIsIdentity (A : Nat × Nat × Nat) : Prop := A.1 % p = 0 ∧ A.2.1 % p = A.2.2 % p

instance (A : Nat × Nat × Nat) : Decidable (EdIsIdentity A) := inferInstanceAs (Decidable (_ ∧ _))

theorem edRep_eq_identity_iff {A : Nat × Nat × Nat} {a : Ed25519.Pt} (h : ProjRep p A a) :
    a = (0, 1) ↔ EdIsIdentity A := by
  obtain ⟨hZ, hx, hy, h1, h2⟩ := h
  have e1 := cross_eq_iff hx ed_p_pos hZ (Z2 := 1) (by simp) h1 (x2 := 0) (X2 := 0) (by simp)
  have e2 := cross_eq_iff hy (by decide) hZ (Z2 := 1) (by simp) h2 (x2 := 1) (X2 := 1) (by simp)
  rw [Nat.mul_one, Nat.zero_mul, Nat.zero_mod] at e1
  rw [Nat.mul_one, Nat.one_mul] at e2
  rw [Prod.ext_iff, EdIsIdentity, e1, e2]

/-- whether `k·(x, y)` is the identity can be read off the evaluator -/
theorem ed_smul_eq_identity_iff {k x y : Nat} (hk : k ≠ 0) (hx : x < p) (hy : y < p)
    (hW : Nat.Coprime (edSmul k x y).2 p) :
    Ed25519.curve.smul k (x, y) = (0, 1) ↔ EdIsIdentity (edSmul k x y).1 :=
  edRep_eq_identity_iff (edSmul_rep hk hx hy hW)

theorem ed_smul_eq_identity {k x y : Nat} (hk : k ≠ 0) (hx : x < p) (hy : y < p)
    (h : EdIsIdentity (edSmul k x y).1 ∧ Nat.Coprime (edSmul k x y).2 p) :
    Ed25519.curve.smul k (x, y) = (0, 1) :=
  (ed_smul_eq_identity_iff hk hx hy h.2).2 h.1

end ed

/-! ## secp256k1 -/
section secp
open Secp256k1

theorem secp_p_pos : 0 < Secp256k1.p := by decide

theorem secp_mul_inv {a : Nat} (ha : IsUnit (a : ZMod p)) :
    (a : ZMod p) * (Secp256k1.inv a : Nat) = 1 :=
  natCast_mul_modInverse secp_p_pos.ne' ha

/-- The point `(l² − s, l·(x − x₃) − y)` of a chord or tangent of slope `l = u/v`, over the denominator
`v³·w`; the arguments `xw yw sw` are `x·w`, `y·w`, `s·w`. -/
def chord (u v w xw yw sw : Nat) : Nat × Nat × Nat :=
  let vv := v * v % p
  let n := (u * u % p * w + (p - vv * sw % p)) % p
  (v * n % p, (u * (xw * vv % p + (p - n)) + (p - yw * (vv * v % p) % p)) % p, vv * v % p * w % p)

theorem chord_rep {u v w xw yw sw : Nat} {l x y s : ZMod p} (hl : l * v = u) (hx : x * w = xw)
    (hy : y * w = yw) (hs : s * w = sw) :
    (l ^ 2 - s) * (chord u v w xw yw sw).2.2 = (chord u v w xw yw sw).1 ∧
    (l * (x - (l ^ 2 - s)) - y) * (chord u v w xw yw sw).2.2 = (chord u v w xw yw sw).2.1 := by
  have hlt : ∀ n : Nat, n % p ≤ p := fun n => (Nat.mod_lt n secp_p_pos).le
  simp only [chord]
  push_cast [ZMod.natCast_mod, natCast_sub_self (hlt _)]
  rw [← hl, ← hx, ← hy, ← hs]
  constructor <;> ring

theorem isUnit_chord_den (u v w xw yw sw : Nat) :
    IsUnit ((chord u v w xw yw sw).2.2 : ZMod p) ↔ IsUnit (v : ZMod p) ∧ IsUnit (w : ZMod p) := by
  simp only [chord, ZMod.natCast_mod, Nat.cast_mul, IsUnit.mul_iff, and_self]

def secpPdouble : Option (Nat × Nat × Nat) → Option (Nat × Nat × Nat)
  | none => none
  | some (X, Y, Z) =>
    if Y % p = 0 then none else some (chord (3 * X * X % p) (2 * Y * Z % p) Z X Y (2 * X))

def secpPadd : Option (Nat × Nat × Nat) → Option (Nat × Nat × Nat) → Option (Nat × Nat × Nat)
  | none, B => B
  | A, none => A
  | some (X1, Y1, Z1), some (X2, Y2, Z2) =>
    if X1 * Z2 % p = X2 * Z1 % p then
      if Y1 * Z2 % p = Y2 * Z1 % p then secpPdouble (some (X1, Y1, Z1)) else none
    else
      some (chord ((Y2 * Z1 + (p - Y1 * Z2 % p)) % p) ((X2 * Z1 + (p - X1 * Z2 % p)) % p) (Z1 * Z2 % p)
        (X1 * Z2 % p) (Y1 * Z2 % p) (X1 * Z2 + X2 * Z1))

def secpDen : Option (Nat × Nat × Nat) → Nat
  | none => 1
  | some A => A.2.2

/-- `none` stands for the point at infinity -/
def SecpRep : Option (Nat × Nat × Nat) → Secp256k1.Pt → Prop
  | none, none => True
  | some A, some a => ProjRep p A a
  | _, _ => False

theorem secpPdouble_rep {A : Option (Nat × Nat × Nat)} {a : Secp256k1.Pt} (hA : SecpRep A a)
    (hu : IsUnit (secpDen (secpPdouble A) : ZMod p)) : SecpRep (secpPdouble A) (Secp256k1.double a) := by
  obtain _ | ⟨X, Y, Z⟩ := A <;> obtain _ | ⟨x, y⟩ := a <;> try exact hA.elim
  · trivial
  obtain ⟨hZ, hx, hy, hX, hY⟩ := hA
  have hlt : ∀ n : Nat, n % p < p := fun n => Nat.mod_lt n secp_p_pos
  have hy0 : Y % p = 0 ↔ y = 0 := by
    simpa using cross_eq_iff hy secp_p_pos hZ isUnit_one hY (x2 := 0) (X2 := 0) (by simp)
  by_cases h0 : y = 0
  · simp only [secpPdouble, Secp256k1.double, hy0, h0, if_true]; trivial
  simp only [secpPdouble, Secp256k1.double, hy0, h0, if_false, secpDen] at hu ⊢
  have hv := ((isUnit_chord_den _ _ _ _ _ _).1 hu).1
  have hi := secp_mul_inv (a := 2 * y % p) (by
    push_cast [ZMod.natCast_mod] at hv ⊢
    exact isUnit_of_mul_isUnit_left (y := (Z : ZMod p) * Z) (by convert hv using 1; rw [← hY]; ring))
  obtain ⟨h1, h2⟩ := chord_rep (u := 3 * X * X % p) (v := 2 * Y * Z % p) (sw := 2 * X)
    (l := 3 * x * x * (Secp256k1.inv (2 * y % p) : Nat)) (s := 2 * x)
    (by push_cast [ZMod.natCast_mod] at hi ⊢; rw [← hX, ← hY]
        linear_combination (3 * x ^ 2 * Z ^ 2 : ZMod p) * hi)
    hX hY (by push_cast; rw [← hX]; ring)
  refine ⟨hu, hlt _, hlt _, ?_, ?_⟩
  · rw [← h1]; congr 1
    push_cast [ZMod.natCast_mod, natCast_sub_self hx.le]; ring
  · rw [← h2]; congr 1
    push_cast [ZMod.natCast_mod, natCast_sub_self hx.le, natCast_sub_self hy.le, natCast_add_sub (hlt _).le]
    ring

theorem secpPadd_rep {A B : Option (Nat × Nat × Nat)} {a b : Secp256k1.Pt} (hA : SecpRep A a)
    (hB : SecpRep B b) (hu : IsUnit (secpDen (secpPadd A B) : ZMod p)) :
    SecpRep (secpPadd A B) (Secp256k1.add a b) := by
  obtain _ | ⟨X1, Y1, Z1⟩ := A <;> obtain _ | ⟨x1, y1⟩ := a <;> try exact hA.elim
  · exact hB
  obtain _ | ⟨X2, Y2, Z2⟩ := B <;> obtain _ | ⟨x2, y2⟩ := b <;> try exact hB.elim
  · exact hA
  obtain ⟨hZ1, hx1, hy1, hX1, hY1⟩ := hA
  obtain ⟨hZ2, hx2, hy2, hX2, hY2⟩ := hB
  have hlt : ∀ n : Nat, n % p < p := fun n => Nat.mod_lt n secp_p_pos
  simp only [secpPadd, Secp256k1.add, cross_eq_iff hx1 hx2 hZ1 hZ2 hX1 hX2,
    cross_eq_iff hy1 hy2 hZ1 hZ2 hY1 hY2] at hu ⊢
  by_cases hx : x1 = x2
  · subst hx
    by_cases hy : y1 = y2
    · subst hy
      simp only [if_true] at hu ⊢
      exact secpPdouble_rep (A := some (X1, Y1, Z1)) ⟨hZ1, hx1, hy1, hX1, hY1⟩ hu
    · simp only [hy, if_true, if_false]; trivial
  simp only [hx, if_false, secpDen] at hu ⊢
  have hv := ((isUnit_chord_den _ _ _ _ _ _).1 hu).1
  have hi := secp_mul_inv (a := (x2 + p - x1) % p) (by
    push_cast [ZMod.natCast_mod, natCast_add_sub hx1.le, natCast_sub_self (hlt _).le] at hv ⊢
    exact isUnit_of_mul_isUnit_left (y := (Z1 : ZMod p) * Z2)
      (by convert hv using 1; rw [← hX1, ← hX2]; ring))
  obtain ⟨h1, h2⟩ := chord_rep (u := (Y2 * Z1 + (p - Y1 * Z2 % p)) % p)
    (v := (X2 * Z1 + (p - X1 * Z2 % p)) % p) (w := Z1 * Z2 % p) (xw := X1 * Z2 % p) (yw := Y1 * Z2 % p)
    (sw := X1 * Z2 + X2 * Z1)
    (l := (y2 - y1) * (Secp256k1.inv ((x2 + p - x1) % p) : Nat)) (x := x1) (y := y1) (s := x1 + x2)
    (by push_cast [ZMod.natCast_mod, natCast_add_sub hx1.le, natCast_sub_self (hlt _).le] at hi ⊢
        rw [← hX1, ← hY1, ← hX2, ← hY2]
        linear_combination ((y2 - y1) * Z1 * Z2 : ZMod p) * hi)
    (by push_cast [ZMod.natCast_mod]; rw [← hX1]; ring)
    (by push_cast [ZMod.natCast_mod]; rw [← hY1]; ring)
    (by push_cast [ZMod.natCast_mod]; rw [← hX1, ← hX2]; ring)
  refine ⟨hu, hlt _, hlt _, ?_, ?_⟩
  · rw [← h1]; congr 1
    push_cast [ZMod.natCast_mod, natCast_sub_self hx1.le, natCast_sub_self hx2.le,
      natCast_add_sub hy1.le]
    ring
  · rw [← h2]; congr 1
    push_cast [ZMod.natCast_mod, natCast_sub_self hx1.le, natCast_sub_self hx2.le,
      natCast_sub_self hy1.le, natCast_add_sub hy1.le, natCast_add_sub (hlt _).le]
    ring

/-- the evaluator on `k·(x, y)`: a point and the product of the denominators met on the way -/
def secpSmul (k x y : Nat) : Option (Nat × Nat × Nat) × Nat :=
  psmulBits p secpPadd secpDen (bitsMSB k) (some (x, y, 1)) (none, 1)

theorem secpSmul_rep {k x y : Nat} (hk : k ≠ 0) (hx : x < p) (hy : y < p)
    (hW : Nat.Coprime (secpSmul k x y).2 p) :
    SecpRep (secpSmul k x y).1 (Secp256k1.curve.smul k (some (x, y))) := by
  rw [smul_eq_smulBits _ hk]
  exact psmulBits_rep Secp256k1.curve p secpPadd secpDen (Rep := SecpRep)
    (fun hA hB h => secpPadd_rep hA hB h) (Pt := some (x, y, 1)) (pt := some (x, y))
    (projRep_affine hx hy) (bitsMSB k) (s := (none, 1))
    (a := none) trivial ((ZMod.isUnit_iff_coprime _ _).2 hW)

theorem secp_smul_eq_none {k x y : Nat} (hk : k ≠ 0) (hx : x < p) (hy : y < p)
    (h : (secpSmul k x y).1 = none ∧ Nat.Coprime (secpSmul k x y).2 p) :
    Secp256k1.curve.smul k (some (x, y)) = none := by
  have hr := secpSmul_rep hk hx hy h.2
  rw [h.1] at hr
  cases hq : Secp256k1.curve.smul k (some (x, y)) with
  | none => rfl
  | some q => rw [hq] at hr; exact hr.elim

end secp

end TssVerif.C17L
