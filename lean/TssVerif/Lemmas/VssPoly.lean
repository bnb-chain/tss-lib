import TssVerif.Core.Vss
import Mathlib.Data.ZMod.Basic
import Mathlib.Algebra.Field.ZMod
import Mathlib.Algebra.Polynomial.Roots
import Mathlib.Algebra.Polynomial.BigOperators
import Mathlib.Tactic.Ring
import Mathlib.Tactic.Linarith
/-! The dealer polynomial: a plain `Nat` evaluation `polyNat` (no reduction), its Mathlib counterpart
`polyZ q as : (ZMod q)[X]`, and the specification of `Vss.evalPoly`. -/
set_option autoImplicit false
namespace TssVerif
namespace Vss
open Polynomial

/-- `a_0 + a_1 x + … + a_n x^n` in `Nat` (Horner form, nothing reduced) -/
def polyNat : List Nat → Nat → Nat
  | [], _ => 0
  | a :: as, x => a + x * polyNat as x

theorem polyNat_eq_sum (as : List Nat) (x : Nat) :
    polyNat as x = ∑ i ∈ Finset.range as.length, as.getD i 0 * x ^ i := by
  induction as with
  | nil => simp [polyNat]
  | cons a as ih =>
    rw [polyNat, ih, List.length_cons, Finset.sum_range_succ', Finset.mul_sum]
    simp only [List.getD_cons_succ, List.getD_cons_zero, pow_zero, mul_one]
    rw [add_comm]
    congr 1
    apply Finset.sum_congr rfl
    intro i _
    ring

theorem polyNat_zero (a : Nat) (as : List Nat) : polyNat (a :: as) 0 = a := by
  simp [polyNat]

/-- the dealer polynomial over the field `ZMod q` -/
noncomputable def polyZ (q : Nat) : List Nat → (ZMod q)[X]
  | [] => 0
  | a :: as => C (a : ZMod q) + X * polyZ q as

variable {q : Nat}

theorem polyZ_eval_natCast (as : List Nat) (x : Nat) :
    (polyZ q as).eval (x : ZMod q) = ((polyNat as x : Nat) : ZMod q) := by
  induction as with
  | nil => simp [polyZ, polyNat]
  | cons a as ih =>
    simp only [polyZ, polyNat, eval_add, eval_C, eval_mul, eval_X, ih]
    push_cast
    ring

theorem polyZ_coeff (as : List Nat) (i : Nat) : (polyZ q as).coeff i = ((as.getD i 0 : Nat) : ZMod q) := by
  induction as generalizing i with
  | nil => simp [polyZ]
  | cons a as ih =>
    cases i with
    | zero => simp [polyZ]
    | succ i => simp [polyZ, ih]

theorem polyZ_degree_lt (as : List Nat) : (polyZ q as).degree < (as.length : ℕ) := by
  rw [degree_lt_iff_coeff_zero]
  intro m hm
  rw [polyZ_coeff]
  simp [List.getD_eq_getElem?_getD, List.getElem?_eq_none hm]

theorem polyZ_eval_zero (a : Nat) (as : List Nat) : (polyZ q (a :: as)).eval 0 = (a : ZMod q) := by
  simp [polyZ]

theorem polyZ_natDegree_le (as : List Nat) : (polyZ q as).natDegree ≤ as.length - 1 := by
  cases as with
  | nil => simp [polyZ]
  | cons a as =>
    have := polyZ_degree_lt (q := q) (a :: as)
    by_cases h0 : polyZ q (a :: as) = 0
    · rw [h0]; simp
    · rw [degree_eq_natDegree h0] at this
      have : (polyZ q (a :: as)).natDegree < (a :: as).length := by exact_mod_cast this
      omega

theorem evalPolyLoop_cast (id : Nat) (as : List Nat) (x r : Nat) :
    ((evalPolyLoop q id as x r : Nat) : ZMod q) = (r : ZMod q) + x * id * (polyNat as id : Nat) := by
  induction as generalizing x r with
  | nil => simp [evalPolyLoop, polyNat]
  | cons a as ih =>
    rw [evalPolyLoop, ih, polyNat]
    push_cast [ZMod.natCast_mod]
    ring

theorem evalPolyLoop_lt (hq : 0 < q) (id : Nat) (as : List Nat) (x r : Nat) (hr : r < q) :
    evalPolyLoop q id as x r < q := by
  induction as generalizing x r with
  | nil => exact hr
  | cons a as ih =>
    rw [evalPolyLoop]
    exact ih _ _ (Nat.mod_lt _ hq)

theorem evalPoly_cast (a0 : Nat) (as : List Nat) (id : Nat) :
    ((evalPoly q (a0 :: as) id : Nat) : ZMod q) = ((polyNat (a0 :: as) id : Nat) : ZMod q) := by
  rw [evalPoly, evalPolyLoop_cast, polyNat]
  push_cast
  ring

theorem evalPoly_modEq (a0 : Nat) (as : List Nat) (id : Nat) :
    evalPoly q (a0 :: as) id ≡ polyNat (a0 :: as) id [MOD q] :=
  (ZMod.natCast_eq_natCast_iff' _ _ _).1 (evalPoly_cast a0 as id)

theorem evalPoly_lt (hq : 0 < q) (a0 a1 : Nat) (as : List Nat) (id : Nat) :
    evalPoly q (a0 :: a1 :: as) id < q := by
  rw [evalPoly, evalPolyLoop]
  exact evalPolyLoop_lt hq _ _ _ _ (Nat.mod_lt _ hq)

theorem evalPoly_eq_mod (hq : 0 < q) (a0 : Nat) (as : List Nat) (has : as ≠ []) (id : Nat) :
    evalPoly q (a0 :: as) id = polyNat (a0 :: as) id % q := by
  cases as with
  | nil => exact absurd rfl has
  | cons a1 as =>
    have h1 := evalPoly_modEq (q := q) a0 (a1 :: as) id
    have h2 := evalPoly_lt hq a0 a1 as id
    rw [← h1, Nat.mod_eq_of_lt h2]

theorem evalPoly_singleton (a0 id : Nat) : evalPoly q [a0] id = a0 := rfl

theorem evalPoly_eval (a0 : Nat) (as : List Nat) (id : Nat) :
    ((evalPoly q (a0 :: as) id : Nat) : ZMod q) = (polyZ q (a0 :: as)).eval (id : ZMod q) := by
  rw [evalPoly_cast, polyZ_eval_natCast]

end Vss
end TssVerif
