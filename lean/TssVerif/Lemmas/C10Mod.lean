import TssVerif.Lemmas.C10Dln
import TssVerif.Lemmas.ZkVerify
import TssVerif.Lemmas.Paillier
import Mathlib.Data.ZMod.Basic
import Mathlib.FieldTheory.Finite.Basic
import Mathlib.NumberTheory.LegendreSymbol.JacobiSymbol
/-! Completeness of the Paillier-Blum modulus proof (`crypto/modproof`): the bit strings `A`, `B` the prover packs
its choices into, the candidate search `pickJ`, the canonical fourth root `min(x, N − x)`, the model's binary Jacobi
algorithm against Mathlib's `jacobiSym`, and the number theory of Blum integers (`FourthRootFact`) that makes the
search succeed. `mod_complete_partial` takes `FourthRootFact` as a hypothesis, `mod_complete` proves it; the toy
instance `n = 7·11` shows the hypotheses satisfiable. -/
set_option autoImplicit false
namespace TssVerif.C10L
open TssVerif Zk
open scoped NumberTheorySymbols

/-- the start value of the sum can be pulled out -/
theorem bits_foldl_shift (f : Nat → Nat) (m c : Nat) :
    (List.range m).foldl (fun acc i => acc + f i * 2 ^ i) c =
      c + (List.range m).foldl (fun acc i => acc + f i * 2 ^ i) 0 := by
  induction m with
  | zero => simp
  | succ m ih =>
    rw [List.range_succ, List.foldl_append, List.foldl_append, ih]
    simp only [List.foldl_cons, List.foldl_nil]
    omega

/-- the low part `Σ_{i<m} f i · 2^i` with `f i ∈ {0,1}` is below `2^m` and its bit `i` is `f i` -/
theorem bits_low (f : Nat → Nat) (m : Nat) (hf : ∀ i, i < m → f i ≤ 1) :
    (List.range m).foldl (fun acc i => acc + f i * 2 ^ i) 0 < 2 ^ m ∧
    ∀ i, i < m → ((List.range m).foldl (fun acc i => acc + f i * 2 ^ i) 0).testBit i = decide (f i = 1) := by
  induction m with
  | zero => simp
  | succ m ih =>
    obtain ⟨h1, h2⟩ := ih (fun i hi => hf i (by omega))
    rw [List.range_succ, List.foldl_append]
    simp only [List.foldl_cons, List.foldl_nil]
    set S := (List.range m).foldl (fun acc i => acc + f i * 2 ^ i) 0 with hS
    have hm := hf m (by omega)
    constructor
    · have : f m * 2 ^ m ≤ 1 * 2 ^ m := Nat.mul_le_mul_right _ hm
      rw [pow_succ]; omega
    · intro i hi
      have e : S + f m * 2 ^ m = 2 ^ m * f m + S := by rw [Nat.mul_comm, Nat.add_comm]
      rw [e, Nat.testBit_two_pow_mul_add _ h1]
      by_cases him : i < m
      · rw [if_pos him]; exact h2 i him
      · have : i = m := by omega
        subst this
        rw [if_neg him, Nat.sub_self]
        have : f i = 0 ∨ f i = 1 := by omega
        rcases this with h | h <;> rw [h] <;> rfl

/-- `2^m + Σ_{i<m} f i · 2^i` with `f i ∈ {0,1}` has `m+1` bits and bit `i` is `f i` -/
theorem bits_spec (f : Nat → Nat) (m : Nat) (hf : ∀ i, i < m → f i ≤ 1) :
    bitLen ((List.range m).foldl (fun acc i => acc + f i * 2 ^ i) (2 ^ m)) = m + 1 ∧
    ∀ i, i < m → ((List.range m).foldl (fun acc i => acc + f i * 2 ^ i) (2 ^ m)).testBit i = decide (f i = 1) := by
  obtain ⟨h1, h2⟩ := bits_low f m hf
  rw [bits_foldl_shift]
  constructor
  · apply PaillierL.bitLen_eq_of_bounds (by omega)
    · simp
    · rw [pow_succ]; omega
  · intro i hi
    rw [Nat.testBit_two_pow_add_gt hi]
    exact h2 i hi

theorem nth_root_spec {n phi invN y : Nat} (htot : Nat.totient n = phi)
    (hinv : n * invN % phi = 1 % phi) (hy : Nat.Coprime y n) (hyn : y < n) :
    modPow (modPow y invN n) n n = y := by
  rw [modPow_spec, modPow_spec, ← Nat.pow_mod]
  have := pow_inv_pow_modEq (htot ▸ Nat.ModEq.pow_totient hy) hinv
  rwa [Nat.ModEq, Nat.mod_eq_of_lt hyn] at this

/-- the candidate the prover tries for index `j ∈ {0,1,2,3}`: `y`, `-y`, `w·y`, `-w·y` (mod `n`), exactly as
`pickJ` computes it (`a = j & 1` selects the sign, `b = (j >> 1) & 1` the factor `w`) -/
def modCand (n w y j : Nat) : Nat :=
  let y1 := if j % 2 > 0 then ((-1 : Int) * (y : Int) % (n : Int)).toNat else y
  if j / 2 % 2 > 0 then w * y1 % n else y1

/-- the fourth-root exponent `((φ+4)/8)² mod φ` -/
def modExpo (p q : Nat) : Nat := ((p - 1) * (q - 1) + 4) / 8 * (((p - 1) * (q - 1) + 4) / 8) % ((p - 1) * (q - 1))

theorem pickJ_cons (n p q w expo y j : Nat) (js : List Nat) (v1 v2 : Int)
    (h1 : goJacobi (modCand n w y j : Nat) p = .ok v1) (h2 : goJacobi (modCand n w y j : Nat) q = .ok v2) :
    modProveRaw.pickJ n p q w expo y (j :: js) =
      if v1 = 1 ∧ v2 = 1 then .ok (modPow (modCand n w y j) expo n, j % 2, j / 2 % 2)
      else modProveRaw.pickJ n p q w expo y js := by
  rw [modProveRaw.pickJ]
  unfold modCand at h1 h2 ⊢
  simp only at h1 h2 ⊢
  rw [h1, h2]
  split
  · rename_i e1 e2
    cases e1; cases e2
    simp only [and_self, if_true]
  · rename_i e1; cases e1
  · rename_i e2 _; cases e2
  · rename_i hne
    rw [if_neg]
    rintro ⟨rfl, rfl⟩
    exact hne rfl rfl

theorem goJacobi_odd (a : Int) {m : Nat} (hm : m % 2 = 1) :
    goJacobi a m = .ok (jacobiAux (4 * m.log2 + 8) ((a % (m : Int)).toNat) m 1) := by
  unfold goJacobi
  rw [if_neg (by omega)]

/-- Jacobi symbol of `0` is not `1` (modulus `≠ 1`) -/
theorem goJacobi_zero_ne_one {m : Nat} (hm1 : m ≠ 1) : goJacobi ((0 : Nat) : Int) m ≠ .ok 1 := by
  unfold goJacobi
  split
  · intro h; cases h
  · have : 4 * m.log2 + 8 = (4 * m.log2 + 7) + 1 := rfl
    rw [this, jacobiAux]
    simp [hm1]

/-- `pickJ` returns the first candidate whose Jacobi symbols modulo `p` and `q` are both `1` -/
theorem pickJ_spec (n p q w expo y : Nat) (hp : p % 2 = 1) (hq : q % 2 = 1) (js : List Nat)
    (h : ∃ j ∈ js, goJacobi (modCand n w y j : Nat) p = .ok 1 ∧ goJacobi (modCand n w y j : Nat) q = .ok 1) :
    ∃ j ∈ js, goJacobi (modCand n w y j : Nat) p = .ok 1 ∧ goJacobi (modCand n w y j : Nat) q = .ok 1 ∧
      modProveRaw.pickJ n p q w expo y js = .ok (modPow (modCand n w y j) expo n, j % 2, j / 2 % 2) := by
  induction js with
  | nil => obtain ⟨j, hj, _⟩ := h; cases hj
  | cons j js ih =>
    have h1 := goJacobi_odd (modCand n w y j : Nat) hp
    have h2 := goJacobi_odd (modCand n w y j : Nat) hq
    rw [pickJ_cons n p q w expo y j js _ _ h1 h2]
    split
    · rename_i hv
      refine ⟨j, List.mem_cons_self .., ?_, ?_, rfl⟩
      · rw [h1, hv.1]
      · rw [h2, hv.2]
    · rename_i hv
      obtain ⟨j0, hj0, ha, hb⟩ := h
      rcases List.mem_cons.1 hj0 with rfl | hmem
      · exfalso; apply hv
        rw [h1] at ha; rw [h2] at hb
        exact ⟨by injection ha, by injection hb⟩
      · obtain ⟨j1, hj1, r⟩ := ih ⟨j0, hmem, ha, hb⟩
        exact ⟨j1, List.mem_cons_of_mem _ hj1, r⟩

/-- the prover's choice `(x, a, b)` for the challenge `y` (default where the Go code leaves `X[i]` nil) -/
def modPick (n p q w y : Nat) : Nat × Nat × Nat :=
  match modProveRaw.pickJ n p q w (modExpo p q) y [0, 1, 2, 3] with
  | .ok r => r
  | _ => (0, 0, 0)

/-- The number-theoretic fact about Blum integers behind the prover's candidate search (proved below,
`fourthRootFact_of_blum`), stated for the model's `goJacobi`:
for every unit `y < n`, (i) at least one of the four candidates has Jacobi symbol `1` modulo both `p` and `q`
(as computed by `goJacobi`), and (ii) every candidate that has, satisfies `(c ^ expo) ^ 4 ≡ c (mod n)` with
`expo = ((φ+4)/8)² mod φ`, `φ = (p-1)(q-1)`. -/
def FourthRootFact (n p q w : Nat) : Prop :=
  ∀ y, y < n → Nat.Coprime y n →
    (∃ j, j < 4 ∧ goJacobi (modCand n w y j : Nat) p = .ok 1 ∧ goJacobi (modCand n w y j : Nat) q = .ok 1) ∧
    (∀ j, j < 4 → goJacobi (modCand n w y j : Nat) p = .ok 1 → goJacobi (modCand n w y j : Nat) q = .ok 1 →
      (modCand n w y j ^ modExpo p q) ^ 4 ≡ modCand n w y j [MOD n])

/-- side condition on the hash outputs: the challenge chain is computed (always, for `n ≠ 0`) and all 80
challenges `Y_i` are units modulo `n`. (A zero challenge makes `z_i = 0` fail the verifier's `0 < z` check and a
non-unit challenge has no candidate with Jacobi symbol `1` modulo both primes, so the prover crashes.) -/
def ModGood (H : HashFn) (sess : Bytes) (n w : Nat) : Prop :=
  match modYs H sess (w : Int) (n : Int) modIterations [] with
  | .ok ys => ∀ y ∈ ys, Nat.Coprime y n
  | _ => False

instance (H : HashFn) (sess : Bytes) (n w : Nat) : Decidable (ModGood H sess n w) := by
  unfold ModGood; split <;> infer_instance

theorem modYs_ok (H : HashFn) (sess : Bytes) (w : Int) {n : Nat} (hn : n ≠ 0) : ∀ (k : Nat) (acc : List Nat),
    ∃ ys, modYs H sess w (n : Int) k acc = .ok ys ∧ ys.length = acc.length + k ∧ ∀ y ∈ ys, y ∈ acc ∨ y < n := by
  intro k
  induction k with
  | zero => intro acc; exact ⟨acc, rfl, rfl, fun y hy => Or.inl hy⟩
  | succ k ih =>
    intro acc
    have hn' : (n : Int) ≠ 0 := by exact_mod_cast hn
    rw [modYs, if_neg hn']
    obtain ⟨ys, h1, h2, h3⟩ := ih (acc ++ [((((sha512_256iTaggedWith H sess (w :: (n : Int) :: acc.map Int.ofNat)).getD 0 : Nat) : Int) % (n : Int)).toNat])
    refine ⟨ys, h1, ?_, ?_⟩
    · rw [h2, List.length_append, List.length_singleton]; omega
    · intro y hy
      rcases h3 y hy with h | h
      · rcases List.mem_append.1 h with h | h
        · exact Or.inl h
        · right
          rw [List.mem_singleton] at h
          rw [h, emod_natCast_toNat]
          exact Nat.mod_lt _ (Nat.pos_of_ne_zero hn)
      · exact Or.inr h

theorem getD_map_ofNat_toNat (l : List Nat) (i : Nat) : ((l.map Int.ofNat).getD i 0).toNat = l.getD i 0 := by
  rw [show (0 : Int) = Int.ofNat 0 from rfl, getD_map']
  exact Int.toNat_natCast _

theorem modVerify_nat (H : HashFn) (sess : Bytes) (n w a b : Nat) (xs zs ys : List Nat)
    (hn2 : n % 2 = 1)
    (hj : ∃ j, goJacobi (w : Int) n = .ok j ∧ j ≠ 1)
    (hw0 : 0 < w) (hwn : w < n) (hwc : Nat.Coprime w n)
    (hzs : ∀ z ∈ zs, 0 < z ∧ z < n) (hxs : ∀ x ∈ xs, 0 < x ∧ x < n)
    (hcanon : ∀ x ∈ xs, 2 * x ≤ n)
    (ha : bitLen a = modIterations + 1) (hb : bitLen b = modIterations + 1)
    (hys : modYs H sess (w : Int) (n : Int) modIterations [] = .ok ys)
    (hcomp : isProbablyPrime n = false)
    (hrel : ∀ i, i < modIterations →
      modPow (zs.getD i 0) n n = ys.getD i 0 ∧
      modPow (xs.getD i 0) 4 n =
        (if b.testBit i then w * (if a.testBit i then ((-1 : Int) * (ys.getD i 0 : Nat) % (n : Int)).toNat else ys.getD i 0) % n
         else (if a.testBit i then ((-1 : Int) * (ys.getD i 0 : Nat) % (n : Int)).toNat else ys.getD i 0))) :
    modVerify cur H sess (w : Int) (xs.map Int.ofNat) (a : Int) (b : Int) (zs.map Int.ofNat) (n : Int) = .ok true := by
  obtain ⟨j, hj1, hj2⟩ := hj
  rw [modVerify_eq_true_iff]
  simp only [Int.toNat_natCast, Int.natAbs_natCast, List.forall_mem_map, getD_map_ofNat_toNat, Int.ofNat_eq_natCast]
  exact ⟨⟨by omega, by omega⟩, by omega, j, hj1, hj2, ⟨by exact_mod_cast hw0, by exact_mod_cast hwn⟩, hwc,
    fun z hz => ⟨by exact_mod_cast (hzs z hz).1, by exact_mod_cast (hzs z hz).2⟩,
    fun x hx => ⟨by exact_mod_cast (hxs x hx).1, by exact_mod_cast (hxs x hx).2⟩,
    fun x hx => by exact_mod_cast hcanon x hx, ha, hb, ys, hys, ⟨by omega, hcomp⟩, hrel⟩

theorem modCanonRoot_pos {n x : Nat} (hx0 : 0 < x) (hxn : x < n) : 0 < modCanonRoot n x := by
  unfold modCanonRoot; split <;> omega

theorem modCanonRoot_lt {n x : Nat} (hxn : x < n) : modCanonRoot n x < n := by
  unfold modCanonRoot; split <;> omega

theorem modCanonRoot_two_le {n x : Nat} (hxn : x < n) : 2 * modCanonRoot n x ≤ n := by
  unfold modCanonRoot; split <;> omega

/-- `(n − x)^4 ≡ x^4 (mod n)` -/
theorem sub_pow_four_mod {n x : Nat} (hxn : x ≤ n) : (n - x) ^ 4 % n = x ^ 4 % n := by
  show (n - x) ^ 4 ≡ x ^ 4 [MOD n]
  rw [← ZMod.natCast_eq_natCast_iff]
  push_cast [Nat.cast_sub hxn]
  rw [ZMod.natCast_self, zero_sub, Even.neg_pow (by decide)]

theorem modPow_canonRoot {n x : Nat} (hxn : x ≤ n) : modPow (modCanonRoot n x) 4 n = modPow x 4 n := by
  unfold modCanonRoot
  split
  · rw [modPow_spec, modPow_spec, sub_pow_four_mod hxn]
  · rfl

theorem modCand_lt {n w y : Nat} (j : Nat) (hy : y < n) : modCand n w y j < n := by
  have hn : 0 < n := by omega
  have h1 : ((-1 : Int) * (y : Int) % (n : Int)).toNat < n := emod_toNat_lt _ hn
  unfold modCand
  simp only
  split
  · exact Nat.mod_lt _ hn
  · split
    · exact h1
    · exact hy

/-- the verifier's recomputation of the candidate from the bits `a = (j%2 = 1)`, `b = (j/2%2 = 1)` -/
theorem modCand_bits (n w y j : Nat) :
    modCand n w y j =
      if decide (j / 2 % 2 = 1) then
        w * (if decide (j % 2 = 1) then ((-1 : Int) * (y : Int) % (n : Int)).toNat else y) % n
      else (if decide (j % 2 = 1) then ((-1 : Int) * (y : Int) % (n : Int)).toNat else y) := by
  have e1 : (j % 2 > 0) = (j % 2 = 1) := by apply propext; omega
  have e2 : (j / 2 % 2 > 0) = (j / 2 % 2 = 1) := by apply propext; omega
  unfold modCand
  simp only [e1, e2, decide_eq_true_eq]

/-- under `FourthRootFact` the candidate search succeeds and returns a non-zero fourth root -/
theorem modPick_spec {n p q w y : Nat} (hp2 : p % 2 = 1) (hq2 : q % 2 = 1) (hp1 : p ≠ 1)
    (hroot : FourthRootFact n p q w) (hy : y < n) (hyc : Nat.Coprime y n) :
    ∃ j, j < 4 ∧ modProveRaw.pickJ n p q w (modExpo p q) y [0, 1, 2, 3] = .ok (modPick n p q w y) ∧
      (modPick n p q w y).2 = (j % 2, j / 2 % 2) ∧
      modPow (modPick n p q w y).1 4 n = modCand n w y j ∧
      0 < (modPick n p q w y).1 ∧ (modPick n p q w y).1 < n := by
  obtain ⟨⟨j0, hj0, ha0, hb0⟩, hii⟩ := hroot y hy hyc
  have hmem : j0 ∈ [0, 1, 2, 3] := by
    simp only [List.mem_cons, List.not_mem_nil, or_false]; omega
  obtain ⟨j, hj, ha, hb, hpick⟩ := pickJ_spec n p q w (modExpo p q) y hp2 hq2 [0, 1, 2, 3] ⟨j0, hmem, ha0, hb0⟩
  have hj4 : j < 4 := by
    simp only [List.mem_cons, List.not_mem_nil, or_false] at hj; omega
  have hn : 0 < n := by omega
  have hval : modPick n p q w y = (modPow (modCand n w y j) (modExpo p q) n, j % 2, j / 2 % 2) := by
    unfold modPick; rw [hpick]
  have h4 : modPow (modPow (modCand n w y j) (modExpo p q) n) 4 n = modCand n w y j := by
    rw [modPow_spec, modPow_spec, ← Nat.pow_mod]
    have := hii j hj4 ha hb
    rw [Nat.ModEq, Nat.mod_eq_of_lt (modCand_lt j hy)] at this
    exact this
  refine ⟨j, hj4, by rw [hpick, hval], by rw [hval], by rw [hval]; exact h4, ?_, ?_⟩
  · rw [hval]
    apply Nat.pos_of_ne_zero
    intro h0
    show False
    have h0' : modPow (modCand n w y j) (modExpo p q) n = 0 := h0
    rw [h0', modPow_spec] at h4
    have hc : modCand n w y j = 0 := by
      rw [← h4]; simp [Nat.zero_mod]
    rw [hc] at ha
    exact goJacobi_zero_ne_one hp1 ha
  · rw [hval]
    exact modPow_lt _ _ (by omega)

theorem odd_of_coprime_phi {p q : Nat} (hp : p.Prime) (hq : q.Prime) (hpq : p ≠ q)
    (hcop : Nat.Coprime (p * q) ((p - 1) * (q - 1))) : p % 2 = 1 := by
  rcases hp.eq_two_or_odd with rfl | h
  · rcases hq.eq_two_or_odd with rfl | h'
    · exact absurd rfl hpq
    · exfalso
      have h2 : 2 ∣ Nat.gcd (2 * q) ((2 - 1) * (q - 1)) :=
        Nat.dvd_gcd ⟨q, rfl⟩ (by rw [Nat.dvd_iff_mod_eq_zero]; simp only [Nat.add_one_sub_one, Nat.one_mul]; omega)
      rw [hcop] at h2
      omega
  · exact h

/-- what `gcd(pq, (p−1)(q−1)) = 1` gives for distinct primes: both are odd, hence so is `n = pq > 1`, and
`φ(n) = (p−1)(q−1) > 1` -/
theorem blum_arith {n p q : Nat} (hn : n = p * q) (hp : p.Prime) (hq : q.Prime) (hpq : p ≠ q)
    (hcop : Nat.Coprime n ((p - 1) * (q - 1))) :
    p % 2 = 1 ∧ q % 2 = 1 ∧ n % 2 = 1 ∧ 1 < n ∧ Nat.totient n = (p - 1) * (q - 1) ∧ 1 < (p - 1) * (q - 1) := by
  have hp2 : p % 2 = 1 := odd_of_coprime_phi hp hq hpq (hn ▸ hcop)
  have hq2 : q % 2 = 1 :=
    odd_of_coprime_phi hq hp (Ne.symm hpq) (by rw [Nat.mul_comm q p, Nat.mul_comm (q - 1)]; exact hn ▸ hcop)
  have hphi : 2 * 2 ≤ (p - 1) * (q - 1) :=
    Nat.mul_le_mul (by have := hp.two_le; omega) (by have := hq.two_le; omega)
  exact ⟨hp2, hq2, by rw [hn, Nat.mul_mod, hp2, hq2], hn ▸ PaillierL.one_lt_mul_primes hp hq,
    hn ▸ PaillierL.totient_mul_primes hp hq hpq, by omega⟩

/-- One round of the proof, for a challenge `y < n` that is a unit: the search returns `modPick`, whose two choices
are bits; the `n`-th root `z = y^{1/n}` and the canonical fourth root `x` pass the verifier's range checks, and its two
equations `z^n = y`, `x^4 = (−1)^a w^b y` hold. -/
theorem modRound_spec {n p q w y phi invN : Nat} (hp2 : p % 2 = 1) (hq2 : q % 2 = 1) (hp1 : p ≠ 1)
    (hroot : FourthRootFact n p q w) (htot : Nat.totient n = phi) (hinv : n * invN % phi = 1 % phi)
    (hy : y < n) (hyc : Nat.Coprime y n) :
    modProveRaw.pickJ n p q w (modExpo p q) y [0, 1, 2, 3] = .ok (modPick n p q w y) ∧
    (modPick n p q w y).2.1 ≤ 1 ∧ (modPick n p q w y).2.2 ≤ 1 ∧
    (0 < modPow y invN n ∧ modPow y invN n < n) ∧
    (0 < modCanonRoot n (modPick n p q w y).1 ∧ modCanonRoot n (modPick n p q w y).1 < n) ∧
    2 * modCanonRoot n (modPick n p q w y).1 ≤ n ∧
    modPow (modPow y invN n) n n = y ∧
    modPow (modCanonRoot n (modPick n p q w y).1) 4 n =
      (if decide ((modPick n p q w y).2.2 = 1) then
        w * (if decide ((modPick n p q w y).2.1 = 1) then ((-1 : Int) * (y : Int) % (n : Int)).toNat else y) % n
      else (if decide ((modPick n p q w y).2.1 = 1) then ((-1 : Int) * (y : Int) % (n : Int)).toNat else y)) := by
  obtain ⟨j, -, hpick, e2, e3, h5, h6⟩ := modPick_spec hp2 hq2 hp1 hroot hy hyc
  have hz := nth_root_spec htot hinv hyc hy
  have hz0 : modPow y invN n ≠ 0 := fun h0 => by
    rw [h0, modPow_spec, Nat.zero_pow (by omega), Nat.zero_mod] at hz
    rw [← hz, Nat.coprime_zero_left] at hyc
    omega
  rw [modPow_canonRoot h6.le, e3, e2]
  exact ⟨hpick, by show j % 2 ≤ 1; omega, by show j / 2 % 2 ≤ 1; omega,
    ⟨Nat.pos_of_ne_zero hz0, modPow_lt _ _ (by omega)⟩, ⟨modCanonRoot_pos h5 h6, modCanonRoot_lt h6⟩,
    modCanonRoot_two_le h6, hz, modCand_bits n w y j⟩

/-- Completeness of the Paillier-Blum modulus proof, modulo `FourthRootFact`. Neither `p ≠ 2`, `q ≠ 2` nor `0 < w`
is a hypothesis: `gcd(pq, (p-1)(q-1)) = 1` with `p ≠ q` forces both primes odd, `gcd(w, n) = 1` with `n > 1` forces
`w ≠ 0`; `p ≡ q ≡ 3 (mod 4)` is only needed for `FourthRootFact`. -/
theorem mod_complete_partial (H : HashFn) (sess : Bytes) (n p q w : Nat)
    (hn : n = p * q) (hp : p.Prime) (hq : q.Prime) (hpq : p ≠ q)
    (hcop : Nat.Coprime n ((p - 1) * (q - 1)))
    (hwn : w < n) (hwc : Nat.Coprime w n)
    (hj : ∃ j, goJacobi (w : Int) n = .ok j ∧ j ≠ 1)
    (hcomp : isProbablyPrime n = false)
    (hroot : FourthRootFact n p q w)
    (hg : ModGood H sess n w) :
    (modProve H sess n p q w >>= fun pf =>
      modVerify cur H sess (pf.1 : Int) (pf.2.1.map Int.ofNat) (pf.2.2.1 : Int) (pf.2.2.2.1 : Int)
        (pf.2.2.2.2.map Int.ofNat) (n : Int)) = .ok true := by
  obtain ⟨hp2, hq2, hn2, hn1, htot, hphi⟩ := blum_arith hn hp hq hpq hcop
  have hn0 : n ≠ 0 := by omega
  have hw0 : 0 < w := Nat.pos_of_ne_zero fun h => by rw [h, Nat.coprime_zero_left] at hwc; omega
  obtain ⟨ys, hys, hlen, hlt⟩ := modYs_ok H sess (w : Int) hn0 modIterations []
  have hlen' : ys.length = modIterations := by simpa using hlen
  have hyc : ∀ y ∈ ys, Nat.Coprime y n := by
    unfold ModGood at hg; rw [hys] at hg; exact hg
  obtain ⟨invN, hinv, -⟩ := modInverse_exists (a := (n : Int)) (n := (p - 1) * (q - 1)) (by omega)
    (by rw [Int.gcd_natCast_natCast]; exact hcop)
  -- every round, by `modRound_spec`
  have hround := fun y (hy : y ∈ ys) => modRound_spec (invN := invN) hp2 hq2 hp.one_lt.ne' hroot htot
    (modInverse_spec_nat hinv).1 ((hlt y hy).resolve_left (by simp)) (hyc y hy)
  have hmapM : ys.mapM (fun y => modProveRaw.pickJ n p q w (modExpo p q) y [0, 1, 2, 3]) =
      .ok (ys.map (modPick n p q w)) :=
    mapM_ok_of _ _ ys fun y hy => (hround y hy).1
  unfold modExpo at hmapM
  have hprove : modProve H sess n p q w = .ok (w, ys.map (fun y => modCanonRoot n (modPick n p q w y).1),
      (List.range modIterations).foldl
        (fun acc i => acc + ((ys.map (modPick n p q w)).getD i (0, 0, 0)).2.1 * 2 ^ i) (2 ^ modIterations),
      (List.range modIterations).foldl
        (fun acc i => acc + ((ys.map (modPick n p q w)).getD i (0, 0, 0)).2.2 * 2 ^ i) (2 ^ modIterations),
      ys.map fun y => modPow y invN n) := by
    unfold modProve modProveCfg modProveRaw
    simp only [hys, Outcome.ok_bind, hinv, nilPanic, Outcome.ofOption, hmapM, cur, if_true, List.map_map,
      Function.comp_def]
  rw [hprove, Outcome.ok_bind]
  dsimp only
  -- the bit strings `A`, `B` hold the choices of round `i` at position `i`
  have hi' : ∀ {i}, i < modIterations → i < ys.length := fun hi => hlen' ▸ hi
  have hA := bits_spec (fun i => ((ys.map (modPick n p q w)).getD i (0, 0, 0)).2.1) modIterations fun i hi => by
    show ((ys.map (modPick n p q w)).getD i (0, 0, 0)).2.1 ≤ 1
    rw [getD_map_of_lt _ (hi' hi) _ 0]; exact (hround _ (getD_mem (hi' hi) 0)).2.1
  have hB := bits_spec (fun i => ((ys.map (modPick n p q w)).getD i (0, 0, 0)).2.2) modIterations fun i hi => by
    show ((ys.map (modPick n p q w)).getD i (0, 0, 0)).2.2 ≤ 1
    rw [getD_map_of_lt _ (hi' hi) _ 0]; exact (hround _ (getD_mem (hi' hi) 0)).2.2.1
  refine modVerify_nat H sess n w _ _ _ _ ys hn2 hj hw0 hwn hwc
    (List.forall_mem_map.2 fun y hy => (hround y hy).2.2.2.1) (List.forall_mem_map.2 fun y hy => (hround y hy).2.2.2.2.1)
    (List.forall_mem_map.2 fun y hy => (hround y hy).2.2.2.2.2.1) hA.1 hB.1 hys hcomp fun i hi => ?_
  rw [hA.2 i hi, hB.2 i hi, getD_map_of_lt _ (hi' hi) _ 0, getD_map_of_lt _ (hi' hi) _ 0,
    getD_map_of_lt _ (hi' hi) _ 0]
  exact (hround _ (getD_mem (hi' hi) 0)).2.2.2.2.2.2

theorem jacobiAux_zero (fuel n : Nat) (acc : Int) (hn : n % 2 = 1) :
    jacobiAux (fuel + 1) 0 n acc = acc * J(((0 : Nat) : Int) | n) := by
  rw [jacobiAux, if_pos rfl]
  by_cases h1 : n = 1
  · subst h1; simp [jacobiSym.one_right]
  · rw [if_neg h1, Nat.cast_zero, jacobiSym.zero_left (by omega), mul_zero]

/-- The binary Jacobi algorithm computes `acc · (a/n)`. The measure is `a · n < 2^fuel`: an even `a` is halved, which
halves the product; an odd `a` is replaced by `(n mod a, a)`, and `2 · (n mod a) < n` because `a < n`, so the product
`(n mod a) · a` is again less than half of `a · n`. Each step therefore spends one unit of fuel. -/
theorem jacobiAux_spec : ∀ (fuel a n : Nat) (acc : Int), n % 2 = 1 → a < n → a * n < 2 ^ fuel →
    jacobiAux (fuel + 1) a n acc = acc * J((a : Int) | n) := by
  intro fuel
  induction fuel with
  | zero =>
    intro a n acc hn han h
    have ha : a = 0 := by
      rcases Nat.eq_zero_or_pos a with h0 | h0
      · exact h0
      · have := Nat.mul_pos h0 (by omega : 0 < n); omega
    subst ha
    exact jacobiAux_zero 0 n acc hn
  | succ k ih =>
    intro a n acc hn han h
    by_cases ha : a = 0
    · subst ha
      exact jacobiAux_zero (k + 1) n acc hn
    rw [jacobiAux, if_neg ha]
    by_cases he : a % 2 = 0
    · rw [if_pos he]
      simp only
      have hb : a / 2 * n < 2 ^ k := by
        have e : a * n = 2 * (a / 2 * n) := by
          have : a = 2 * (a / 2) := by omega
          calc a * n = 2 * (a / 2) * n := by rw [← this]
            _ = 2 * (a / 2 * n) := by ring
        rw [pow_succ] at h; omega
      rw [ih (a / 2) n _ hn (by omega) hb]
      have key := jacobiSym.even_odd (a := (a : Int)) (b := n) (by omega) hn
      rw [← key, Int.natCast_div]
      split_ifs <;> simp
    · rw [if_neg he]
      simp only
      have ha2 : a % 2 = 1 := by omega
      have hapos : 0 < a := Nat.pos_of_ne_zero ha
      have hlt : n % a < a := Nat.mod_lt _ hapos
      have h2 : 2 * (n % a) < n := by
        have h1 := Nat.div_add_mod n a
        have h3 : 1 ≤ n / a := Nat.div_pos (le_of_lt han) hapos
        have h4 : a ≤ a * (n / a) := Nat.le_mul_of_pos_right _ h3
        omega
      have hb : n % a * a < 2 ^ k := by
        have h5 : 2 * (n % a) * a < n * a := Nat.mul_lt_mul_of_pos_right h2 hapos
        have e1 : 2 * (n % a) * a = 2 * (n % a * a) := by ring
        have e2 : n * a = a * n := Nat.mul_comm _ _
        rw [pow_succ] at h; omega
      rw [ih (n % a) a _ ha2 hlt hb]
      have key := jacobiSym.quadratic_reciprocity_if (a := a) (b := n) ha2 hn
      rw [← key, jacobiSym.mod_left (n : Int) a, Int.natCast_mod]
      split_ifs <;> simp

/-- `goJacobi` starts `jacobiAux` with `4·log2 n + 8` units of fuel on `a mod n < n`. Since `n < 2^(log2 n + 1)`, the
initial measure `(a mod n) · n` is below `2^(2·log2 n + 2) ≤ 2^(4·log2 n + 7)`, one unit less than the fuel, as
`jacobiAux_spec` needs. -/
theorem goJacobi_eq_jacobiSym (a : Int) {n : Nat} (hn : n % 2 = 1) : goJacobi a n = .ok J(a | n) := by
  rw [goJacobi_odd a hn]
  have hn0 : (0 : Int) < n := by omega
  have h0 : 0 ≤ a % (n : Int) := Int.emod_nonneg _ (ne_of_gt hn0)
  have hlt : (a % (n : Int)).toNat < n := emod_toNat_lt a (by omega)
  have hbound : (a % (n : Int)).toNat * n < 2 ^ (4 * n.log2 + 7) := by
    have hl : n < 2 ^ (n.log2 + 1) := Nat.lt_log2_self
    have h3 : (a % (n : Int)).toNat * n < 2 ^ (n.log2 + 1) * 2 ^ (n.log2 + 1) :=
      Nat.mul_lt_mul'' (by omega) hl
    rw [← pow_add] at h3
    exact lt_of_lt_of_le h3 (Nat.pow_le_pow_right (by omega) (by omega))
  rw [show 4 * n.log2 + 8 = (4 * n.log2 + 7) + 1 from rfl, jacobiAux_spec _ _ _ _ hn hlt hbound,
    Int.toNat_of_nonneg h0, ← jacobiSym.mod_left, one_mul]

/-- the fourth-root exponent works in any monoid: if `c^a = 1`, `a ∣ φ` and `4e² = a·r + 1` then
`(c^(e² mod φ))^4 = c` -/
theorem pow_four_expo {M : Type} [Monoid M] (c : M) {a phi e m r : Nat} (hc : c ^ a = 1) (hphi : phi = a * m)
    (he : 4 * (e * e) = a * r + 1) : (c ^ (e * e % phi)) ^ 4 = c := by
  have hphi1 : c ^ phi = 1 := by rw [hphi, pow_mul, hc, one_pow]
  have key : c ^ (4 * (e * e)) = c := by rw [he, pow_succ, pow_mul, hc, one_pow, one_mul]
  have hdm : phi * (e * e / phi) + e * e % phi = e * e := Nat.div_add_mod _ _
  calc (c ^ (e * e % phi)) ^ 4 = c ^ (4 * (e * e % phi)) := by rw [← pow_mul, mul_comm]
    _ = (c ^ phi) ^ (4 * (e * e / phi)) * c ^ (4 * (e * e % phi)) := by rw [hphi1, one_pow, one_mul]
    _ = c ^ (4 * (e * e)) := by
      rw [← pow_mul, ← pow_add]; congr 1
      generalize e * e / phi = k at hdm
      generalize e * e % phi = r' at hdm
      rw [← hdm]; ring
    _ = c := key

/-- arithmetic of the exponent for `p = 2a+1`, `q = 2b+1` with `a`, `b` odd: `φ = 4ab`, `(φ+4)/8 = (ab+1)/2`, and
`4·((ab+1)/2)² = (ab+1)² = ab·(ab+2) + 1` -/
theorem expo_arith {a b : Nat} (ha : a % 2 = 1) (hb : b % 2 = 1) :
    4 * (((2 * a * (2 * b) + 4) / 8) * ((2 * a * (2 * b) + 4) / 8)) = a * (b * (a * b + 2)) + 1 := by
  have ht : (a * b) % 2 = 1 := by rw [Nat.mul_mod, ha, hb]
  have e1 : 2 * a * (2 * b) = 4 * (a * b) := by ring
  rw [e1]
  have h2e : 2 * ((4 * (a * b) + 4) / 8) = a * b + 1 := by omega
  generalize (4 * (a * b) + 4) / 8 = e at h2e
  have : 4 * (e * e) = (2 * e) * (2 * e) := by ring
  rw [this, h2e]; ring

/-- Euler's criterion for the model's Jacobi computation modulo an odd prime -/
theorem jacobi_iff_zmod {p : Nat} [Fact p.Prime] (hp2 : p % 2 = 1) (c : Nat) :
    goJacobi (c : Int) p = .ok 1 ↔ (c : ZMod p) ^ (p / 2) = 1 := by
  have h2p : Fact (2 < p) := ⟨by have := (Fact.out : p.Prime).two_le; omega⟩
  rw [goJacobi_eq_jacobiSym _ hp2, Outcome.ok.injEq, ← jacobiSym.legendreSym.to_jacobiSym]
  have e := legendreSym.eq_pow p (c : Int)
  rw [Int.cast_natCast] at e
  constructor
  · intro h
    rw [h] at e
    rw [← e]; simp
  · intro h
    rw [h] at e
    rcases jacobiSym.trichotomy (c : Int) p with h0 | h1 | h1
    · rw [← jacobiSym.legendreSym.to_jacobiSym] at h0
      rw [h0] at e
      simp at e
    · rw [← jacobiSym.legendreSym.to_jacobiSym] at h1; exact h1
    · rw [← jacobiSym.legendreSym.to_jacobiSym] at h1
      rw [h1] at e
      exfalso
      apply ZMod.neg_one_ne_one (n := p)
      simpa using e

/-- the model's Jacobi computation agrees with Euler's criterion modulo the prime `p` (on reduced arguments):
this is a statement about the algorithm `jacobiAux` only -/
def JacobiEuler (p : Nat) : Prop :=
  ∀ c, c < p → (goJacobi (c : Int) p = .ok 1 ↔ c ^ ((p - 1) / 2) ≡ 1 [MOD p])

instance (p : Nat) : Decidable (JacobiEuler p) := by
  unfold JacobiEuler
  refine @Nat.decidableBallLT p _ (fun c _ => ?_)
  infer_instance

theorem jacobiEuler_of_prime {p : Nat} (hp : p.Prime) (hp2 : p % 2 = 1) : JacobiEuler p := fun c _ => by
  have := Fact.mk hp
  rw [jacobi_iff_zmod hp2, ← ZMod.natCast_eq_natCast_iff]
  push_cast
  rw [show (p - 1) / 2 = p / 2 by omega]

theorem zmod_pow_half {p : Nat} [Fact p.Prime] (hp2 : p % 2 = 1) {u : ZMod p} (hu : u ≠ 0) :
    u ^ (p / 2) = 1 ∨ u ^ (p / 2) = -1 := by
  have h := ZMod.pow_card_sub_one_eq_one hu
  have e : p - 1 = p / 2 + p / 2 := by omega
  rw [e, pow_add] at h
  exact mul_self_eq_one_iff.1 h

theorem cast_neg_cand {n p y : Nat} (hn : 0 < n) (hpn : p ∣ n) :
    ((((-1 : Int) * (y : Int) % (n : Int)).toNat : Nat) : ZMod p) = -(y : ZMod p) := by
  have h0 : 0 ≤ (-1 : Int) * (y : Int) % (n : Int) := Int.emod_nonneg _ (by omega)
  have e : ((((-1 : Int) * (y : Int) % (n : Int)).toNat : Nat) : ZMod p) =
      ((((-1 : Int) * (y : Int) % (n : Int)).toNat : Int) : ZMod p) := (Int.cast_natCast _).symm
  rw [e, Int.toNat_of_nonneg h0]
  have : (-1 : Int) * (y : Int) % (n : Int) ≡ -1 * (y : Int) [ZMOD (p : Int)] :=
    (Int.mod_modEq _ _).of_dvd (Int.natCast_dvd_natCast.2 hpn)
  rw [(ZMod.intCast_eq_intCast_iff _ _ _).2 this]
  push_cast; ring

theorem cast_mul_mod {n p : Nat} (a b : Nat) (hpn : p ∣ n) : ((a * b % n : Nat) : ZMod p) = (a : ZMod p) * b := by
  have : a * b % n ≡ a * b [MOD p] := (Nat.mod_modEq _ _).of_dvd hpn
  rw [(ZMod.natCast_eq_natCast_iff _ _ _).2 this]; push_cast; rfl

theorem modCand_cast {n p : Nat} (w y j : Nat) (hn : 0 < n) (hpn : p ∣ n) :
    ((modCand n w y j : Nat) : ZMod p) =
      (if j / 2 % 2 > 0 then (w : ZMod p) else 1) * ((if j % 2 > 0 then -1 else 1) * (y : ZMod p)) := by
  unfold modCand
  simp only
  by_cases h1 : j / 2 % 2 > 0 <;> by_cases h2 : j % 2 > 0 <;>
    simp only [h1, h2, if_true, if_false, cast_mul_mod _ _ hpn, cast_neg_cand hn hpn] <;> ring

/-- the quadratic character `χ(c) = c^{(p-1)/2}` modulo a prime `p ≡ 3 (mod 4)` dividing `n`, on the four candidates:
`χ(−1) = −1`, so `χ(±w^b·y) = χ(w)^b · (±1) · χ(y)` -/
theorem cand_chi {n p : Nat} (w y j : Nat) (hn : 0 < n) (hpn : p ∣ n) (hp4 : p % 4 = 3) :
    ((modCand n w y j : Nat) : ZMod p) ^ (p / 2) =
      (if j / 2 % 2 > 0 then (w : ZMod p) ^ (p / 2) else 1) *
        ((if j % 2 > 0 then -1 else 1) * (y : ZMod p) ^ (p / 2)) := by
  have hodd : Odd (p / 2) := Nat.odd_iff.2 (by omega)
  rw [modCand_cast w y j hn hpn, mul_pow, mul_pow]
  by_cases h1 : j / 2 % 2 > 0 <;> by_cases h2 : j % 2 > 0 <;>
    simp only [h1, h2, if_true, if_false, one_pow, hodd.neg_one_pow]

/-- one of `y, -y, w·y, -w·y` has character `(1, 1)` when `-1` has `(-1,-1)` and `w` has `(1,-1)` or `(-1,1)` -/
theorem pick_exists {R S : Type} [CommRing R] [CommRing S] {W Y : R} {W' Y' : S}
    (hW : (W = 1 ∧ W' = -1) ∨ (W = -1 ∧ W' = 1)) (hY : Y = 1 ∨ Y = -1) (hY' : Y' = 1 ∨ Y' = -1) :
    ∃ j, j < 4 ∧ (if j / 2 % 2 > 0 then W else 1) * ((if j % 2 > 0 then -1 else 1) * Y) = 1 ∧
      (if j / 2 % 2 > 0 then W' else 1) * ((if j % 2 > 0 then -1 else 1) * Y') = 1 := by
  rcases hW with ⟨rfl, rfl⟩ | ⟨rfl, rfl⟩ <;> rcases hY with rfl | rfl <;> rcases hY' with rfl | rfl
  · exact ⟨0, by norm_num, by norm_num, by norm_num⟩
  · exact ⟨2, by norm_num, by norm_num, by norm_num⟩
  · exact ⟨3, by norm_num, by norm_num, by norm_num⟩
  · exact ⟨1, by norm_num, by norm_num, by norm_num⟩
  · exact ⟨0, by norm_num, by norm_num, by norm_num⟩
  · exact ⟨3, by norm_num, by norm_num, by norm_num⟩
  · exact ⟨2, by norm_num, by norm_num, by norm_num⟩
  · exact ⟨1, by norm_num, by norm_num, by norm_num⟩

theorem modExpo_comm (p q : Nat) : modExpo p q = modExpo q p := by
  unfold modExpo; rw [Nat.mul_comm (p - 1) (q - 1)]

theorem fourth_root_zmod {p q : Nat} (hp4 : p % 4 = 3) (hq4 : q % 4 = 3) (c : ZMod p) (hc : c ^ (p / 2) = 1) :
    (c ^ modExpo p q) ^ 4 = c := by
  unfold modExpo
  have hp1 : p - 1 = 2 * (p / 2) := by omega
  have hq1 : q - 1 = 2 * (q / 2) := by omega
  rw [hp1, hq1]
  exact pow_four_expo c hc (m := 2 * (2 * (q / 2))) (r := (q / 2) * (p / 2 * (q / 2) + 2)) (by ring)
    (expo_arith (by omega) (by omega))

theorem natCast_ne_zero_of_coprime {n p y : Nat} (hp : p.Prime) (hpn : p ∣ n) (hy : Nat.Coprime y n) :
    (y : ZMod p) ≠ 0 := by
  rw [Ne, ZMod.natCast_eq_zero_iff]
  intro h
  have := Nat.dvd_gcd h hpn
  rw [hy] at this
  exact hp.one_lt.ne' (Nat.dvd_one.1 this)

/-- `FourthRootFact` holds for Blum integers when `w` is a residue modulo exactly one of the two primes -/
theorem fourthRootFact_of_residue_mod_one_prime {n p q w : Nat} (hn : n = p * q) (hp : p.Prime) (hq : q.Prime) (hpq : p ≠ q)
    (hp4 : p % 4 = 3) (hq4 : q % 4 = 3) (hwc : Nat.Coprime w n)
    (hw : (goJacobi (w : Int) p = .ok 1 ∧ goJacobi (w : Int) q ≠ .ok 1) ∨
          (goJacobi (w : Int) p ≠ .ok 1 ∧ goJacobi (w : Int) q = .ok 1)) :
    FourthRootFact n p q w := by
  have := Fact.mk hp
  have := Fact.mk hq
  have hp2 : p % 2 = 1 := by omega
  have hq2 : q % 2 = 1 := by omega
  have hpn : p ∣ n := ⟨q, hn⟩
  have hqn : q ∣ n := ⟨p, by rw [hn, Nat.mul_comm]⟩
  have hn0 : 0 < n := hn ▸ Nat.mul_pos hp.pos hq.pos
  have hW : ((w : ZMod p) ^ (p / 2) = 1 ∧ (w : ZMod q) ^ (q / 2) = -1) ∨
      ((w : ZMod p) ^ (p / 2) = -1 ∧ (w : ZMod q) ^ (q / 2) = 1) := by
    simp only [ne_eq, jacobi_iff_zmod hp2, jacobi_iff_zmod hq2] at hw
    rcases hw with ⟨h1, h2⟩ | ⟨h1, h2⟩
    · exact Or.inl ⟨h1, (zmod_pow_half hq2 (natCast_ne_zero_of_coprime hq hqn hwc)).resolve_left h2⟩
    · exact Or.inr ⟨(zmod_pow_half hp2 (natCast_ne_zero_of_coprime hp hpn hwc)).resolve_left h1, h2⟩
  intro y hy hyc
  constructor
  · obtain ⟨j, hj, h1, h2⟩ := pick_exists hW (zmod_pow_half hp2 (natCast_ne_zero_of_coprime hp hpn hyc))
      (zmod_pow_half hq2 (natCast_ne_zero_of_coprime hq hqn hyc))
    refine ⟨j, hj, ?_, ?_⟩
    · rw [jacobi_iff_zmod hp2, cand_chi w y j hn0 hpn hp4]; exact h1
    · rw [jacobi_iff_zmod hq2, cand_chi w y j hn0 hqn hq4]; exact h2
  · intro j _ h1 h2
    rw [jacobi_iff_zmod hp2] at h1
    rw [jacobi_iff_zmod hq2] at h2
    have e1 := fourth_root_zmod hp4 hq4 _ h1
    have e2 := fourth_root_zmod hq4 hp4 _ h2
    rw [← modExpo_comm] at e2
    rw [hn, ← Nat.modEq_and_modEq_iff_modEq_mul ((Nat.coprime_primes hp hq).2 hpq)]
    constructor
    · rw [← ZMod.natCast_eq_natCast_iff]; push_cast; rw [← hn]; exact e1
    · rw [← ZMod.natCast_eq_natCast_iff]; push_cast; rw [← hn]; exact e2

/-- **`FourthRootFact` is a theorem for Blum integers** `n = p·q`, `p ≡ q ≡ 3 (mod 4)`, and `w` with Jacobi symbol
`-1` modulo `n` (as computed by the model's `goJacobi`, which is what `GetRandomQuadraticNonResidue` tests) -/
theorem fourthRootFact_of_blum {n p q w : Nat} (hn : n = p * q) (hp : p.Prime) (hq : q.Prime) (hpq : p ≠ q)
    (hp4 : p % 4 = 3) (hq4 : q % 4 = 3) (hj : goJacobi (w : Int) n = .ok (-1)) :
    FourthRootFact n p q w ∧ Nat.Coprime w n := by
  have hp2 : p % 2 = 1 := by omega
  have hq2 : q % 2 = 1 := by omega
  have hn2 : n % 2 = 1 := by rw [hn, Nat.mul_mod, hp2, hq2]
  rw [goJacobi_eq_jacobiSym _ hn2, Outcome.ok.injEq] at hj
  have hmul : J((w : Int) | n) = J((w : Int) | p) * J((w : Int) | q) := by
    rw [hn]; exact jacobiSym.mul_right' _ hp.ne_zero hq.ne_zero
  have hwc : Nat.Coprime w n := by
    have : NeZero n := ⟨by omega⟩
    by_contra hc
    have h0 : J((w : Int) | n) = 0 := jacobiSym.eq_zero_iff_not_coprime.2 (by
      rw [Int.gcd_natCast_natCast]; exact hc)
    rw [h0] at hj; exact absurd hj (by decide)
  refine ⟨fourthRootFact_of_residue_mod_one_prime hn hp hq hpq hp4 hq4 hwc ?_, hwc⟩
  rw [goJacobi_eq_jacobiSym _ hp2, goJacobi_eq_jacobiSym _ hq2]
  simp only [ne_eq, Outcome.ok.injEq]
  rw [hmul] at hj
  rcases jacobiSym.trichotomy (w : Int) p with h | h | h <;>
    rcases jacobiSym.trichotomy (w : Int) q with h' | h' | h' <;>
    rw [h, h'] at hj <;> simp only [h, h'] <;> revert hj <;> decide

/-- **Completeness of the Paillier-Blum modulus proof** with the number theory proved: `n = p·q` a Blum integer
with `gcd(n, φ(n)) = 1`, `0 ≤ w < n` with Jacobi symbol `-1`, `n` recognised as composite by the model's
Miller–Rabin, and unit challenges. -/
theorem mod_complete (H : HashFn) (sess : Bytes) (n p q w : Nat)
    (hn : n = p * q) (hp : p.Prime) (hq : q.Prime) (hpq : p ≠ q) (hp4 : p % 4 = 3) (hq4 : q % 4 = 3)
    (hcop : Nat.Coprime n ((p - 1) * (q - 1)))
    (hwn : w < n)
    (hj : goJacobi (w : Int) n = .ok (-1))
    (hcomp : isProbablyPrime n = false)
    (hg : ModGood H sess n w) :
    (modProve H sess n p q w >>= fun pf =>
      modVerify cur H sess (pf.1 : Int) (pf.2.1.map Int.ofNat) (pf.2.2.1 : Int) (pf.2.2.2.1 : Int)
        (pf.2.2.2.2.map Int.ofNat) (n : Int)) = .ok true := by
  obtain ⟨hroot, hwc⟩ := fourthRootFact_of_blum hn hp hq hpq hp4 hq4 hj
  exact mod_complete_partial H sess n p q w hn hp hq hpq hcop hwn hwc ⟨-1, hj, by decide⟩ hcomp hroot hg

/-! ### the hypotheses are satisfiable: `n = 7 · 11`, `w = 2`, constant hash (all `Y_i = 3`) -/

theorem modGood_77 : ModGood (fun _ => [3]) [] 77 2 := by decide +kernel

/-- all hypotheses of `mod_complete` hold for the toy instance -/
theorem mod_complete_77' :
    (modProve (fun _ => [3]) [] 77 7 11 2 >>= fun pf =>
      modVerify cur (fun _ => [3]) [] (pf.1 : Int) (pf.2.1.map Int.ofNat) (pf.2.2.1 : Int) (pf.2.2.2.1 : Int)
        (pf.2.2.2.2.map Int.ofNat) ((77 : Nat) : Int)) = .ok true :=
  mod_complete (fun _ => [3]) [] 77 7 11 2 (by decide) (by decide) (by decide) (by decide) (by decide) (by decide)
    (by decide) (by decide) (by decide +kernel) (by decide +kernel) modGood_77

/-- the same run; `mod_complete` is `mod_complete_partial` with its `FourthRootFact` hypothesis discharged, so the
hypotheses of `mod_complete_partial` hold for the toy instance as well -/
theorem mod_complete_77 :
    (modProve (fun _ => [3]) [] 77 7 11 2 >>= fun pf =>
      modVerify cur (fun _ => [3]) [] (pf.1 : Int) (pf.2.1.map Int.ofNat) (pf.2.2.1 : Int) (pf.2.2.2.1 : Int)
        (pf.2.2.2.2.map Int.ofNat) ((77 : Nat) : Int)) = .ok true :=
  mod_complete_77'

/-- what the prover sends on the toy instance: all roots `13`, all `z_i = 5`, `A = B = 2^81 − 1` -/
theorem modProve_77 : modProve (fun _ => [3]) [] 77 7 11 2 =
    .ok (2, List.replicate 80 13, 2 ^ 81 - 1, 2 ^ 81 - 1, List.replicate 80 5) := by decide +kernel

example :
    (modProve (fun _ => [3]) [] 77 7 11 2 >>= fun pf =>
      modVerify cur (fun _ => [3]) [] (pf.1 : Int) (pf.2.1.map Int.ofNat) (pf.2.2.1 : Int) (pf.2.2.2.1 : Int)
        (pf.2.2.2.2.map Int.ofNat) ((77 : Nat) : Int)) = .ok true := mod_complete_77'

end TssVerif.C10L
