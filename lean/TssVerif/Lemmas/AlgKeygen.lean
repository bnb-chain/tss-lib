import TssVerif.Lemmas.AlgShare
import TssVerif.Lemmas.VssVerify
import TssVerif.Lemmas.VssReconstruct
import TssVerif.Lemmas.C17
/-! Joint-Feldman key generation and resharing: the sum of verified shares matches the public share point
of the combined commitments; the sum polynomial; what an accepting `Vss.verify` says about ARBITRARY
commitment points; Lagrange interpolation "in the exponent". -/
set_option autoImplicit false
set_option linter.style.haveILetI false
namespace TssVerif.AlgL
open TssVerif Polynomial

variable {P : Type} {C : Curve P}

/-- the share a party with id `id` ends up with: the sum of the evaluations it received, reduced
(`round.save.Xi`) -/
def share (q : ℕ) {ι : Type} (ds : List ι) (f : ι → List ℕ) (id : ℕ) : ℕ :=
  (ds.map fun i => Vss.evalPoly q (f i) id).sum % q

/-- the combined commitment vector `Vc[c] = Σ_i V_i[c]` -/
def combined (C : Curve P) {ι : Type} (ds : List ι) (Vi : ι → ℕ → P) : ℕ → P :=
  fun c => psum C (ds.map fun i => Vi i c)

/-- the commitment vector of an honest dealer with coefficients `f i` -/
def honestCommit (C : Curve P) {ι : Type} (f : ι → List ℕ) : ι → ℕ → P :=
  fun i c => C.smul ((f i).getD c 0) C.base

/-- the point a received coordinate pair denotes (`zero` if it is not on the curve) -/
def liftD (C : Curve P) (v : ECPoint) : P := (C.lift v).getD C.zero

/-- **verification alone gives consistency**: if every dealt share `s i` satisfies the Feldman equation
against the dealer's commitment vector `Vi i` (arbitrary points), the sum of the shares, reduced, matches
the public share point of the combined commitments (`combined`, written out) -/
theorem feldman_sum (hC : C.Lawful) {ι : Type} (ds : List ι) (s : ι → ℕ) (Vi : ι → ℕ → P) (t id : ℕ)
    (h : ∀ i ∈ ds, C.smul (s i) C.base = pubShare C (Vi i) t id) :
    C.smul ((ds.map s).sum % C.q) C.base =
      pubShare C (fun c => psum C (ds.map fun i => Vi i c)) t id := by
  rw [← hC.smul_base_mod, pubShare_psum hC, ← psum_smul_left hC, List.map_congr_left h]

/-- `F = Σ_i f_i` over `ZMod q`, the `f_i` given by coefficient lists -/
noncomputable def sumPoly (q : ℕ) {ι : Type} (ds : List ι) (f : ι → List ℕ) : (ZMod q)[X] :=
  (ds.map fun i => Vss.polyZ q (f i)).sum

theorem sumPoly_eval {q : ℕ} {ι : Type} (ds : List ι) (f : ι → List ℕ) (x : ZMod q) :
    (sumPoly q ds f).eval x = (ds.map fun i => (Vss.polyZ q (f i)).eval x).sum := by
  unfold sumPoly
  induction ds with
  | nil => simp
  | cons i ds ih => simp only [List.map_cons, List.sum_cons, eval_add, ih]

theorem sumPoly_degree_lt {q : ℕ} {ι : Type} (ds : List ι) (f : ι → List ℕ) (m : ℕ)
    (h : ∀ i ∈ ds, (f i).length ≤ m) : (sumPoly q ds f).degree < (m : ℕ) := by
  unfold sumPoly
  induction ds with
  | nil => exact WithBot.bot_lt_coe _
  | cons i ds ih =>
    rw [List.map_cons, List.sum_cons]
    exact lt_of_le_of_lt (degree_add_le _ _) (max_lt
      (lt_of_lt_of_le (Vss.polyZ_degree_lt _) (by exact_mod_cast h i (List.mem_cons_self ..)))
      (ih fun j hj => h j (List.mem_cons_of_mem _ hj)))

theorem share_cast {q : ℕ} {ι : Type} (ds : List ι) (f : ι → List ℕ) (hne : ∀ i ∈ ds, f i ≠ [])
    (id : ℕ) :
    ((((ds.map fun i => Vss.evalPoly q (f i) id).sum % q : ℕ)) : ZMod q) =
      (sumPoly q ds f).eval (id : ZMod q) := by
  rw [ZMod.natCast_mod, sumPoly_eval]
  induction ds with
  | nil => simp
  | cons i ds ih =>
    simp only [List.map_cons, List.sum_cons, Nat.cast_add]
    rw [ih (fun j hj => hne j (List.mem_cons_of_mem _ hj))]
    congr 1
    obtain ⟨a0, as, h⟩ := List.exists_cons_of_ne_nil (hne i (List.mem_cons_self ..))
    rw [h, Vss.evalPoly_eval]

theorem share_eq_val {q : ℕ} [Fact q.Prime] {ι : Type} (ds : List ι) (f : ι → List ℕ)
    (hne : ∀ i ∈ ds, f i ≠ []) (id : ℕ) :
    (ds.map fun i => Vss.evalPoly q (f i) id).sum % q = ((sumPoly q ds f).eval (id : ZMod q)).val := by
  rw [← share_cast ds f hne id, ZMod.val_natCast, Nat.mod_mod]

theorem sumPoly_eval_zero {q : ℕ} {ι : Type} (ds : List ι) (f : ι → List ℕ) :
    (sumPoly q ds f).eval 0 = (((ds.map fun i => (f i).getD 0 0).sum : ℕ) : ZMod q) := by
  rw [sumPoly_eval]
  induction ds with
  | nil => simp
  | cons i ds ih =>
    simp only [List.map_cons, List.sum_cons, Nat.cast_add, ih]
    congr 1
    rw [← coeff_zero_eq_eval_zero, Vss.polyZ_coeff]

theorem toAffine_of_lift (hC : C.Lawful) {a : P} {v : ECPoint} (h : C.lift v = some a) :
    C.toAffine a = some v :=
  hC.toAffine_of_lift h

theorem verifyLoop_cons_ok (hC : C.Lawful) {id t : ℕ} {vj v v' : ECPoint} {rest : List ECPoint}
    (h : Vss.verifyLoop C id (vj :: rest) t v = .ok (some v')) :
    ∃ pj pv v1, C.lift vj = some pj ∧ C.lift v = some pv ∧
      C.toAffine (C.add pv (C.smul (t * id % C.q) pj)) = some v1 ∧
      Vss.verifyLoop C id rest (t * id % C.q) v1 = .ok (some v') := by
  rw [Vss.verifyLoop] at h
  cases hs : C.ecScalarMult vj ((t * id % C.q : ℕ) : Int) with
  | err e => rw [hs] at h; cases h
  | panic e => rw [hs] at h; cases h
  | ok vjt =>
    rw [hs] at h
    simp only at h
    cases ha : C.ecAdd v vjt with
    | err e => rw [ha] at h; cases h
    | panic e => rw [ha] at h; cases h
    | ok v1 =>
      rw [ha] at h
      obtain ⟨pj, hpj, hr⟩ := ((C17L.ecScalarMult_outcomes C vj _).2.2 vjt).1 hs
      obtain ⟨pv, pb, hpv, hpb, hr1⟩ := (C17L.ecAdd_ok_iff C v vjt v1).1 ha
      rw [Int.natAbs_natCast] at hr
      rw [hC.lift_of_toAffine hr] at hpb
      cases hpb
      exact ⟨pj, pv, v1, hpj, hpv, hr1, h⟩

theorem verifyLoop_some (hC : C.Lawful) (id : ℕ) : ∀ (vs : List ECPoint) (t : ℕ) (v v' : ECPoint) (p' : P),
    C.lift v' = some p' → Vss.verifyLoop C id vs t v = .ok (some v') →
    ∃ (pv : P) (pts : List P), C.lift v = some pv ∧
      List.Forall₂ (fun v p => C.lift v = some p) vs pts ∧ p' = accLoop C id pts t pv := by
  intro vs
  induction vs with
  | nil =>
    intro t v v' p' hp' h
    cases h
    exact ⟨p', [], hp', List.Forall₂.nil, rfl⟩
  | cons vj rest ih =>
    intro t v v' p' hp' h
    obtain ⟨pj, pv, v1, hpj, hpv, hr, h'⟩ := verifyLoop_cons_ok hC h
    obtain ⟨pv1, pts, hpv1, hpts, hres⟩ := ih (t * id % C.q) v1 v' p' hp' h'
    rw [hC.lift_of_toAffine hr] at hpv1
    cases hpv1
    exact ⟨pv, pj :: pts, hpv, List.Forall₂.cons hpj hpts, hres⟩

/-- **what an accepted share tells, whatever the dealer sent**: the commitments are points of the
curve (`V`), there are `t+1` of them, and `share·G = V_0 + Σ_{c=1..t} (id^c mod q)·V_c` -/
theorem verify_true_feldman (hC : C.Lawful) (cfg : Vss.VerifyCfg) (t : ℕ) (sh : Vss.Share)
    (vs : List ECPoint) (h : Vss.verify C cfg t sh vs = .ok true) :
    ∃ V : List P, List.Forall₂ (fun v p => C.lift v = some p) vs V ∧ V.length = t + 1 ∧
      sh.threshold = t ∧
      C.smul sh.share C.base = pubShare C (fun c => V.getD c C.zero) t sh.id := by
  rw [Vss.verify_unfold] at h
  obtain ⟨h1, h⟩ := Outcome.guard_false_eq_true.1 h
  obtain ⟨_, h⟩ := Outcome.guard_false_eq_true.1 h
  simp only [Bool.or_eq_true, bne_iff_ne, ne_eq, not_or, Decidable.not_not] at h1
  obtain ⟨hthr, hlen⟩ := h1
  unfold Vss.verifyTail at h
  cases vs with
  | nil => cases h
  | cons v0 rest =>
    simp only at h
    cases hloop : Vss.verifyLoop C sh.id rest 1 v0 with
    | err e => rw [hloop] at h; cases h
    | panic e => rw [hloop] at h; cases h
    | ok o =>
      rw [hloop] at h
      cases o with
      | none => cases h
      | some v =>
        simp only at h
        cases hbm : C.ecBaseMult (sh.share : Int) with
        | err e => rw [hbm] at h; cases h
        | panic e => rw [hbm] at h; cases h
        | ok sg =>
          rw [hbm] at h
          injection h with h
          -- the accumulated point is `share·G`, which has coordinates
          obtain rfl : sg = v := (Vss.ecEquals_iff sg v).1 h
          obtain ⟨p0, pts, hp0, hpts, hres⟩ :=
            verifyLoop_some hC sh.id rest 1 v0 sg _ (Vss.lift_of_ecBaseMult hC hbm) hloop
          have hpl : pts.length = rest.length := hpts.length_eq.symm
          rw [List.length_cons] at hlen
          refine ⟨p0 :: pts, List.Forall₂.cons hp0 hpts, by rw [List.length_cons]; omega, hthr, ?_⟩
          rw [hres, accLoop_pubShare hC, show pts.length = t by omega]

/-- the interpolation identities `Σ_j λ_j·k_j^c ≡ [c = 0] (mod q)` for `c <` number of ids,
`λ_j = Sign.weight q ks j 1`, on the scalars the loops compute -/
theorem lagrange_coeff_modEq {q : ℕ} [Fact q.Prime] (ks lam : List ℕ)
    (hinj : Set.InjOn (fun j => (ks.getD j 0 : ZMod q)) (Finset.range ks.length : Set ℕ))
    (hlam : ∀ i < ks.length, Sign.weight q ks i 1 = some (lam.getD i 0)) (c : ℕ) (hc : c < ks.length) :
    ((List.range ks.length).map fun j => lam.getD j 0 * zpow q (ks.getD j 0) c).sum ≡
      (if c = 0 then 1 else 0) [MOD q] := by
  have h := sum_eval_mul_weight_one ks (lam.getD · 0) (X ^ c : (ZMod q)[X])
    (by rw [degree_X_pow]; exact_mod_cast hc) hinj hlam
  have e0 : ((if c = 0 then 1 else 0 : ℕ) : ZMod q) = eval 0 (X ^ c : (ZMod q)[X]) := by
    rw [eval_pow, eval_X]
    split
    · next h0 => rw [h0, pow_zero, Nat.cast_one]
    · next h0 => rw [zero_pow h0, Nat.cast_zero]
  rw [← ZMod.natCast_eq_natCast_iff, Nat.cast_list_sum, List.map_map,
    ← List.sum_toFinset _ List.nodup_range, List.toFinset_range, e0, ← h]
  refine Finset.sum_congr rfl fun i _ => ?_
  simp only [Function.comp, Nat.cast_mul, zpow_cast, eval_pow, eval_X, mul_comm]

/-- **interpolation in the exponent**: coefficients `λ_j` with `Σ_j λ_j·k_j^c ≡ [c = 0]` for `c <` number of ids
combine the public share points of any commitment vector of length `≤` that number to its first entry -/
theorem pubShare_interpolate (hC : C.Lawful) (hord : ∀ p, C.smul C.q p = C.zero)
    (V : ℕ → P) (ks lam : List ℕ)
    (hcoef : ∀ c, c < ks.length →
      ((List.range ks.length).map fun j => lam.getD j 0 * zpow C.q (ks.getD j 0) c).sum ≡
        (if c = 0 then 1 else 0) [MOD C.q]) :
    ∀ t, t < ks.length → psum C ((List.range ks.length).map fun j =>
      C.smul (lam.getD j 0) (pubShare C V t (ks.getD j 0))) = V 0 := by
  intro t
  induction t with
  | zero =>
    intro h0
    have : ∀ j, C.smul (lam.getD j 0) (pubShare C V 0 (ks.getD j 0)) =
        C.smul (lam.getD j 0 * zpow C.q (ks.getD j 0) 0) (V 0) := fun j => by
      rw [zpow, Nat.mul_one]
      exact congrArg _ (hC.add_zero _)
    simp only [this]
    rw [psum_smul_left hC, hC.smul_congr_of_order (hord _) (hcoef 0 h0), if_pos rfl, hC.smul_one]
  | succ t ih =>
    intro ht
    simp only [pubShare_succ hC, hC.smul_add_right, ← hC.smul_mul]
    rw [psum_map_add hC, ih (by omega), psum_smul_left hC,
      hC.smul_congr_of_order (hord _) (hcoef (t + 1) ht), if_neg (Nat.succ_ne_zero t)]
    exact hC.add_zero _
theorem forall₂_lift_eq_map {vs : List ECPoint} {V : List P}
    (h : List.Forall₂ (fun v p => C.lift v = some p) vs V) : V = vs.map (liftD C) := by
  induction h with
  | nil => rfl
  | cons h1 _ ih => rw [List.map_cons, ← ih, liftD, h1]; rfl

theorem getD_map_of_lt {α β : Type} (l : List α) (g : α → β) (d : α) (d' : β) {i : ℕ}
    (hi : i < l.length) : (l.map g).getD i d' = g (l.getD i d) := by
  rw [List.getD_eq_getElem?_getD, List.getD_eq_getElem?_getD, List.getElem?_map,
    List.getElem?_eq_getElem hi]
  rfl

theorem forall₂_lift_onCurve {vs : List ECPoint} {V : List P}
    (h : List.Forall₂ (fun v p => C.lift v = some p) vs V) : ∀ v ∈ vs, C.ecIsOnCurve v = true := by
  induction h with
  | nil => intro v hv; cases hv
  | cons h1 _ ih =>
    intro v hv
    rcases List.mem_cons.1 hv with rfl | hv
    · exact Option.isSome_iff_exists.2 ⟨_, h1⟩
    · exact ih v hv

end TssVerif.AlgL
