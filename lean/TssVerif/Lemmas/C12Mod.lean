import TssVerif.Lemmas.C11
import TssVerif.Lemmas.C10Mod
/-! Helper lemmas for the `modproof` non-malleability theorems of `TssVerif/Props/C12.lean`: two different roots in
`(0, N/2]` with the same fourth power modulo an odd `N` (`fourth_root_diff_lt`), and `x² + x'²` coprime to a Blum
integer `N = p·q` for a unit `x` (`blum_coprime_sq_add_sq`). -/
set_option autoImplicit false
namespace TssVerif.C12L
open TssVerif Zk

/-! ## the place of the canonical-root check in `modVerify` -/

/-- without a non-canonical root the canonical-root check changes nothing -/
theorem modVerify_canonical_irrelevant (cfg : Cfg) (H : HashFn) (sess : Bytes) (w : Int) {xs : List Int} (a b : Int)
    (zs : List Int) {n : Int} (hc : (xs.all fun x => decide (2 * x ≤ n)) = true) :
    modVerify { cfg with modCanonicalRoot := false } H sess w xs a b zs n =
      modVerify { cfg with modCanonicalRoot := true } H sess w xs a b zs n := by
  unfold modVerify
  simp only [hc, Bool.not_true, Bool.and_false, Bool.false_eq_true, if_false]

/-- a proof that passes every other check and has a non-canonical root is answered `false` -/
theorem modVerify_canonical_rejects (cfg : Cfg) (H : HashFn) (sess : Bytes) (w : Int) {xs : List Int} (a b : Int)
    (zs : List Int) {n : Int} (hc : (xs.all fun x => decide (2 * x ≤ n)) = false)
    (h : modVerify { cfg with modCanonicalRoot := false } H sess w xs a b zs n = .ok true) :
    modVerify { cfg with modCanonicalRoot := true } H sess w xs a b zs n = .ok false := by
  unfold modVerify at h ⊢
  simp only [Outcome.guard_false_eq_true, Outcome.bind_eq_ok, Bool.false_and, Bool.false_eq_true,
    not_false_eq_true, true_and] at h
  obtain ⟨g1, g2, j, hj, g3, g4, g5, g6, g7, -⟩ := h
  simp only [g1, g2, hj, g3, g4, g5, g6, g7, hc, if_false, Outcome.ok_bind, Bool.true_and, Bool.not_false, if_true,
    Bool.false_eq_true]
/-! ## two fourth roots in the canonical range -/

theorem fourth_pow_sub {x d : Nat} : (x + d) ^ 4 - x ^ 4 = (x + (x + d)) * d * (x ^ 2 + (x + d) ^ 2) := by
  apply Nat.sub_eq_of_eq_add
  ring

theorem fourth_root_diff_lt {n x x' : Nat} (hn : n % 2 = 1) (hx : 0 < x) (hx2 : 2 * x ≤ n) (hx2' : 2 * x' ≤ n)
    (hlt : x < x') (h4 : x ^ 4 % n = x' ^ 4 % n) :
    n ∣ (x + x') * (x' - x) * (x ^ 2 + x' ^ 2) ∧ ¬ n ∣ x + x' ∧ ¬ n ∣ x' - x := by
  refine ⟨?_, ?_, ?_⟩
  · obtain ⟨d, rfl⟩ : ∃ d, x' = x + d := ⟨x' - x, by omega⟩
    have h := (Nat.modEq_iff_dvd' (Nat.pow_le_pow_left (Nat.le_add_right x d) 4)).1 h4
    rw [fourth_pow_sub] at h
    rw [Nat.add_sub_cancel_left]
    exact h
  · intro h
    have := Nat.eq_zero_of_dvd_of_lt h (by omega)
    omega
  · intro h
    have := Nat.eq_zero_of_dvd_of_lt h (by omega)
    omega

/-- `−1` is not a square modulo a prime `p ≡ 3 (mod 4)`: `p ∤ x² + x'²` unless `p ∣ x` -/
theorem blum_not_dvd_sq_add_sq {p x x' : Nat} (hp : p.Prime) (hp4 : p % 4 = 3) (hx : ¬ p ∣ x) :
    ¬ p ∣ x ^ 2 + x' ^ 2 := by
  intro h
  have := Fact.mk hp
  have hx0 : (x : ZMod p) ≠ 0 := by rwa [Ne, ZMod.natCast_eq_zero_iff]
  have e : ((x ^ 2 + x' ^ 2 : Nat) : ZMod p) = 0 := (ZMod.natCast_eq_zero_iff _ _).2 h
  push_cast at e
  exact ZMod.mod_four_ne_three_of_sq_eq_neg_sq hx0 (eq_neg_of_add_eq_zero_left e) hp4

theorem blum_coprime_sq_add_sq {n p q x x' : Nat} (hn : n = p * q) (hp : p.Prime) (hq : q.Prime)
    (hp4 : p % 4 = 3) (hq4 : q % 4 = 3) (hxc : Nat.Coprime x n) : Nat.Coprime n (x ^ 2 + x' ^ 2) := by
  have hpx : ¬ p ∣ x := fun h => by
    have := Nat.dvd_gcd h (⟨q, hn⟩ : p ∣ n)
    rw [hxc] at this
    exact hp.one_lt.ne' (Nat.dvd_one.1 this)
  have hqx : ¬ q ∣ x := fun h => by
    have := Nat.dvd_gcd h (⟨p, by rw [hn, Nat.mul_comm]⟩ : q ∣ n)
    rw [hxc] at this
    exact hq.one_lt.ne' (Nat.dvd_one.1 this)
  rw [hn]
  exact Nat.Coprime.mul_left ((Nat.Prime.coprime_iff_not_dvd hp).2 (blum_not_dvd_sq_add_sq hp hp4 hpx))
    ((Nat.Prime.coprime_iff_not_dvd hq).2 (blum_not_dvd_sq_add_sq hq hq4 hqx))

end TssVerif.C12L
