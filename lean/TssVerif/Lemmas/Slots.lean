import TssVerif.Core.Engine2
/-! The message store shared by the two round engines: one slot per (type, sender). Stated for `Engine2.sat` and
`Engine2.putSelf`; `Engine.putSelf` is the same function and `Engine.sat r` is `Engine2.sat r.needs`
(`EngineL.sat_eq`), so the one-committee engine uses these lemmas as they are. Core Lean only. -/
set_option autoImplicit false
namespace TssVerif.Slots
open TssVerif.Engine (Slot)

abbrev Store := Nat → Nat → Option Slot

/-- what `StoreMessage` does to the store -/
def setSlot (t j : Nat) (s : Slot) (st : Store) : Store := fun t' j' => if t' = t ∧ j' = j then some s else st t' j'

theorem setSlot_same (t j : Nat) (s : Slot) (st : Store) : setSlot t j s st t j = some s := by simp [setSlot]

theorem setSlot_other {t j t' j' : Nat} (s : Slot) (st : Store) (h : ¬ (t' = t ∧ j' = j)) :
    setSlot t j s st t' j' = st t' j' := by
  unfold setSlot; rw [if_neg h]

theorem setSlot_comm {t j t' j' : Nat} (s s' : Slot) (st : Store) (hne : ¬ (t = t' ∧ j = j')) :
    setSlot t j s (setSlot t' j' s' st) = setSlot t' j' s' (setSlot t j s st) := by
  funext a b
  unfold setSlot
  by_cases h1 : a = t ∧ b = j <;> by_cases h2 : a = t' ∧ b = j'
  · exact absurd ⟨h1.1 ▸ h2.1, h1.2 ▸ h2.2⟩ hne
  · rw [if_pos h1, if_neg h2, if_pos h1]
  · rw [if_neg h1, if_pos h2, if_pos h2]
  · rw [if_neg h1, if_neg h2, if_neg h2, if_neg h1]

theorem setSlot_idem (t j : Nat) (s : Slot) (st : Store) : setSlot t j s (setSlot t j s st) = setSlot t j s st := by
  funext a b
  unfold setSlot
  by_cases h1 : a = t ∧ b = j <;> simp [h1]

theorem sat_iff (needs : List (Nat × Bool)) (store : Store) (j : Nat) :
    Engine2.sat needs store j = true ↔ ∀ tf ∈ needs, ∃ s, store tf.1 j = some s ∧ s.flag = tf.2 := by
  unfold Engine2.sat
  rw [List.all_eq_true]
  constructor
  · intro h tf htf
    have := h tf htf
    split at this
    · rename_i s hs
      exact ⟨s, hs, by simpa using this⟩
    · cases this
  · intro h tf htf
    obtain ⟨s, hs, hf⟩ := h tf htf
    rw [hs]; simp [hf]

/-- a slot stored with the flag every requirement on its type asks for keeps satisfied senders satisfied -/
theorem sat_setSlot {needs : List (Nat × Bool)} {t j' : Nat} {s : Slot} {st : Store}
    (hg : ∀ tf ∈ needs, tf.1 = t → tf.2 = s.flag) (j : Nat) (h : Engine2.sat needs st j = true) :
    Engine2.sat needs (setSlot t j' s st) j = true := by
  rw [sat_iff] at *
  intro tf htf
  by_cases hc : tf.1 = t ∧ j = j'
  · rw [hc.1, hc.2, setSlot_same]
    exact ⟨s, rfl, (hg tf htf hc.1).symm⟩
  · rw [setSlot_other s st hc]; exact h tf htf

/-- `Start` writes the own slots for its own types; a message for any other slot commutes with it -/
theorem putSelf_setSlot (self k : Nat) (ss : List (Nat × Bool)) {t j : Nat} (s : Slot)
    (hm : ¬ (j = self ∧ (ss.any fun tf => tf.1 == t) = true)) (st : Store) :
    Engine2.putSelf self k ss (setSlot t j s st) = setSlot t j s (Engine2.putSelf self k ss st) := by
  funext a b
  simp only [Engine2.putSelf, setSlot]
  by_cases h1 : b = self ∧ (ss.any fun tf => tf.1 == a) = true
  · have : ¬ (a = t ∧ b = j) := by
      rintro ⟨rfl, h3⟩
      exact hm ⟨h3 ▸ h1.1, h1.2⟩
    rw [if_pos h1, if_neg this, if_pos h1]
  · rw [if_neg h1, if_neg h1]

/-- own copies of everything in `needs`, written by `Start`, satisfy the own share of the requirement -/
theorem sat_putSelf_self {needs ss : List (Nat × Bool)} (self k : Nat) (st : Store)
    (h : ∀ tf ∈ needs, ss.find? (fun x => x.1 == tf.1) = some tf) :
    Engine2.sat needs (Engine2.putSelf self k ss st) self = true := by
  rw [sat_iff]
  intro tf htf
  have hf := h tf htf
  have hany : (ss.any fun x => x.1 == tf.1) = true :=
    List.any_eq_true.mpr ⟨tf, List.mem_of_find?_eq_some hf, by simp⟩
  unfold Engine2.putSelf
  rw [if_pos ⟨rfl, hany⟩, hf]
  exact ⟨_, rfl, rfl⟩

end TssVerif.Slots
