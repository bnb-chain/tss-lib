import TssVerif.Lemmas.EngineOrder
/-! What a party waits for, what a wrong-flag message does, when a round advances, and how often `end` is signalled. -/
set_option autoImplicit false
namespace TssVerif.EngineL
open TssVerif.Engine

variable {tbl : List RoundSpec} {p : Party} {r : RoundSpec} {m : Msg}

theorem awaited_subset_waitingFor (tbl : List RoundSpec) (p : Party) (j : Nat) (h : j ∈ awaited tbl p) :
    j ∈ waitingFor p := by
  unfold awaited at h
  unfold waitingFor
  split at h
  · cases h
  · rename_i hnd
    rw [if_neg hnd]
    split at h
    · cases h
    · split at h
      · exact h
      · rw [List.mem_filter] at h ⊢
        refine ⟨h.1, ?_⟩
        have := h.2
        cases hok : p.ok j
        · rfl
        · rw [hok] at this; simp at this

/-- in a party whose scan is recorded and whose current round does not return early, `WaitingFor` is exact -/
theorem waitingFor_eq_awaited (hrest : rest tbl p = p) (hrnd : p.rnd ≤ tbl.length)
    (hne : ∀ r, tbl[p.rnd - 1]? = some r → r.early = false) : waitingFor p = awaited tbl p := by
  unfold awaited waitingFor
  by_cases hnd : p.rnd = 0 ∨ p.done = true
  · rw [if_pos hnd, if_pos hnd]
  · rw [if_neg hnd, if_neg hnd]
    have h0 : p.rnd ≠ 0 := fun h => hnd (Or.inl h)
    have hd : p.done = false := Bool.eq_false_iff.mpr fun h => hnd (Or.inr h)
    have hk : p.rnd - 1 < tbl.length := by omega
    have hr : tbl[p.rnd - 1]? = some tbl[p.rnd - 1] := List.getElem?_eq_getElem hk
    rw [hr]
    simp only
    split
    · rfl
    · rename_i hfin
      -- the recorded scan has marked every sender whose messages are all stored
      have hok : p.ok = scanOk tbl[p.rnd - 1] p :=
        congrArg Party.ok (hrest.symm.trans (rest_of_cur_some (cur_eq_some.mpr ⟨h0, hd, hr⟩)))
      apply List.filter_congr
      intro j hj
      cases hs : sat tbl[p.rnd - 1] p.store j
      · simp
      · have : p.ok j = true := by
          rw [hok]
          exact (scanOk_iff _ p j).mpr
            (Or.inr ⟨Bool.eq_false_iff.mpr hfin, List.mem_range.mp hj, hs, Or.inl (hne _ hr)⟩)
        simp [this]

theorem rest_eq_self_applyEv {tbl : List RoundSpec} {p : Party} (e : Ev) (h : Settled tbl p) :
    rest tbl (applyEv tbl p e) = applyEv tbl p e := (settled_run [e] h).2

/-- the flag of `m` is wrong for every round that needs its type -/
def WrongFlag (tbl : List RoundSpec) (m : Msg) : Prop :=
  ∀ r ∈ tbl, ∀ tf ∈ r.needs, tf.1 = m.ty → tf.2 ≠ m.slot.flag

theorem sat_storeMsg_flag_flip (r : RoundSpec) (m : Msg) (p : Party) (req : Bool)
    (hneed : (m.ty, req) ∈ r.needs) (hflag : m.slot.flag ≠ req) :
    sat r (storeMsg m p).store m.frm = false := by
  refine Bool.eq_false_iff.mpr fun h => ?_
  obtain ⟨s, hs, hf⟩ := (sat_iff _ _ _).mp h (m.ty, req) hneed
  rw [storeMsg_store_same] at hs
  exact hflag (Option.some.inj hs ▸ hf)

theorem sat_of_sat_storeMsg_wrong (hr : r ∈ tbl) {m : Msg}
    (hw : WrongFlag tbl m) (p : Party) (j : Nat) (h : sat r (storeMsg m p).store j = true) :
    sat r p.store j = true := by
  rw [sat_iff] at *
  intro tf htf
  obtain ⟨s, hs, hf⟩ := h tf htf
  by_cases hc : tf.1 = m.ty ∧ j = m.frm
  · rw [hc.1, hc.2, storeMsg_store_same] at hs
    exact absurd (Option.some.inj hs ▸ hf).symm (hw r hr tf htf hc.1)
  · rw [storeMsg_store_other m p hc] at hs
    exact ⟨s, hs, hf⟩

/-- a settled party ignores a wrong-flag message: nothing but the store slot changes -/
theorem deliver_wrongFlag_settled (hs : Settled tbl p)
    (hw : WrongFlag tbl m) : deliver tbl m p = storeMsg m p := by
  rw [deliver_eq]
  apply settleF_of_settled
  cases hc : cur tbl p with
  | none => exact ⟨step_of_cur_none (p := storeMsg m p) hc, rest_of_cur_none (p := storeMsg m p) hc⟩
  | some r =>
    have hscanp : scan r p = p := (rest_of_cur_some hc).symm.trans hs.2
    -- the scan of the new store marks nobody the recorded scan has not marked
    have hscan : scan r (storeMsg m p) = storeMsg m p := by
      have e : scanOk r (storeMsg m p) = p.ok := by
        funext j
        apply Bool.eq_iff_iff.mpr
        constructor
        · intro h
          rw [← hscanp]
          exact scanOk_mono (p := storeMsg m p) (q := p) rfl (fun _ h => h)
            (sat_of_sat_storeMsg_wrong (mem_of_cur hc) hw p) j h
        · exact scanOk_of_ok (p := storeMsg m p)
      show { storeMsg m p with ok := scanOk r (storeMsg m p) } = storeMsg m p
      rw [e]; rfl
    refine ⟨?_, ?_⟩
    · rw [step_none_iff (p := storeMsg m p) hc, hscan]
      have := (step_none_iff hc).mp hs.1
      rwa [hscanp] at this
    · rw [rest_of_cur_some (p := storeMsg m p) hc, hscan]

/-- the slot `(m.ty, m.frm)` holds nothing that any round would count -/
def SlotNotCounted (tbl : List RoundSpec) (m : Msg) (p : Party) : Prop :=
  ∀ s, p.store m.ty m.frm = some s → ∀ r ∈ tbl, ∀ tf ∈ r.needs, tf.1 = m.ty → tf.2 ≠ s.flag

theorem sat_storeMsg_wrong_eq (hr : r ∈ tbl) {p : Party}
    (hw : WrongFlag tbl m) (hnc : SlotNotCounted tbl m p) (j : Nat) :
    sat r (storeMsg m p).store j = sat r p.store j := by
  apply Bool.eq_iff_iff.mpr
  constructor
  · exact sat_of_sat_storeMsg_wrong hr hw p j
  · intro h
    rw [sat_iff] at *
    intro tf htf
    obtain ⟨s, hs, hf⟩ := h tf htf
    by_cases hc : tf.1 = m.ty ∧ j = m.frm
    · rw [hc.1, hc.2] at hs
      exact absurd hf.symm (hnc s hs r hr tf htf hc.1)
    · rw [storeMsg_store_other m p hc]; exact ⟨s, hs, hf⟩

theorem scan_storeMsg_wrong (hr : r ∈ tbl) {p : Party}
    (hw : WrongFlag tbl m) (hnc : SlotNotCounted tbl m p) :
    scan r (storeMsg m p) = storeMsg m (scan r p) := by
  have hsat : ∀ j, sat r (storeMsg m p).store j = sat r p.store j := sat_storeMsg_wrong_eq hr hw hnc
  have e : scanOk r (storeMsg m p) = scanOk r p := by
    funext j
    apply Bool.eq_iff_iff.mpr
    constructor
    · exact scanOk_mono (p := storeMsg m p) (q := p) rfl (fun _ h => h) (fun j h => by rw [← hsat j]; exact h) j
    · exact scanOk_mono (p := p) (q := storeMsg m p) rfl (fun _ h => h) (fun j h => by rw [hsat j]; exact h) j
  show { storeMsg m p with ok := scanOk r (storeMsg m p) } = storeMsg m { p with ok := scanOk r p }
  rw [e]; rfl

theorem step_storeMsg_wrong (hself : m.frm ≠ p.self)
    (hw : WrongFlag tbl m) (hnc : SlotNotCounted tbl m p) :
    step tbl (storeMsg m p) = (step tbl p).map (storeMsg m) := by
  cases hc : cur tbl p with
  | none => rw [step_of_cur_none hc, step_of_cur_none (p := storeMsg m p) hc]; rfl
  | some r =>
    rw [step_of_cur_some hc, step_of_cur_some (p := storeMsg m p) hc, scan_storeMsg_wrong (mem_of_cur hc) hw hnc]
    have e : advance tbl p.rnd (storeMsg m (scan r p)) = storeMsg m (advance tbl p.rnd (scan r p)) := by
      cases hn : tbl[p.rnd]? with
      | none => rw [advance_of_none hn, advance_of_none hn]; rfl
      | some r' => rw [advance_of_some hn, advance_of_some hn, startRound_storeMsg r' p.rnd m (scan r p) hself]
    show (if canProceed (scan r p) then some (advance tbl p.rnd (storeMsg m (scan r p))) else none) = _
    rw [e]
    cases canProceed (scan r p) <;> rfl

theorem rest_storeMsg_wrong {p : Party}
    (hw : WrongFlag tbl m) (hnc : SlotNotCounted tbl m p) :
    rest tbl (storeMsg m p) = storeMsg m (rest tbl p) := by
  cases hc : cur tbl p with
  | none => rw [rest_of_cur_none hc, rest_of_cur_none (p := storeMsg m p) hc]
  | some r =>
    rw [rest_of_cur_some hc, rest_of_cur_some (p := storeMsg m p) hc, scan_storeMsg_wrong (mem_of_cur hc) hw hnc]

theorem step_store_other {p p' : Party} (hs : step tbl p = some p') (t j : Nat)
    (hj : j ≠ p.self) : p'.store t j = p.store t j := by
  obtain ⟨r, _, _, rfl⟩ := step_cases hs
  cases hn : tbl[p.rnd]? with
  | none => rw [advance_of_none hn]; rfl
  | some r' =>
    rw [advance_of_some hn]
    simp only [startRound, scan, putSelf]
    rw [if_neg (fun h => hj h.1)]

/-- a wrong-flag message into a slot that holds nothing countable is a no-op for the protocol:
the party ends where it would have ended without it, only the slot content differs -/
theorem deliver_wrongFlag (tbl : List RoundSpec) (m : Msg) (p : Party) (hself : m.frm ≠ p.self)
    (hw : WrongFlag tbl m) (hnc : SlotNotCounted tbl m p) :
    deliver tbl m p = storeMsg m (settleF tbl p) := by
  rw [deliver_eq]
  refine settleF_induction (tbl := tbl)
    (fun p q => m.frm ≠ p.self → SlotNotCounted tbl m p → settleF tbl (storeMsg m p) = storeMsg m q) ?_ ?_ p hself hnc
  · intro p hs _ hnc
    have : step tbl (storeMsg m p) = none := by
      rw [step_storeMsg_wrong ‹_› hw hnc, hs]; rfl
    rw [settleF_of_step_none this, rest_storeMsg_wrong hw hnc]
  · intro p p' hs ih hself hnc
    have : step tbl (storeMsg m p) = some (storeMsg m p') := by
      rw [step_storeMsg_wrong hself hw hnc, hs]; rfl
    rw [settleF_of_step_some this]
    refine ih (by rw [step_self hs]; exact hself) ?_
    intro s hs'
    rw [step_store_other hs m.ty m.frm hself] at hs'
    exact hnc s hs'

/-- a productive step finds every sender marked or satisfied, and starts the next round or finishes after the last -/
theorem advance_requires (tbl : List RoundSpec) (p p' : Party) (hs : step tbl p = some p') :
    ∃ r, tbl[p.rnd - 1]? = some r ∧
      (∀ j, j < p.n → p.ok j = true ∨ (r.final = false ∧ sat r p.store j = true)) ∧
      ((p'.rnd = p.rnd + 1 ∧ p'.done = false) ∨ (p'.rnd = p.rnd ∧ p'.done = true ∧ p.rnd = tbl.length)) := by
  obtain ⟨r, hc, hcp, _⟩ := step_cases hs
  refine ⟨r, (cur_eq_some.mp hc).2.2, ?_, Loop.step_rnd_done frame (step_loop tbl ▸ hs)⟩
  intro j hj
  exact (ok_or_sat_of_scanOk ((canProceed_iff (scan r p)).mp hcp j hj)).imp id fun h => ⟨h.1, h.2.2⟩

/-- exactly one final round, and it is the last one (`Loop.lastOnly` of the `final` flags, `finalLast_eq`) -/
def finalLast : List RoundSpec → Bool
  | [] => false
  | [r] => r.final
  | r :: r' :: rs => !r.final && finalLast (r' :: rs)

theorem finalLast_eq : ∀ tbl : List RoundSpec, finalLast tbl = Loop.lastOnly (tbl.map (·.final))
  | [] => rfl
  | [_] => rfl
  | r :: r' :: rs => by
    show (!r.final && finalLast (r' :: rs)) = (!r.final && Loop.lastOnly ((r' :: rs).map (·.final)))
    rw [finalLast_eq (r' :: rs)]

theorem finalLast_ne_nil {tbl : List RoundSpec} (h : finalLast tbl = true) : 0 < tbl.length := by
  cases tbl with
  | nil => simp [finalLast] at h
  | cons _ _ => simp

theorem ended_of_finalLast (hfl : finalLast tbl = true) (hc : Canon tbl p) :
    p.ended ≤ 1 ∧ (p.ended = 1 ↔ p.rnd = tbl.length) := by
  rw [hc.2.2]
  exact Loop.sum_take_of_lastOnly (·.final) (finalLast_eq tbl ▸ hfl) hc.1

end TssVerif.EngineL
