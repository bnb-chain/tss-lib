import TssVerif.Lemmas.C10Num
import TssVerif.Lemmas.ZkVerify
/-! Completeness of the discrete-log proof over a safe-prime product (`crypto/dlnproof`). -/
set_option autoImplicit false
namespace TssVerif.C10L
open TssVerif Zk

/-- the prover's commitments `α_i = h1^{a_i} mod n` -/
def dlnAlphas (h1 n : Nat) (as : List Nat) : List Nat := as.map fun a => h1 ^ a % n

def dlnC (H : HashFn) (h1 h2 n : Nat) (as : List Nat) : Nat :=
  dlnChallenge H h1 h2 n ((dlnAlphas h1 n as).map Int.ofNat)

/-- the prover's responses `t_i = a_i + c_i·x mod pq` -/
def dlnTs (H : HashFn) (h1 h2 x p q n : Nat) (as : List Nat) : List Nat :=
  (List.range as.length).map fun i =>
    (as.getD i 0 + (if (dlnC H h1 h2 n as).testBit i then 1 else 0) * x % (p * q)) % (p * q)

/-- side conditions of `dlnproof`: the verifier's range checks `1 < · mod n` on `h1`, `h2`, every `α_i`, every
`t_i`, and `h1 ≢ h2`. (The upper bounds `· mod n < n` hold automatically.) -/
def DlnGood (H : HashFn) (h1 h2 x p q n : Nat) (as : List Nat) : Prop :=
  1 < h1 % n ∧ 1 < h2 % n ∧ h1 % n ≠ h2 % n ∧
  (∀ al ∈ dlnAlphas h1 n as, 1 < al % n) ∧ (∀ t ∈ dlnTs H h1 h2 x p q n as, 1 < t % n)

instance (H : HashFn) (h1 h2 x p q n : Nat) (as : List Nat) : Decidable (DlnGood H h1 h2 x p q n as) := by
  unfold DlnGood; infer_instance

theorem dlnProve_eq (H : HashFn) (h1 h2 x p q n : Nat) (as : List Nat) (hn : n ≠ 0) :
    dlnProve H h1 h2 x p q n as = .ok (dlnAlphas h1 n as, dlnTs H h1 h2 x p q n as) := by
  unfold dlnProve
  have hm : as.mapM (fun (a : Nat) => expP (h1 : Int) (a : Int) n) = .ok (dlnAlphas h1 n as) :=
    mapM_ok_of _ _ as (fun a _ => expP_nat h1 a hn)
  rw [hm]
  rfl

/-- the prover's response `(a + (c·x mod pq)) mod pq` as an exponent of `h1`, when `h1^{pq} ≡ 1`: both reductions
can be dropped -/
theorem dln_key {h1 n m : Nat} (hord : h1 ^ m ≡ 1 [MOD n]) (a b : Nat) :
    h1 ^ ((a + b % m) % m) ≡ h1 ^ (a + b) [MOD n] := by
  refine (pow_mod_of_order hord _).trans ?_
  rw [pow_add, pow_add]
  exact (pow_mod_of_order hord b).mul_left _

/-- `dlnVerify` on a proof whose entries are naturals: the guards, and the 128 equations without casts -/
theorem dlnVerify_nat_iff (H : HashFn) (alpha t : List Nat) (h1 h2 n : Nat) :
    dlnVerify H (alpha.map Int.ofNat) (t.map Int.ofNat) h1 h2 n = .ok true ↔
      0 < n ∧ 1 < h1 % n ∧ 1 < h2 % n ∧ h1 % n ≠ h2 % n ∧ (∀ ti ∈ t, 1 < ti % n) ∧ (∀ al ∈ alpha, 1 < al % n) ∧
      ∀ i < dlnIterations,
        h1 ^ (t.getD i 0) % n =
          alpha.getD i 0 *
            (h2 ^ (if (dlnChallenge H h1 h2 n (alpha.map Int.ofNat)).testBit i then 1 else 0) % n) % n := by
  have hc : ∀ v : Nat, (1 : Int) < (v : Int) % (n : Int) ↔ 1 < v % n := fun v => by
    rw [← Int.natCast_mod]; exact Nat.one_lt_cast
  have hl : ∀ l : List Nat, (∀ x ∈ l.map Int.ofNat, 1 < x % (n : Int)) ↔ ∀ v ∈ l, 1 < v % n := fun l => by
    rw [List.forall_mem_map]; exact forall₂_congr fun v _ => hc v
  rw [dlnVerify_eq_true_iff, Int.natCast_pos, hc, hc, hl, hl, ← Int.natCast_mod, ← Int.natCast_mod, Ne,
    Int.natCast_inj]
  refine and_congr_right fun hn => and_congr_right fun _ => and_congr_right fun _ => and_congr_right fun _ =>
    and_congr_right fun _ => and_congr_right fun _ => forall₂_congr fun i _ => ?_
  have hn0 : n ≠ 0 := Nat.pos_iff_ne_zero.1 hn
  have hci : ∀ b : Bool, (if b then (1 : Int) else 0) = ((if b then 1 else 0 : Nat) : Int) := fun b => by
    cases b <;> rfl
  unfold dlnStep
  dsimp only
  rw [show (List.map Int.ofNat t).getD i 0 = ((t.getD i 0 : Nat) : Int) from getD_map' Int.ofNat _ i 0,
    show (List.map Int.ofNat alpha).getD i 0 = ((alpha.getD i 0 : Nat) : Int) from getD_map' Int.ofNat _ i 0,
    hci, Int.toNat_natCast, expP_nat _ _ hn0, expP_nat _ _ hn0]
  simp only [Outcome.ok_bind, Outcome.pure_eq, Outcome.ok.injEq, beq_iff_eq, mulI_nat]

theorem dln_complete_aux (H : HashFn) (h1 h2 x p q n : Nat) (as : List Nat)
    (hn : 0 < n) (hlen : dlnIterations ≤ as.length)
    (hh2 : h2 = h1 ^ x % n) (hord : h1 ^ (p * q) ≡ 1 [MOD n])
    (hg : DlnGood H h1 h2 x p q n as) :
    (dlnProve H h1 h2 x p q n as >>= fun pf =>
      dlnVerify H (pf.1.map Int.ofNat) (pf.2.map Int.ofNat) h1 h2 n) = .ok true := by
  obtain ⟨g1, g2, g3, ga, gt⟩ := hg
  rw [dlnProve_eq H h1 h2 x p q n as (Nat.pos_iff_ne_zero.1 hn)]
  show dlnVerify H ((dlnAlphas h1 n as).map Int.ofNat) ((dlnTs H h1 h2 x p q n as).map Int.ofNat) h1 h2 n = .ok true
  refine (dlnVerify_nat_iff H _ _ h1 h2 n).2 ⟨hn, g1, g2, g3, gt, ga, fun i hi => ?_⟩
  have hi' : i < as.length := Nat.lt_of_lt_of_le hi hlen
  have ht : (dlnTs H h1 h2 x p q n as).getD i 0 =
      (as.getD i 0 + (if (dlnC H h1 h2 n as).testBit i then 1 else 0) * x % (p * q)) % (p * q) := by
    unfold dlnTs
    rw [getD_of_lt _ _ _ (by simpa using hi')]
    simp
  have ha : (dlnAlphas h1 n as).getD i 0 = h1 ^ (as.getD i 0) % n := by
    unfold dlnAlphas
    rw [getD_of_lt _ _ _ (by simpa using hi'), getD_of_lt _ _ _ hi']
    simp
  rw [ht, ha]
  show _ = h1 ^ as.getD i 0 % n * (h2 ^ (if (dlnC H h1 h2 n as).testBit i then 1 else 0) % n) % n
  set ci : Nat := (if (dlnC H h1 h2 n as).testBit i then 1 else 0) with hci
  have k1 := dln_key hord (as.getD i 0) (ci * x)
  have k2 : h1 ^ (as.getD i 0 + ci * x) ≡ h1 ^ as.getD i 0 % n * (h2 ^ ci % n) [MOD n] := by
    rw [pow_add, hh2]
    refine (Nat.mod_modEq _ _).symm.mul ?_
    have : h1 ^ (ci * x) = (h1 ^ x) ^ ci := by rw [mul_comm, pow_mul]
    rw [this]
    exact ((Nat.mod_modEq _ _).pow ci).symm.trans (Nat.mod_modEq _ _).symm
  exact k1.trans k2

theorem dln_good_of_accept (H : HashFn) (h1 h2 x p q n : Nat) (as : List Nat)
    (h : (dlnProve H h1 h2 x p q n as >>= fun pf =>
      dlnVerify H (pf.1.map Int.ofNat) (pf.2.map Int.ofNat) h1 h2 n) = .ok true) :
    DlnGood H h1 h2 x p q n as := by
  have hn : n ≠ 0 := by
    obtain ⟨pf, -, hv⟩ := Outcome.bind_eq_ok.1 h
    have := ((dlnVerify_eq_true_iff H).1 hv).1
    omega
  rw [dlnProve_eq H h1 h2 x p q n as hn, Outcome.ok_bind] at h
  obtain ⟨-, g1, g2, g3, gt, ga, -⟩ := (dlnVerify_nat_iff H _ _ h1 h2 n).1 h
  exact ⟨g1, g2, g3, ga, gt⟩

end TssVerif.C10L
