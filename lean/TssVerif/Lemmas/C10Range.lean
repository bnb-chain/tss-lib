import TssVerif.Lemmas.C10Num
import TssVerif.Lemmas.ZkVerify
import TssVerif.Lemmas.Paillier
/-! Completeness of Alice's range proof (`crypto/mta/range_proof.go`). -/
set_option autoImplicit false
namespace TssVerif.C10L
open TssVerif Zk

/-- the verifier on a proof whose fields are naturals: every guard, and the two verification equations as
congruences between products of powers (no inverse: `c^e`, `z^e` stand on the right), as hypotheses -/
theorem rangeVerify_eq_true (H : HashFn) (q n nt h1 h2 c z u w s s1 s2 : Nat) (hn : 0 < n) (hnt : 0 < nt)
    (hz : z < nt) (hu : u < n * n) (hw : w < nt) (hs : s < n)
    (gz : Nat.Coprime z nt) (gu : Nat.Coprime u (n * n)) (gw : Nat.Coprime w nt)
    (hs1 : q ≤ s1) (hs2 : q ≤ s2) (hs_ne : s ≠ 1) (hz_ne : z ≠ 1) (hs12 : s1 ≠ s2) (hs1' : s1 ≤ q * q * q)
    (gc : Nat.Coprime c (n * n))
    (eq1 : (n + 1) ^ s1 * s ^ n ≡ u * c ^ (rangeChallenge H q n c z u w) [MOD n * n])
    (eq2 : h1 ^ s1 * h2 ^ s2 ≡ w * z ^ (rangeChallenge H q n c z u w) [MOD nt]) :
    rangeVerify cur H q n nt h1 h2 c ⟨z, u, w, s, s1, s2⟩ = .ok true := by
  have hn2 : n * n ≠ 0 := Nat.mul_ne_zero (by omega) (by omega)
  have hnt0 : nt ≠ 0 := by omega
  set e := rangeChallenge H q n c z u w with he
  have eq1' : (n + 1) ^ s1 % (n * n) * (s ^ n % (n * n)) % (n * n) ≡ u * c ^ e [MOD n * n] :=
    (mod_mul_mod_modEq _ _ _).trans eq1
  obtain ⟨cE, hcE, hprod1⟩ := expP_neg_cancel hn2 gc eq1'
  have eq2' : h1 ^ s1 % nt * (h2 ^ s2 % nt) % nt ≡ w * z ^ e [MOD nt] :=
    (mod_mul_mod_modEq _ _ _).trans eq2
  obtain ⟨zE, hzE, hprod2⟩ := expP_neg_cancel hnt0 gz eq2'
  rw [Nat.mod_eq_of_lt hu] at hprod1
  rw [Nat.mod_eq_of_lt hw] at hprod2
  rw [rangeVerify_eq_true_iff]
  dsimp only
  simp only [natCast_sq n, natCast_succ, ← he, Int.natAbs_natCast, Int.gcd_natCast_natCast, Nat.cast_nonneg, true_and, Nat.cast_lt,
    Nat.cast_le, Nat.cast_inj, Nat.cast_eq_one]
  exact ⟨hz, hu, hw, hs, gz, gu, gw, hs1, hs2, hs_ne, hz_ne, hs12, hs1', gc,
    cE, expP_eq_ok.1 hcE, _, expP_eq_ok.1 (expP_nat s n hn2), _, expP_eq_ok.1 (expP_nat (n + 1) s1 hn2), hprod1.symm,
    _, expP_eq_ok.1 (expP_nat h1 s1 hnt0), _, expP_eq_ok.1 (expP_nat h2 s2 hnt0), zE, expP_eq_ok.1 hzE, hprod2.symm⟩

def rangeZ (nt h1 h2 m rho : Nat) : Nat := h1 ^ m % nt * (h2 ^ rho % nt) % nt
def rangeU (n alpha beta : Nat) : Nat := (n + 1) ^ alpha % (n * n) * (beta ^ n % (n * n)) % (n * n)
def rangeW (nt h1 h2 alpha gamma : Nat) : Nat := h1 ^ alpha % nt * (h2 ^ gamma % nt) % nt
def rangeE (H : HashFn) (q n c nt h1 h2 m alpha beta gamma rho : Nat) : Nat :=
  rangeChallenge H q n c (rangeZ nt h1 h2 m rho) (rangeU n alpha beta) (rangeW nt h1 h2 alpha gamma)
def rangeS (H : HashFn) (q n c nt h1 h2 m r alpha beta gamma rho : Nat) : Nat :=
  r ^ (rangeE H q n c nt h1 h2 m alpha beta gamma rho) % n * beta % n

theorem rangeProve_eq (H : HashFn) (q n c nt h1 h2 m r alpha beta gamma rho : Nat) :
    rangeProve H q n c nt h1 h2 m r alpha beta gamma rho =
      .ok ⟨rangeZ nt h1 h2 m rho, rangeU n alpha beta, rangeW nt h1 h2 alpha gamma,
        rangeS H q n c nt h1 h2 m r alpha beta gamma rho,
        rangeE H q n c nt h1 h2 m alpha beta gamma rho * m + alpha,
        rangeE H q n c nt h1 h2 m alpha beta gamma rho * rho + gamma⟩ := by
  unfold rangeProve rangeS rangeE rangeZ rangeU rangeW
  simp only [modPow_spec]

/-- side conditions on the coins `alpha, beta, gamma, rho` of `ProveRangeAlice`: `beta` is a unit modulo `n`
(the Go code samples it from `Z_N^*`; needed for the verifier's unit check on `u`), and the verifier's range
guards `q ≤ s1 ≤ q³`, `q ≤ s2`, `s ≠ 1`, `z ≠ 1`, `s1 ≠ s2`. -/
def RangeGood (H : HashFn) (q n c nt h1 h2 m r alpha beta gamma rho : Nat) : Prop :=
  let e := rangeE H q n c nt h1 h2 m alpha beta gamma rho
  Nat.gcd beta n = 1 ∧ q ≤ e * m + alpha ∧ q ≤ e * rho + gamma ∧
  rangeS H q n c nt h1 h2 m r alpha beta gamma rho ≠ 1 ∧ rangeZ nt h1 h2 m rho ≠ 1 ∧
  e * m + alpha ≠ e * rho + gamma ∧ e * m + alpha ≤ q * q * q

instance (H : HashFn) (q n c nt h1 h2 m r alpha beta gamma rho : Nat) :
    Decidable (RangeGood H q n c nt h1 h2 m r alpha beta gamma rho) := by
  unfold RangeGood; infer_instance

theorem range_good_of_accept (H : HashFn) (q n c nt h1 h2 m r alpha beta gamma rho : Nat) (hn : 0 < n)
    (h : (rangeProve H q n c nt h1 h2 m r alpha beta gamma rho >>= fun pf =>
      rangeVerify cur H q n nt h1 h2 c pf) = .ok true) :
    RangeGood H q n c nt h1 h2 m r alpha beta gamma rho := by
  rw [rangeProve_eq, Outcome.ok_bind] at h
  obtain ⟨-, -, -, -, -, gu, -, r1, r2, r3, r4, r5, r6, -⟩ := (rangeVerify_eq_true_iff H q n nt h1 h2 c _).1 h
  dsimp only at gu r1 r2 r3 r4 r5 r6
  rw [← Nat.cast_mul, Int.gcd_natCast_natCast] at gu
  refine ⟨?_, by exact_mod_cast r1, by exact_mod_cast r2, by exact_mod_cast r3, by exact_mod_cast r4,
    by exact_mod_cast r5, by exact_mod_cast r6⟩
  -- a common factor of `beta` and `n` divides `u` and `n²`
  have hd1 : Nat.gcd beta n ∣ n * n := Dvd.dvd.mul_right (Nat.gcd_dvd_right beta n) n
  have hd2 : Nat.gcd beta n ∣ beta ^ n :=
    Dvd.dvd.trans (Nat.gcd_dvd_left beta n) (dvd_pow_self beta (by omega))
  exact eq_one_of_dvd_of_coprime_mul_mod hd1 ((Nat.dvd_mod_iff hd1).2 hd2) gu

end TssVerif.C10L
