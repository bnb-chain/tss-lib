import TssVerif.Lemmas.CurveLaw
import TssVerif.Lemmas.AlgEcdsa
/-! A third proved-lawful toy instance, `zmodCurveX q`: the exponent representation of a cyclic group of
prime order whose affine view is symmetric under negation (`x(−P) = x(P)`, like a real curve). It shows
that `Lawful ∧ (∀ p, q·p = 0) ∧ NegX` — the hypotheses of the low-S theorems — are satisfiable. -/
set_option autoImplicit false
set_option linter.style.haveILetI false
namespace TssVerif.AlgL
open TssVerif

/-- `x = min(a, −a)` (as naturals), `y` tells which of the two -/
def xsymAffine (q : ℕ) (a : ZMod q) : ℕ × ℕ :=
  if a.val ≤ (-a).val then (a.val, 0) else ((-a).val, 1)

def zmodCurveX (q : ℕ) [Fact q.Prime] : Curve (ZMod q) where
  name := "zmodX"
  p := q
  q := q
  zero := 0
  add := (· + ·)
  neg := fun a => -a
  base := 1
  toAffine := fun a => some (xsymAffine q a)
  ofAffine := fun x y =>
    if xsymAffine q (if y = 0 then (x : ZMod q) else -(x : ZMod q)) = (x, y)
    then some (if y = 0 then (x : ZMod q) else -(x : ZMod q)) else none
  beq := fun a b => decide (a = b)

section
variable (q : ℕ) [hq : Fact q.Prime]

theorem xsymAffine_inj (a b : ZMod q) (h : xsymAffine q a = xsymAffine q b) : a = b := by
  unfold xsymAffine at h
  split at h <;> split at h
  · exact ZMod.val_injective q (Prod.mk.inj h).1
  · exact absurd (Prod.mk.inj h).2 (by decide)
  · exact absurd (Prod.mk.inj h).2 (by decide)
  · exact neg_inj.1 (ZMod.val_injective q (Prod.mk.inj h).1)

theorem zmodCurveX_spec : (zmodCurveX q).Lawful ∧
    (∀ (k : ℕ) (a : ZMod q), (zmodCurveX q).smul k a = (k : ZMod q) * a) ∧
    ∀ p, (zmodCurveX q).smul (zmodCurveX q).q p = (zmodCurveX q).zero :=
  lawful_of_exponent (zmodCurveX q) (fun _ _ => rfl) rfl (fun _ => rfl) rfl rfl
    (fun a b hab => by
      simp only [zmodCurveX, Option.some.injEq] at hab
      exact xsymAffine_inj q a b hab)
    (fun x y a hxy => by
      simp only [zmodCurveX] at hxy ⊢
      by_cases hc : xsymAffine q (if y = 0 then (x : ZMod q) else -(x : ZMod q)) = (x, y)
      · rw [if_pos hc] at hxy
        injection hxy with hxy
        rw [← hxy, hc]
      · rw [if_neg hc] at hxy
        cases hxy)
    (fun x y a hxy => by
      haveI : NeZero q := ⟨hq.out.ne_zero⟩
      simp only [zmodCurveX, Option.some.injEq] at hxy ⊢
      have hcand : (if y = 0 then (x : ZMod q) else -(x : ZMod q)) = a := by
        unfold xsymAffine at hxy
        split at hxy
        · obtain ⟨rfl, rfl⟩ := Prod.mk.inj hxy
          rw [if_pos rfl, ZMod.natCast_zmod_val]
        · obtain ⟨rfl, rfl⟩ := Prod.mk.inj hxy
          rw [if_neg (by decide), ZMod.natCast_zmod_val, neg_neg]
      rw [hcand, if_pos hxy])
    (fun a ha => by simp [zmodCurveX] at ha)

theorem zmodCurveX_lawful : (zmodCurveX q).Lawful := (zmodCurveX_spec q).1

theorem zmodCurveX_order (p : ZMod q) : (zmodCurveX q).smul (zmodCurveX q).q p = (zmodCurveX q).zero :=
  (zmodCurveX_spec q).2.2 p

theorem zmodCurve_order (p : ZMod q) : (zmodCurve q).smul (zmodCurve q).q p = (zmodCurve q).zero :=
  (zmodCurve_spec q).2.2 p

theorem zmodCurveW_order (p : ZMod q) : (zmodCurveW q).smul (zmodCurveW q).q p = (zmodCurveW q).zero :=
  (zmodCurveW_spec q).2.2 p

theorem zmodCurveX_negX : NegX (zmodCurveX q) := by
  intro p x y h
  simp only [zmodCurveX, Option.some.injEq] at h ⊢
  unfold xsymAffine at h ⊢
  rw [neg_neg]
  by_cases h1 : p.val ≤ (-p).val
  · rw [if_pos h1] at h
    obtain ⟨rfl, rfl⟩ := Prod.mk.inj h
    by_cases h2 : (-p).val ≤ p.val
    · exact ⟨0, by rw [if_pos h2, le_antisymm h1 h2]⟩
    · exact ⟨1, by rw [if_neg h2]⟩
  · rw [if_neg h1] at h
    obtain ⟨rfl, rfl⟩ := Prod.mk.inj h
    exact ⟨0, by rw [if_pos (by omega)]⟩

end
end TssVerif.AlgL
