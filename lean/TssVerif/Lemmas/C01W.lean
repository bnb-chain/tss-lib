import TssVerif.Lemmas.AlgLagrange
import TssVerif.Lemmas.VssVerify
import TssVerif.Lemmas.C17
import TssVerif.Lemmas.Outcome
/-! `Sign.bigW` / `Sign.bigWs` (the public weighted points `bigWs[j]` of `PrepareForSigning`) against
`Sign.weight` (the private weights `w_j`): both are folds over the same positions with the same
factors `coef q ks[j] ks[c]`; the point fold goes through `Curve.ecScalarMult`, which refuses a product
without affine form. -/
set_option autoImplicit false
set_option linter.style.haveILetI false
namespace TssVerif.C01W
open TssVerif Sign AlgL

/-- the `weight` computation cut after the first `m` positions: `x_i` times the first factors -/
def weightPrefix (q : ℕ) (ks : List ℕ) (i m xi : ℕ) : Option ℕ :=
  (List.range m).foldlM (wstep q ks i) xi

theorem weightPrefix_length (q : ℕ) (ks : List ℕ) (i xi : ℕ) :
    weightPrefix q ks i ks.length xi = weight q ks i xi := rfl

section
variable {P : Type} (C : Curve P)

/-- one step of the `bigW` loop of signer `j` at position `c` -/
def bstep (ks : List ℕ) (j : ℕ) (w : ECPoint) (c : ℕ) : Outcome ECPoint :=
  if c = j then .ok w else
    match coef C.q (ks.getD j 0) (ks.getD c 0) with
    | some io => C.ecScalarMult w io
    | none => .panic "nil-mod-inverse"

theorem bigW_eq_fold (ks : List ℕ) (j : ℕ) (xj : ECPoint) :
    bigW C ks j xj = (List.range ks.length).foldlM (bstep C ks j) xj := rfl

variable {C}

theorem bstep_self (ks : List ℕ) (j : ℕ) (w : ECPoint) : bstep C ks j w j = .ok w := if_pos rfl

theorem bstep_some {ks : List ℕ} {j c io : ℕ} (w : ECPoint) (hc : c ≠ j)
    (h : coef C.q (ks.getD j 0) (ks.getD c 0) = some io) :
    bstep C ks j w c = C.ecScalarMult w (io : Int) := by
  unfold bstep; rw [if_neg hc, h]

theorem bstep_none {ks : List ℕ} {j c : ℕ} (w : ECPoint) (hc : c ≠ j)
    (h : coef C.q (ks.getD j 0) (ks.getD c 0) = none) :
    bstep C ks j w c = .panic "nil-mod-inverse" := by
  unfold bstep; rw [if_neg hc, h]

theorem ecScalarMult_base (hC : C.Lawful) {w0 : ECPoint} {a : ℕ} (io : ℕ)
    (h0 : C.lift w0 = some (C.smul a C.base)) :
    (C.toAffine (C.smul (a * io % C.q) C.base) = none ∧
        C.ecScalarMult w0 (io : Int) = .panic "scalar-mult-identity") ∨
    ∃ w1, C.ecScalarMult w0 (io : Int) = .ok w1 ∧ C.lift w1 = some (C.smul (a * io % C.q) C.base) := by
  have hmul : C.smul io (C.smul a C.base) = C.smul (a * io % C.q) C.base := by
    rw [← hC.smul_mul, ← hC.smul_base_mod, Nat.mul_comm]
  rw [Curve.ecScalarMult_of_lift h0, hmul]
  cases hr : C.toAffine (C.smul (a * io % C.q) C.base) with
  | none => exact Or.inl ⟨rfl, rfl⟩
  | some r => exact Or.inr ⟨r, rfl, hC.lift_of_toAffine hr⟩

theorem coef_isSome_of_nodup {q : ℕ} [Fact q.Prime] (ks : List ℕ) (hnd : (ks.map (· % q)).Nodup) {i j : ℕ}
    (hi : i < ks.length) (hj : j < ks.length) (hji : j ≠ i) :
    ∃ io, coef q (ks.getD i 0) (ks.getD j 0) = some io :=
  Option.isSome_iff_exists.1 (coef_isSome_iff.2 (ne_of_nodup ks hnd hi hj hji))

end

section
variable {P : Type} {C : Curve P}

/-- one turn of the point fold against one turn of the scalar fold, from `a·G` and `a` -/
theorem bstep_spec (hC : C.Lawful) (ks : List ℕ) (j c : ℕ) {w0 : ECPoint} {a a' : ℕ}
    (h0 : C.lift w0 = some (C.smul a C.base)) (ha : wstep C.q ks j a c = some a') :
    (C.toAffine (C.smul a' C.base) = none ∧ bstep C ks j w0 c = .panic "scalar-mult-identity") ∨
    ∃ w1, bstep C ks j w0 c = .ok w1 ∧ C.lift w1 = some (C.smul a' C.base) := by
  by_cases hc : c = j
  · subst hc
    rw [wstep_self] at ha
    cases ha
    exact Or.inr ⟨w0, bstep_self .., h0⟩
  · cases hio : coef C.q (ks.getD j 0) (ks.getD c 0) with
    | none => rw [wstep_none _ hc hio] at ha; cases ha
    | some io =>
      rw [wstep_some _ hc hio] at ha
      cases ha
      rw [bstep_some _ hc hio]
      exact ecScalarMult_base hC io h0

/-- **the point fold against the scalar fold**, started at `a·G` and `a`, the scalar fold returning `w`:
either the point fold returns `w·G`, or it panics in `ScalarMult` and the scalar fold, cut after some
prefix of the positions, is a scalar `p` with `p·G` without affine form -/
theorem bfold_spec (hC : C.Lawful) (ks : List ℕ) (j : ℕ) (l : List ℕ) :
    ∀ (w0 : ECPoint) (a w : ℕ), C.lift w0 = some (C.smul a C.base) →
      l.foldlM (wstep C.q ks j) a = some w →
      (∃ W, l.foldlM (bstep C ks j) w0 = .ok W ∧ C.lift W = some (C.smul w C.base)) ∨
      (l.foldlM (bstep C ks j) w0 = .panic "scalar-mult-identity" ∧
        ∃ m p, 1 ≤ m ∧ m ≤ l.length ∧ (l.take m).foldlM (wstep C.q ks j) a = some p ∧
          C.toAffine (C.smul p C.base) = none) := by
  induction l with
  | nil =>
    intro w0 a w h0 hw
    cases hw
    exact Or.inl ⟨w0, rfl, h0⟩
  | cons c l ih =>
    intro w0 a w h0 hw
    rw [List.foldlM_cons] at hw ⊢
    obtain ⟨a', ha', hw⟩ := Option.bind_eq_some_iff.1 hw
    rcases bstep_spec hC ks j c h0 ha' with ⟨hn, hp⟩ | ⟨w1, hw1, hl1⟩
    · refine Or.inr ⟨by rw [hp]; rfl, 1, a', le_refl _, by simp, ?_, hn⟩
      rw [List.take_succ_cons, List.take_zero, List.foldlM_cons, ha']
      rfl
    · rw [hw1]
      -- a prefix witness of the tail is one of the whole list, one position later
      refine (ih w1 a' w hl1 hw).imp_right fun ⟨h1, m, p, hm1, hm2, h2, h3⟩ =>
        ⟨h1, m + 1, p, by omega, by simp only [List.length_cons]; omega, ?_, h3⟩
      rw [List.take_succ_cons, List.foldlM_cons, ha']
      exact h2

theorem bfold_ne_err (hC : C.Lawful) (ks : List ℕ) (j : ℕ) (l : List ℕ) :
    ∀ (w0 : ECPoint) (p : P) (e : String), C.lift w0 = some p →
      l.foldlM (bstep C ks j) w0 ≠ .err e := by
  induction l with
  | nil => intro w0 p e _ h; cases h
  | cons c l ih =>
    intro w0 p e h0 h
    rw [List.foldlM_cons] at h
    by_cases hc : c = j
    · subst hc
      rw [bstep_self] at h
      exact ih w0 p e h0 h
    · cases hio : coef C.q (ks.getD j 0) (ks.getD c 0) with
      | none => rw [bstep_none _ hc hio] at h; cases h
      | some io =>
        rw [bstep_some _ hc hio, Curve.ecScalarMult_of_lift h0] at h
        cases hr : C.toAffine (C.smul io p) with
        | none => rw [hr] at h; cases h
        | some r => rw [hr] at h; exact ih r _ e (hC.lift_of_toAffine hr) h

/-- whatever the curve record and the starting point: a returned point certifies that every factor
existed, and a panic is `ScalarMult`'s or, with a missing factor, the nil inverse -/
theorem bfold_structure (ks : List ℕ) (j : ℕ) (l : List ℕ) : ∀ w0 : ECPoint,
    (∀ W, l.foldlM (bstep C ks j) w0 = .ok W →
      ∀ c ∈ l, c ≠ j → (coef C.q (ks.getD j 0) (ks.getD c 0)).isSome) ∧
    (∀ e, l.foldlM (bstep C ks j) w0 = .panic e → e = "scalar-mult-identity" ∨
      (e = "nil-mod-inverse" ∧ ∃ c ∈ l, c ≠ j ∧ coef C.q (ks.getD j 0) (ks.getD c 0) = none)) := by
  induction l with
  | nil => intro w0; exact ⟨fun _ _ c hc => (by cases hc), fun e h => by cases h⟩
  | cons c l ih =>
    intro w0
    have up : (∃ d ∈ l, d ≠ j ∧ coef C.q (ks.getD j 0) (ks.getD d 0) = none) →
        ∃ d ∈ c :: l, d ≠ j ∧ coef C.q (ks.getD j 0) (ks.getD d 0) = none :=
      fun ⟨d, hd, h⟩ => ⟨d, List.mem_cons_of_mem _ hd, h⟩
    rw [List.foldlM_cons]
    by_cases hc : c = j
    · subst hc
      rw [bstep_self]
      obtain ⟨h1, h2⟩ := ih w0
      exact ⟨fun W h d hd hdj => (List.mem_cons.1 hd).elim (fun e => absurd e hdj) (h1 W h d · hdj),
        fun e h => (h2 e h).imp_right fun ⟨he, hx⟩ => ⟨he, up hx⟩⟩
    · cases hio : coef C.q (ks.getD j 0) (ks.getD c 0) with
      | none =>
        rw [bstep_none _ hc hio]
        exact ⟨fun W h => (by cases h), fun e h => Or.inr ⟨by cases h; rfl, c, List.mem_cons_self .., hc, hio⟩⟩
      | some io =>
        rw [bstep_some _ hc hio]
        cases hs : C.ecScalarMult w0 (io : Int) with
        | ok w1 =>
          obtain ⟨h1, h2⟩ := ih w1
          exact ⟨fun W h d hd hdj => (List.mem_cons.1 hd).elim (fun e => by rw [e, hio]; rfl) (h1 W h d · hdj),
            fun e h => (h2 e h).imp_right fun ⟨he, hx⟩ => ⟨he, up hx⟩⟩
        | err e' => exact ⟨fun W h => (by cases h), fun e h => by cases h⟩
        | panic e' =>
          exact ⟨fun W h => (by cases h), fun e h => by cases h; exact Or.inl (((C17L.ecScalarMult_outcomes C w0 _).1 _).1 hs).2⟩

end

section
variable {P : Type} {C : Curve P}

theorem scalar_ne_zero_of_lift (hC : C.Lawful) (hz : C.toAffine C.zero = none) {x : ℕ} {xj : ECPoint}
    (hx : C.lift xj = some (C.smul x C.base)) : x % C.q ≠ 0 := by
  intro h0
  rw [(hC.smul_base_eq_zero_iff x).2 h0] at hx
  have := hC.toAffine_of_lift hx
  rw [hz] at this
  cases this

/-- ids pairwise distinct modulo the prime `q`: the only panic of `bigW` is the one of `ScalarMult`
(any curve record, any starting point) -/
theorem bigW_panic_tag (hq : C.q.Prime) (ks : List ℕ) (hnd : (ks.map (· % C.q)).Nodup) (j : ℕ)
    (hj : j < ks.length) (xj : ECPoint) (e : String) (h : bigW C ks j xj = .panic e) :
    e = "scalar-mult-identity" := by
  haveI : Fact C.q.Prime := ⟨hq⟩
  rcases (bfold_structure ks j _ xj).2 e h with h1 | ⟨_, c, hc, hcj, hn⟩
  · exact h1
  · obtain ⟨io, hio⟩ := coef_isSome_of_nodup ks hnd hj (List.mem_range.1 hc) hcj
    rw [hio] at hn
    cases hn

theorem mapM_ok_getElem? {α β : Type} (f : α → Outcome β) (l : List α) :
    ∀ (ws : List β), l.mapM f = .ok ws →
      ws.length = l.length ∧ ∀ (i : ℕ) (a : α), l[i]? = some a → ∃ w, ws[i]? = some w ∧ f a = .ok w := by
  induction l with
  | nil =>
    intro ws h
    rw [List.mapM_nil] at h
    cases h
    exact ⟨rfl, fun i a hi => by simp at hi⟩
  | cons b l ih =>
    intro ws h
    rw [List.mapM_cons] at h
    obtain ⟨w0, hb, h⟩ := Outcome.bind_eq_ok.1 h
    obtain ⟨ws', hm, h⟩ := Outcome.bind_eq_ok.1 h
    cases h
    obtain ⟨h1, h2⟩ := ih ws' hm
    refine ⟨by simp [h1], fun i a hi => ?_⟩
    cases i with
    | zero =>
      simp only [List.getElem?_cons_zero, Option.some.injEq] at hi
      subst hi
      exact ⟨w0, by simp, hb⟩
    | succ i =>
      simp only [List.getElem?_cons_succ] at hi ⊢
      exact h2 i a hi

theorem mapM_ok_of_forall {α β : Type} (f : α → Outcome β) (l : List α)
    (h : ∀ a ∈ l, ∃ w, f a = .ok w) : ∃ ws, l.mapM f = .ok ws := by
  induction l with
  | nil => exact ⟨[], rfl⟩
  | cons a l ih =>
    obtain ⟨w, hw⟩ := h a (List.mem_cons_self ..)
    obtain ⟨ws, hws⟩ := ih (fun b hb => h b (List.mem_cons_of_mem _ hb))
    exact ⟨w :: ws, by rw [List.mapM_cons, hw, hws]; rfl⟩

theorem bigWs_getElem? (ks : List ℕ) (xs ws : List ECPoint) (h : bigWs C ks xs = .ok ws) :
    ws.length = ks.length ∧ ∀ j, j < ks.length →
      ∃ X W, xs[j]? = some X ∧ ws[j]? = some W ∧ bigW C ks j X = .ok W := by
  unfold bigWs at h
  obtain ⟨h1, h2⟩ := mapM_ok_getElem? _ _ ws h
  rw [List.length_range] at h1
  refine ⟨h1, fun j hj => ?_⟩
  obtain ⟨W, hW, hf⟩ := h2 j j (by rw [List.getElem?_range hj])
  cases hX : xs[j]? with
  | none => rw [hX] at hf; cases hf
  | some X => rw [hX] at hf; exact ⟨X, W, rfl, hW, hf⟩

theorem bigWs_ok_of_forall (ks : List ℕ) (xs : List ECPoint)
    (h : ∀ j, j < ks.length → ∃ X W, xs[j]? = some X ∧ bigW C ks j X = .ok W) :
    ∃ ws, bigWs C ks xs = .ok ws := by
  unfold bigWs
  refine mapM_ok_of_forall _ _ fun j hj => ?_
  obtain ⟨X, W, hX, hW⟩ := h j (List.mem_range.1 hj)
  exact ⟨W, by rw [hX]; exact hW⟩

/-- the fold by which `C01b.bigWs_sum_is_public_key` adds up the returned points (each lifted to the curve) -/
theorem foldlM_lift_add (hC : C.Lawful) (ws : List ECPoint) : ∀ (wv : ℕ → ℕ) (acc : ℕ),
    (∀ j, j < ws.length → ∃ W, ws[j]? = some W ∧ C.lift W = some (C.smul (wv j) C.base)) →
    ws.foldlM (fun a W => (C.lift W).map (C.add a)) (C.smul acc C.base) =
      some (C.smul (acc + ∑ j ∈ Finset.range ws.length, wv j) C.base) := by
  induction ws with
  | nil => intro wv acc _; rfl
  | cons W ws ih =>
    intro wv acc h
    obtain ⟨W', hW', hl⟩ := h 0 (Nat.zero_lt_succ _)
    cases hW'
    rw [List.foldlM_cons, hl, List.length_cons, Finset.sum_range_succ', ← Nat.add_assoc, Nat.add_right_comm]
    rw [← ih (fun j => wv (j + 1)) (acc + wv 0) fun j hj => h (j + 1) (Nat.succ_lt_succ hj), hC.smul_add]
    rfl

end
end TssVerif.C01W
