import TssVerif.Lemmas.C11
import TssVerif.Lemmas.CurveLaw
import TssVerif.Lemmas.VssVerify
import TssVerif.Lemmas.C17
/-! Completeness of the two Schnorr proof systems (`crypto/schnorr`) on every lawful curve: the point operations of
prover and verifier succeed on an honest run, the response algebra `t·G = a·G + c·(x·G)` (and its two-generator
form), the side conditions on the coins (`SchnorrGood`, `SchnorrVGood`) and their necessity. -/
set_option autoImplicit false
namespace TssVerif.C10L
open TssVerif Zk Vss

variable {P : Type} {C : Curve P}

theorem ecIsOnCurve_of_lift {a : ECPoint} {pa : P} (h : C.lift a = some pa) : C.ecIsOnCurve a = true := by
  unfold Curve.ecIsOnCurve; unfold Curve.lift at h; rw [h]; rfl

/-- `Vss.ecBaseMult_some` under the name `Lemmas/C05.lean` uses, next to its `ScalarMult` counterpart (the lemma
of the same name in `C11L` is the converse direction) -/
theorem ecBaseMult_nat_ok {a : Nat} {r : ECPoint} (h : C.toAffine (C.smul a C.base) = some r) :
    C.ecBaseMult (a : Int) = .ok r := ecBaseMult_some C h

theorem ecScalarMult_nat_ok {X : ECPoint} {pX : P} {c : Nat} {r : ECPoint} (hl : C.lift X = some pX)
    (h : C.toAffine (C.smul c pX) = some r) : C.ecScalarMult X (c : Int) = .ok r := by
  unfold Curve.ecScalarMult
  rw [hl]
  simp only [Int.natAbs_natCast, h]

theorem ecAdd_ok {a b r : ECPoint} {pa pb : P} (ha : C.lift a = some pa) (hb : C.lift b = some pb)
    (h : C.toAffine (C.add pa pb) = some r) : C.ecAdd a b = .ok r :=
  (C17L.ecAdd_ok_iff C a b r).2 ⟨pa, pb, ha, hb, h⟩

/-- a point has an affine form unless it is the identity of a curve whose identity has none -/
theorem toAffine_some_of (hC : C.Lawful) (a : P) (h : C.toAffine C.zero = none → a ≠ C.zero) :
    ∃ r, C.toAffine a = some r := by
  cases hr : C.toAffine a with
  | some r => exact ⟨r, rfl⟩
  | none =>
    obtain ⟨h1, h2⟩ := (hC.toAffine_eq_none_iff a).1 hr
    exact absurd h1 (h h2)

theorem toAffine_some_of_ne_none (hC : C.Lawful) {a : P} (h : C.toAffine C.zero = none → C.toAffine a ≠ none) :
    ∃ r, C.toAffine a = some r :=
  toAffine_some_of hC a fun hz h0 => h hz (h0 ▸ hz)

/-- `k·p` has an affine form when `p` has one, `q` kills `p`, and (on a curve whose identity has no affine form)
`q ∤ k` -/
theorem toAffine_smul_some (hC : C.Lawful) {p : P} {r : ECPoint} {k : Nat} (hp : C.toAffine p = some r)
    (hpq : C.smul C.q p = C.zero) (hk : C.toAffine C.zero = none → k % C.q ≠ 0) :
    ∃ r', C.toAffine (C.smul k p) = some r' :=
  toAffine_some_of hC _ fun hz h0 => by
    rw [hC.eq_zero_of_smul_eq_zero hpq (hk hz) h0, hz] at hp; cases hp

/-- `c·(x·G)` has an affine form when `x·G` has one and `0 < c < q` -/
theorem toAffine_smul_smul_base_some (hC : C.Lawful) {c x : Nat} {Xp : ECPoint}
    (hX : C.toAffine (C.smul x C.base) = some Xp) (hc : c ≠ 0) (hclt : c < C.q) :
    ∃ r, C.toAffine (C.smul c (C.smul x C.base)) = some r := by
  rw [← hC.smul_mul c x C.base]
  cases hr : C.toAffine (C.smul (c * x) C.base) with
  | some r => exact ⟨r, rfl⟩
  | none =>
    obtain ⟨h1, h2⟩ := (toAffine_smul_base_eq_none_iff hC _).1 hr
    have hcq : c % C.q ≠ 0 := by rw [Nat.mod_eq_of_lt hclt]; exact hc
    have hxq : x % C.q ≠ 0 := by
      intro h0
      have := (toAffine_smul_base_eq_none_iff hC x).2 ⟨h0, h2⟩
      rw [hX] at this; cases this
    exact absurd h1 (mul_mod_ne_zero hC hcq hxq)

/-- the reduction `(a + c·x) mod q` computed on `Int` agrees with the one on `Nat` after reducing `x` -/
theorem resp_eq (q a c : Nat) (x : Int) (hq : 0 < q) :
    ((((a : Int) + (c : Int) * x) % (q : Int)).toNat) = (a + c * (x % (q : Int)).toNat) % q := by
  have hq' : (0 : Int) < q := by exact_mod_cast hq
  have hx0 : 0 ≤ x % (q : Int) := Int.emod_nonneg _ (ne_of_gt hq')
  have e1 : ((x % (q : Int)).toNat : Int) = x % (q : Int) := Int.toNat_of_nonneg hx0
  have e2 : ((a : Int) + (c : Int) * x) % (q : Int) =
      (((a + c * (x % (q : Int)).toNat) % q : Nat) : Int) := by
    push_cast
    rw [e1]
    have : (a : Int) + (c : Int) * x ≡ (a : Int) + (c : Int) * (x % (q : Int)) [ZMOD (q : Int)] :=
      Int.ModEq.add_left _ (Int.ModEq.mul_left _ (Int.mod_modEq x q).symm)
    exact this
  rw [e2, Int.toNat_natCast]

/-- the prover's commitment, as a function of the coin (default `(0, 0)` where the Go code crashes) -/
def schnorrAlpha (C : Curve P) (a : Nat) : ECPoint := (C.toAffine (C.smul a C.base)).getD (0, 0)

/-- the side conditions on the coin `a` of `NewZKProof`: the challenge is non-zero, the response is non-zero
(both are guards of the verifier under `Cfg.schnorrGuards`), and on a curve whose identity has no affine form the
commitment `a·G` is not the identity (`ScalarBaseMult` would crash). -/
def SchnorrGood (C : Curve P) (H : HashFn) (sess : Bytes) (x : Int) (X : ECPoint) (a : Nat) : Prop :=
  (C.toAffine C.zero = none → a % C.q ≠ 0) ∧
  schnorrChallenge C H sess X (schnorrAlpha C a) ≠ 0 ∧
  ((a : Int) + (schnorrChallenge C H sess X (schnorrAlpha C a) : Int) * x) % (C.q : Int) ≠ 0

instance (C : Curve P) (H : HashFn) (sess : Bytes) (x : Int) (X : ECPoint) (a : Nat) :
    Decidable (SchnorrGood C H sess x X a) := by
  unfold SchnorrGood; infer_instance

theorem schnorrChallenge_lt (hC : C.Lawful) (H : HashFn) (sess : Bytes) (X al : ECPoint) :
    schnorrChallenge C H sess X al < C.q := Nat.mod_lt _ hC.q_pos

/-- `NewZKProof` returns exactly when `a·G` has an affine form, and then what -/
theorem schnorrProve_eq_ok_iff (H : HashFn) (sess : Bytes) (x : Int) {X : ECPoint} (a : Nat)
    (hX : C.ecIsOnCurve X = true) (pf : ECPoint × Nat) :
    schnorrProve C H sess x X a = .ok pf ↔
      ∃ al, C.toAffine (C.smul a C.base) = some al ∧
        pf = (al, (((a : Int) + (schnorrChallenge C H sess X al : Int) * x) % (C.q : Int)).toNat) := by
  unfold schnorrProve
  simp only [hX, Bool.not_true, Bool.false_eq_true, if_false, Outcome.bind_eq_ok, Outcome.ok.injEq]
  exact ⟨fun ⟨al, hal, e⟩ => ⟨al, C11L.ecBaseMult_nat_ok hal, e.symm⟩,
    fun ⟨al, hal, e⟩ => ⟨al, ecBaseMult_nat_ok hal, e.symm⟩⟩

theorem schnorr_complete_aux (hC : C.Lawful) (H : HashFn) (sess : Bytes) (x : Int) (X : ECPoint) (a : Nat)
    (hX : C.toAffine (C.smul (x % (C.q : Int)).toNat C.base) = some X)
    (hg : SchnorrGood C H sess x X a) :
    (schnorrProve C H sess x X a >>= fun pf => schnorrVerify C H cur sess X pf.1 pf.2) = .ok true := by
  obtain ⟨ha, hc, ht⟩ := hg
  have hq := hC.q_pos
  set x' := (x % (C.q : Int)).toNat with hx'
  have hlX : C.lift X = some (C.smul x' C.base) := lift_of_toAffine hC hX
  obtain ⟨al, hal⟩ := toAffine_some_of hC (C.smul a C.base) fun hz h0 =>
    ha hz ((hC.smul_base_eq_zero_iff a).1 h0)
  have hsa : schnorrAlpha C a = al := by unfold schnorrAlpha; rw [hal]; rfl
  rw [hsa] at hc ht
  set c := schnorrChallenge C H sess X al with hcdef
  have hclt : c < C.q := schnorrChallenge_lt hC H sess X al
  have htn : ((((a : Int) + (c : Int) * x) % (C.q : Int)).toNat) = (a + c * x') % C.q :=
    resp_eq C.q a c x hq
  set t := (a + c * x') % C.q with htdef
  have htlt : t < C.q := Nat.mod_lt _ hq
  have ht0 : t ≠ 0 := by
    intro h0
    apply ht
    have h0' : (((a : Int) + (c : Int) * x) % (C.q : Int)).toNat = 0 := by rw [htn]; exact h0
    have hnn : 0 ≤ ((a : Int) + (c : Int) * x) % (C.q : Int) :=
      Int.emod_nonneg _ (by exact_mod_cast (ne_of_gt hq))
    omega
  have htq : t % C.q ≠ 0 := by rw [Nat.mod_eq_of_lt htlt]; exact ht0
  obtain ⟨tG, htG⟩ := toAffine_smul_base_isSome hC htq
  have hcX : C.smul c (C.smul x' C.base) = C.smul (c * x') C.base := (hC.smul_mul c x' C.base).symm
  obtain ⟨xc, hxc⟩ := toAffine_smul_smul_base_some hC hX hc hclt
  have hsum : C.toAffine (C.add (C.smul a C.base) (C.smul c (C.smul x' C.base))) = some tG := by
    rw [hcX, ← hC.smul_add, hC.smul_base_mod, ← htdef]; exact htG
  have hprove : schnorrProve C H sess x X a = .ok (al, t) :=
    (schnorrProve_eq_ok_iff H sess x a (ecIsOnCurve_of_lift hlX) _).2 ⟨al, hal, by rw [← hcdef, htn]⟩
  have hverify : schnorrVerify C H cur sess X al t = .ok true :=
    (schnorrVerify_eq_true_iff C H sess X al t).2 ⟨htq, hc, tG, xc, ecBaseMult_nat_ok htG,
      ecScalarMult_nat_ok hlX hxc, ecAdd_ok (lift_of_toAffine hC hal) (lift_of_toAffine hC hxc) hsum⟩
  rw [hprove]
  exact hverify

/-- the side conditions are also NECESSARY: if the honest run is accepted, the coin was good -/
theorem schnorr_good_of_accept (hC : C.Lawful) (H : HashFn) (sess : Bytes) (x : Int) (X : ECPoint) (a : Nat)
    (hX : C.toAffine (C.smul (x % (C.q : Int)).toNat C.base) = some X)
    (h : (schnorrProve C H sess x X a >>= fun pf => schnorrVerify C H cur sess X pf.1 pf.2) = .ok true) :
    SchnorrGood C H sess x X a := by
  have hlX : C.lift X = some (C.smul (x % (C.q : Int)).toNat C.base) := lift_of_toAffine hC hX
  obtain ⟨pf, hp, h⟩ := Outcome.bind_eq_ok.1 h
  obtain ⟨al, hr, rfl⟩ := (schnorrProve_eq_ok_iff H sess x a (ecIsOnCurve_of_lift hlX) pf).1 hp
  have hsa : schnorrAlpha C a = al := by unfold schnorrAlpha; rw [hr]; rfl
  have ha : C.toAffine C.zero = none → a % C.q ≠ 0 := by
    intro hz h0
    have := (toAffine_smul_base_eq_none_iff hC a).2 ⟨h0, hz⟩
    rw [hr] at this; cases this
  unfold SchnorrGood
  rw [hsa]
  obtain ⟨ht, hc, -⟩ := (schnorrVerify_eq_true_iff C H sess X al _).1 h
  exact ⟨ha, hc, fun h0 => ht (by rw [h0]; rfl)⟩

theorem smul_mod_of_order (hC : C.Lawful) {p : P} (hq : C.smul C.q p = C.zero) (k : Nat) :
    C.smul (k % C.q) p = C.smul k p := by
  conv_rhs => rw [← Nat.div_add_mod k C.q, Nat.mul_comm]
  rw [hC.smul_add, hC.smul_mul, hq, hC.smul_zero_right, hC.zero_add]

theorem smul_q_comb (hC : C.Lawful) {p : P} (hq : C.smul C.q p = C.zero) (s l : Nat) :
    C.smul C.q (C.add (C.smul s p) (C.smul l C.base)) = C.zero := by
  rw [hC.smul_add_right, ← hC.smul_mul, ← hC.smul_mul, Nat.mul_comm C.q s, Nat.mul_comm C.q l,
    hC.smul_mul, hC.smul_mul, hq, hC.smul_q_base, hC.smul_zero_right, hC.smul_zero_right, hC.zero_add]

theorem sv_algebra (hC : C.Lawful) (a b c s l : Nat) (p : P) :
    C.add (C.smul (a + c * s) p) (C.smul (b + c * l) C.base) =
      C.add (C.add (C.smul a p) (C.smul b C.base)) (C.smul c (C.add (C.smul s p) (C.smul l C.base))) := by
  rw [hC.smul_add, hC.smul_add, hC.smul_mul, hC.smul_mul, hC.smul_add_right]
  let := hC.groupLaws.addCommGroup
  exact add_add_add_comm (C.smul a p) (C.smul c (C.smul s p)) (C.smul b C.base) (C.smul c (C.smul l C.base))

def svPoint (C : Curve P) (pR : P) (a b : Nat) : P := C.add (C.smul a pR) (C.smul b C.base)

def svAlpha (C : Curve P) (pR : P) (a b : Nat) : ECPoint := (C.toAffine (svPoint C pR a b)).getD (0, 0)

/-- side conditions on the coins `a, b` of `NewZKVProof` (`pR` is the internal form of `R`): challenge and both
responses non-zero; on a curve whose identity has no affine form, additionally none of `a·R`, `b·G`,
`a·R + b·G` and `t·R + u·G` is the identity. -/
def SchnorrVGood (C : Curve P) (H : HashFn) (sess : Bytes) (V R : ECPoint) (pR : P) (s l : Int) (a b : Nat) : Prop :=
  let c := schnorrVChallenge C H sess V R (svAlpha C pR a b)
  let t := (((a : Int) + (c : Int) * s) % (C.q : Int)).toNat
  let u := (((b : Int) + (c : Int) * l) % (C.q : Int)).toNat
  c ≠ 0 ∧ t ≠ 0 ∧ u ≠ 0 ∧
  (C.toAffine C.zero = none → a % C.q ≠ 0 ∧ b % C.q ≠ 0 ∧ C.toAffine (svPoint C pR a b) ≠ none ∧
    C.toAffine (svPoint C pR t u) ≠ none)

instance (C : Curve P) (H : HashFn) (sess : Bytes) (V R : ECPoint) (pR : P) (s l : Int) (a b : Nat) :
    Decidable (SchnorrVGood C H sess V R pR s l a b) := by
  unfold SchnorrVGood; infer_instance

/-- `NewZKVProof` returns exactly when `a·R`, `b·G` and their sum have affine forms, and then what -/
theorem schnorrVProve_eq_ok_iff (hC : C.Lawful) (H : HashFn) (sess : Bytes) {V R : ECPoint} {pR : P} (s l : Int)
    (a b : Nat) (hV : C.ecIsOnCurve V = true) (hR : C.lift R = some pR) (pf : ECPoint × Nat × Nat) :
    schnorrVProve C H sess V R s l a b = .ok pf ↔
      ∃ aR bG al, C.toAffine (C.smul a pR) = some aR ∧ C.toAffine (C.smul b C.base) = some bG ∧
        C.toAffine (svPoint C pR a b) = some al ∧
        pf = (al, ((((a : Int) + (schnorrVChallenge C H sess V R al : Int) * s) % (C.q : Int)).toNat,
          (((b : Int) + (schnorrVChallenge C H sess V R al : Int) * l) % (C.q : Int)).toNat)) := by
  have hR1 : C.ecIsOnCurve R = true := ecIsOnCurve_of_lift hR
  unfold schnorrVProve
  simp only [hV, hR1, Bool.not_true, Bool.or_self, Bool.false_eq_true, if_false]
  constructor
  · intro h
    obtain ⟨aR, haR, h⟩ := Outcome.bind_eq_ok.1 h
    obtain ⟨bG, hbG, h⟩ := Outcome.bind_eq_ok.1 h
    obtain ⟨pR', hR', haR'⟩ := C11L.ecScalarMult_nat_ok haR
    rw [hR] at hR'
    cases hR'
    cases hadd : C.ecAdd aR bG with
    | ok al =>
      rw [hadd] at h
      exact ⟨aR, bG, al, haR', C11L.ecBaseMult_nat_ok hbG,
        C11L.ecAdd_ok_both hC haR' (C11L.ecBaseMult_nat_ok hbG) hadd, (Outcome.ok.inj h).symm⟩
    | err e => rw [hadd] at h; cases h
    | panic e => rw [hadd] at h; cases h
  · rintro ⟨aR, bG, al, haR, hbG, hal, rfl⟩
    rw [ecScalarMult_nat_ok hR haR, Outcome.ok_bind, ecBaseMult_nat_ok hbG, Outcome.ok_bind,
      ecAdd_ok (lift_of_toAffine hC haR) (lift_of_toAffine hC hbG) hal]

theorem schnorrV_complete_aux (hC : C.Lawful) (H : HashFn) (sess : Bytes) (V R : ECPoint) (pR : P)
    (s l : Int) (a b : Nat)
    (hR : C.lift R = some pR) (hRq : C.smul C.q pR = C.zero)
    (hV : C.toAffine (C.add (C.smul (s % (C.q : Int)).toNat pR) (C.smul (l % (C.q : Int)).toNat C.base)) = some V)
    (hg : SchnorrVGood C H sess V R pR s l a b) :
    (schnorrVProve C H sess V R s l a b >>= fun pf => schnorrVVerify C H cur sess V R pf.1 pf.2.1 pf.2.2)
      = .ok true := by
  have hq := hC.q_pos
  set pV := C.add (C.smul (s % (C.q : Int)).toNat pR) (C.smul (l % (C.q : Int)).toNat C.base) with hpV
  have hlV : C.lift V = some pV := lift_of_toAffine hC hV
  have hRaff : C.toAffine pR = some R := hC.ofAffine_toAffine _ _ _ hR
  unfold SchnorrVGood at hg
  obtain ⟨al, hal⟩ := toAffine_some_of_ne_none hC fun hz => (hg.2.2.2 hz).2.2.1
  have hlal : C.lift al = some (svPoint C pR a b) := lift_of_toAffine hC hal
  rw [show svAlpha C pR a b = al by unfold svAlpha; rw [hal]; rfl] at hg
  obtain ⟨hc, ht0, hu0, hW⟩ := hg
  set c := schnorrVChallenge C H sess V R al with hcdef
  set t := (((a : Int) + (c : Int) * s) % (C.q : Int)).toNat with htdef
  set u := (((b : Int) + (c : Int) * l) % (C.q : Int)).toNat with hudef
  have htq : t % C.q ≠ 0 := by rw [Nat.mod_eq_of_lt (emod_toNat_lt _ hq)]; exact ht0
  have huq : u % C.q ≠ 0 := by rw [Nat.mod_eq_of_lt (emod_toNat_lt _ hq)]; exact hu0
  have hcq : c % C.q ≠ 0 := by rw [Nat.mod_eq_of_lt (show c < C.q from Nat.mod_lt _ hq)]; exact hc
  -- the seven points of the run have affine forms
  obtain ⟨aR, haR⟩ := toAffine_smul_some hC hRaff hRq fun hz => (hW hz).1
  obtain ⟨bG, hbG⟩ := toAffine_some_of hC (C.smul b C.base) fun hz h0 =>
    (hW hz).2.1 ((hC.smul_base_eq_zero_iff b).1 h0)
  obtain ⟨tR, htR⟩ := toAffine_smul_some hC hRaff hRq fun _ => htq
  obtain ⟨uG, huG⟩ := toAffine_smul_base_isSome hC huq
  obtain ⟨vc, hvc⟩ := toAffine_smul_some hC hV (smul_q_comb hC hRq _ _) fun _ => hcq
  obtain ⟨w, hw⟩ := toAffine_some_of_ne_none hC fun hz => (hW hz).2.2.2
  -- `t·R + u·G = (a·R + b·G) + c·V`
  have halg : svPoint C pR t u = C.add (svPoint C pR a b) (C.smul c pV) := by
    unfold svPoint
    rw [htdef, hudef, resp_eq C.q a c s hq, resp_eq C.q b c l hq, smul_mod_of_order hC hRq, ← hC.smul_base_mod,
      sv_algebra hC]
  rw [(schnorrVProve_eq_ok_iff hC H sess s l a b (ecIsOnCurve_of_lift hlV) hR _).2
    ⟨aR, bG, al, haR, hbG, hal, rfl⟩]
  exact (schnorrVVerify_eq_true_iff C H sess V R al t u).2 ⟨ecIsOnCurve_of_lift hlal, htq, huq, hc, tR, uG, w, vc,
    ecScalarMult_nat_ok hR htR, ecBaseMult_nat_ok huG,
    ecAdd_ok (lift_of_toAffine hC htR) (lift_of_toAffine hC huG) hw, ecScalarMult_nat_ok hlV hvc,
    ecAdd_ok hlal (lift_of_toAffine hC hvc) (halg ▸ hw)⟩

/-- the side conditions of Schnorr-V are also NECESSARY -/
theorem schnorrV_good_of_accept (hC : C.Lawful) (H : HashFn) (sess : Bytes) (V R : ECPoint) (pR : P)
    (s l : Int) (a b : Nat)
    (hR : C.lift R = some pR) (hRq : C.smul C.q pR = C.zero)
    (hV : C.toAffine (C.add (C.smul (s % (C.q : Int)).toNat pR) (C.smul (l % (C.q : Int)).toNat C.base)) = some V)
    (h : (schnorrVProve C H sess V R s l a b >>= fun pf => schnorrVVerify C H cur sess V R pf.1 pf.2.1 pf.2.2)
      = .ok true) :
    SchnorrVGood C H sess V R pR s l a b := by
  have hq := hC.q_pos
  have hlV : C.lift V = some _ := lift_of_toAffine hC hV
  have h1 : C.ecIsOnCurve V = true := ecIsOnCurve_of_lift hlV
  -- the prover returned, so its three points exist
  obtain ⟨pf, hp, h⟩ := Outcome.bind_eq_ok.1 h
  obtain ⟨aR, bG, al, haR, hbG, hal, rfl⟩ := (schnorrVProve_eq_ok_iff hC H sess s l a b h1 hR pf).1 hp
  have hsa : svAlpha C pR a b = al := by unfold svAlpha; rw [hal]; rfl
  unfold SchnorrVGood
  rw [hsa]
  set c := schnorrVChallenge C H sess V R al with hcdef
  set t := (((a : Int) + (c : Int) * s) % (C.q : Int)).toNat with htdef
  set u := (((b : Int) + (c : Int) * l) % (C.q : Int)).toNat with hudef
  change schnorrVVerify C H cur sess V R al t u = .ok true at h
  have htlt : t < C.q := emod_toNat_lt _ hq
  have hult : u < C.q := emod_toNat_lt _ hq
  obtain ⟨-, ht0, hu0, hc0, tR, uG, w, vc, htR, huG, hadd, -, -⟩ :=
    (schnorrVVerify_eq_true_iff C H sess V R al t u).1 h
  rw [Nat.mod_eq_of_lt htlt] at ht0
  rw [Nat.mod_eq_of_lt hult] at hu0
  -- the verifier added `t·R` and `u·G`, so their sum has an affine form
  have hw : C.toAffine (svPoint C pR t u) = some w := by
    obtain ⟨pR', hR', htR'⟩ := C11L.ecScalarMult_nat_ok htR
    rw [hR] at hR'
    cases hR'
    exact C11L.ecAdd_ok_both hC htR' (C11L.ecBaseMult_nat_ok huG) hadd
  refine ⟨hc0, ht0, hu0, fun hz => ⟨?_, ?_, by rw [hal]; simp, by rw [hw]; simp⟩⟩
  · intro h0
    have : C.smul a pR = C.zero := by
      rw [← smul_mod_of_order hC hRq a, h0]; rfl
    rw [this, hz] at haR; cases haR
  · intro h0
    have := (toAffine_smul_base_eq_none_iff hC b).2 ⟨h0, hz⟩
    rw [hbG] at this; cases this

end TssVerif.C10L
