import TssVerif.Core.OpsZk
import TssVerif.Lemmas.C16
import TssVerif.Lemmas.VssVerify
/-! The wire arity rule (`common.NonEmptyMultiBytes`) and `Bytes()` / `SetBytes` round trips of proof parts. -/
set_option autoImplicit false
namespace TssVerif.C10L
open TssVerif Zk

theorem natToBytesBE_eq_nil_iff (n : Nat) : natToBytesBE n = [] ↔ n = 0 := by
  unfold natToBytesBE
  rw [List.reverse_eq_nil_iff, natToBytesLE]
  split
  · next h => simp [h]
  · next h => simp [h]

theorem intToBytesBE_eq_nil_iff (z : Int) : intToBytesBE z = [] ↔ z = 0 := by
  unfold intToBytesBE
  rw [natToBytesBE_eq_nil_iff]
  omega

theorem bytesToNat_intToBytesBE (z : Int) : bytesToNat (intToBytesBE z) = z.natAbs :=
  C16L.bytesToNat_natToBytesBE _

/-- the wire round trip, completely: it succeeds iff the arity matches, is non-zero, and no part is zero; and it
returns the ABSOLUTE VALUES of the parts -/
theorem wireRoundTrip_eq (parts : List Int) (n : Nat) :
    wireRoundTrip parts n =
      if parts.length = n ∧ n ≠ 0 ∧ ∀ p ∈ parts, p ≠ 0 then some (parts.map Int.natAbs) else none := by
  unfold wireRoundTrip nonEmptyMultiBytes
  have hmap : (parts.map intToBytesBE).map bytesToNat = parts.map Int.natAbs := by
    rw [List.map_map]; apply List.map_congr_left; intro p _; exact bytesToNat_intToBytesBE p
  have hc : (!(parts.map intToBytesBE).isEmpty && (parts.map intToBytesBE).length == n &&
      (parts.map intToBytesBE).all fun b => !b.isEmpty) = true ↔
      (parts.length = n ∧ n ≠ 0 ∧ ∀ p ∈ parts, p ≠ 0) := by
    simp only [Bool.and_eq_true, Bool.not_eq_eq_eq_not, Bool.not_true, List.isEmpty_eq_false_iff, ne_eq,
      List.map_eq_nil_iff, List.length_map, beq_iff_eq, List.all_eq_true, List.mem_map, forall_exists_index,
      and_imp, forall_apply_eq_imp_iff₂, intToBytesBE_eq_nil_iff]
    constructor
    · rintro ⟨⟨h1, h2⟩, h3⟩
      refine ⟨h2, ?_, h3⟩
      rintro rfl
      exact h1 (List.length_eq_zero_iff.1 h2)
    · rintro ⟨h1, h2, h3⟩
      refine ⟨⟨?_, h1⟩, h3⟩
      rintro rfl
      exact h2 h1.symm
  simp only [hmap]
  by_cases h : parts.length = n ∧ n ≠ 0 ∧ ∀ p ∈ parts, p ≠ 0
  · rw [if_pos (hc.2 h), if_pos h]
  · rw [if_neg (fun h' => h (hc.1 h')), if_neg h]

theorem map_natAbs_eq_toNat {parts : List Int} (h : ∀ p ∈ parts, 0 ≤ p) :
    parts.map Int.natAbs = parts.map Int.toNat := by
  apply List.map_congr_left
  intro p hp
  have := h p hp
  omega

open OpsZk

theorem facOfList_toList (f : FacProof) : facOfList (facToList f) = some f := rfl
theorem rangeOfList_toList (f : RangeProof) : rangeOfList (rangeToList f) = some f := rfl
theorem bobOfList_toList (f : BobProof) : bobOfList (bobToList f) = some f := rfl

end TssVerif.C10L
