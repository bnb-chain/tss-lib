import TssVerif.Core.Sign
import TssVerif.Lemmas.C16
/-! Byte-level facts used by `finalize` and by the EdDSA encoders: width of the minimal big-endian
encoding, left padding, and the little-endian helpers of `eddsa/signing/utils.go`. Core tactics only. -/
set_option autoImplicit false
namespace TssVerif.AlgL
open TssVerif

/-- `n` has at most `k` base-256 digits exactly when `n < 256^k` -/
theorem natToBytesLE_length_le_iff (k : Nat) : ∀ n : Nat, (natToBytesLE n).length ≤ k ↔ n < 256 ^ k := by
  induction k with
  | zero =>
    intro n
    rw [natToBytesLE]
    split
    · next h => simp [h]
    · next h => simp; omega
  | succ k ih =>
    intro n
    rw [natToBytesLE]
    split
    · next h => simp [h, Nat.pow_pos]
    · rw [List.length_cons, Nat.succ_le_succ_iff, ih, Nat.div_lt_iff_lt_mul (by decide), Nat.pow_succ]

theorem natToBytesBE_length_le {k n : Nat} (h : n < 256 ^ k) : (natToBytesBE n).length ≤ k := by
  unfold natToBytesBE
  rw [List.length_reverse]
  exact (natToBytesLE_length_le_iff k n).2 h

theorem natToBytesBE_length_le_32 {n : Nat} (h : n < 2 ^ 256) : (natToBytesBE n).length ≤ 32 :=
  natToBytesBE_length_le (k := 32) (by
    have : (256 : Nat) ^ 32 = 2 ^ 256 := by decide
    omega)

theorem natToBytesLE_length_gt (k n : Nat) (h : 256 ^ k ≤ n) : k < (natToBytesLE n).length :=
  Nat.lt_of_not_le fun hle => absurd ((natToBytesLE_length_le_iff k n).1 hle) (Nat.not_lt.2 h)

theorem natToBytesBE_length_gt {k n : Nat} (h : 256 ^ k ≤ n) : k < (natToBytesBE n).length := by
  unfold natToBytesBE
  rw [List.length_reverse]
  exact natToBytesLE_length_gt k n h

theorem bytesToNat_foldl_zeros (k : Nat) (b : Bytes) (acc : Nat) :
    (List.replicate k (0 : UInt8) ++ b).foldl (fun acc x => acc * 256 + x.toNat) acc =
      b.foldl (fun acc x => acc * 256 + x.toNat) (acc * 256 ^ k) := by
  induction k generalizing acc with
  | zero => simp
  | succ k ih =>
    rw [List.replicate_succ, List.cons_append, List.foldl_cons, ih]
    congr 1
    show (acc * 256 + 0) * 256 ^ k = acc * 256 ^ (k + 1)
    rw [Nat.add_zero, Nat.pow_succ, Nat.mul_assoc, Nat.mul_comm 256]

theorem bytesToNat_padLeft (len : Nat) (b : Bytes) : bytesToNat (padLeft len b) = bytesToNat b := by
  unfold bytesToNat padLeft
  rw [bytesToNat_foldl_zeros, Nat.zero_mul]

theorem padLeft_length (len : Nat) (b : Bytes) : (padLeft len b).length = max len b.length := by
  unfold padLeft
  rw [List.length_append, List.length_replicate]
  omega

theorem padLeft_length_of_le {len : Nat} {b : Bytes} (h : b.length ≤ len) :
    (padLeft len b).length = len := by
  rw [padLeft_length]; omega

theorem padLeft_of_ge {len : Nat} {b : Bytes} (h : len ≤ b.length) : padLeft len b = b := by
  unfold padLeft
  rw [Nat.sub_eq_zero_of_le h]
  rfl

theorem padLeft_zero (b : Bytes) : padLeft 0 b = b := padLeft_of_ge (Nat.zero_le _)

theorem padLeft32_natToBytesBE {n : Nat} (h : n < 2 ^ 256) :
    (padLeft 32 (natToBytesBE n)).length = 32 ∧ bytesToNat (padLeft 32 (natToBytesBE n)) = n :=
  ⟨padLeft_length_of_le (natToBytesBE_length_le_32 h),
   by rw [bytesToNat_padLeft, C16L.bytesToNat_natToBytesBE]⟩

theorem enc_roundtrip {a : Nat} (h : a < 2 ^ 256) :
    Sign.Ed.encodedBytesToBigInt (Sign.Ed.bigIntToEncodedBytes a) = a := by
  unfold Sign.Ed.encodedBytesToBigInt Sign.Ed.bigIntToEncodedBytes
  rw [List.reverse_reverse, List.take_of_length_le (by rw [(padLeft32_natToBytesBE h).1]; exact Nat.le_refl _)]
  exact (padLeft32_natToBytesBE h).2

/-- for a value of more than 32 bytes the encoder keeps the 32 MOST significant bytes -/
theorem bigIntToEncodedBytes_of_ge {a : Nat} (h : 2 ^ 256 ≤ a) :
    Sign.Ed.bigIntToEncodedBytes a = ((natToBytesBE a).take 32).reverse := by
  unfold Sign.Ed.bigIntToEncodedBytes
  have : 32 < (natToBytesBE a).length := natToBytesBE_length_gt (k := 32) (by
    have : (256 : Nat) ^ 32 = 2 ^ 256 := by decide
    omega)
  rw [padLeft_of_ge (by omega)]

theorem foldl_bytes_acc (b : Bytes) (acc : Nat) :
    b.foldl (fun acc x => acc * 256 + x.toNat) acc = acc * 256 ^ b.length + bytesToNat b := by
  unfold bytesToNat
  induction b generalizing acc with
  | nil => simp
  | cons x b ih =>
    rw [List.foldl_cons, List.foldl_cons, ih, ih (0 * 256 + x.toNat), List.length_cons, Nat.pow_succ]
    simp only [Nat.zero_mul, Nat.zero_add, Nat.add_mul]
    rw [Nat.mul_assoc, Nat.mul_comm 256, Nat.add_assoc]

theorem bytesToNat_append (a b : Bytes) :
    bytesToNat (a ++ b) = bytesToNat a * 256 ^ b.length + bytesToNat b := by
  show (a ++ b).foldl _ 0 = _
  rw [List.foldl_append, foldl_bytes_acc]
  rfl

theorem bytesToNat_cons (x : UInt8) (b : Bytes) :
    bytesToNat (x :: b) = x.toNat * 256 ^ b.length + bytesToNat b := by
  show (x :: b).foldl _ 0 = _
  rw [List.foldl_cons, foldl_bytes_acc, Nat.zero_mul, Nat.zero_add]

theorem bytesToNat_lt (b : Bytes) : bytesToNat b < 256 ^ b.length := by
  induction b with
  | nil => decide
  | cons x b ih =>
    rw [bytesToNat_cons, List.length_cons, Nat.pow_succ]
    have h1 := x.toNat_lt
    have h2 : x.toNat * 256 ^ b.length ≤ 255 * 256 ^ b.length := Nat.mul_le_mul_right _ (by omega)
    omega

theorem bytesToNat_take (b : Bytes) (k : Nat) :
    bytesToNat (b.take k) = bytesToNat b / 256 ^ (b.length - k) := by
  have h := bytesToNat_append (b.take k) (b.drop k)
  rw [List.take_append_drop, List.length_drop] at h
  have hlt := bytesToNat_lt (b.drop k)
  rw [List.length_drop] at hlt
  rw [h, Nat.add_comm, Nat.add_mul_div_right _ _ (Nat.pow_pos (by decide)), Nat.div_eq_of_lt hlt,
    Nat.zero_add]

end TssVerif.AlgL
