import TssVerif.Lemmas.C17Proj
/-! The Go-level point API of `Core/Curve.lean` (`ecNew`, `unflatten`, `ecAdd`, `ecScalarMult`, `ecBaseMult`)
characterised outcome by outcome; the equations of the two concrete curves read in `ZMod p`; cofactor clearing in
an abstract group. -/
namespace TssVerif.C17L
open TssVerif

/-! ## generic API: decoders -/
section generic
variable {P : Type} (C : Curve P)

theorem ecNew_eq_some_iff {x y : Nat} {p : ECPoint} :
    C.ecNew x y = some p ↔ C.ecIsOnCurve (x, y) = true ∧ p = (x, y) := by
  unfold Curve.ecNew Curve.ecIsOnCurve
  cases h : C.ofAffine x y <;> simp [eq_comm]

theorem ecNew_isSome_iff {x y : Nat} :
    (C.ecNew x y).isSome = true ↔ C.ecIsOnCurve (x, y) = true := by
  unfold Curve.ecNew Curve.ecIsOnCurve
  cases h : C.ofAffine x y <;> simp

theorem ecNew_of_onCurve {x y : Nat} (h : C.ecIsOnCurve (x, y) = true) : C.ecNew x y = some (x, y) :=
  (ecNew_eq_some_iff C).2 ⟨h, rfl⟩

theorem unflatten_cons_cons (x y : Nat) (rest : List Nat) :
    C.unflatten (x :: y :: rest) = (C.ecNew x y).bind fun p => (C.unflatten rest).map (p :: ·) := by
  rw [Curve.unflatten]
  cases C.ecNew x y <;> cases C.unflatten rest <;> rfl

theorem unflatten_eq_some_iff : ∀ (xs : List Nat) (ps : List ECPoint),
    C.unflatten xs = some ps ↔ xs = flatten ps ∧ ∀ p ∈ ps, C.ecIsOnCurve p = true
  | [], ps => by cases ps <;> simp [Curve.unflatten, flatten]
  | [a], ps => by cases ps <;> simp [Curve.unflatten, flatten]
  | x :: y :: rest, ps => by
    simp only [unflatten_cons_cons, Option.bind_eq_some_iff, Option.map_eq_some_iff, ecNew_eq_some_iff,
      unflatten_eq_some_iff rest]
    obtain _ | ⟨⟨p1, p2⟩, ps⟩ := ps
    · simp [flatten]
    · simp only [flatten, List.flatMap_cons, List.cons_append, List.nil_append, List.cons.injEq,
        List.mem_cons, forall_eq_or_imp]
      constructor
      · rintro ⟨_, ⟨h, rfl⟩, _, ⟨rfl, hq⟩, ⟨rfl, rfl⟩, rfl⟩
        exact ⟨⟨rfl, rfl, rfl⟩, h, hq⟩
      · rintro ⟨⟨rfl, rfl, rfl⟩, h, hq⟩
        exact ⟨_, ⟨h, rfl⟩, _, ⟨rfl, hq⟩, rfl, rfl⟩

theorem flatten_length (ps : List ECPoint) : (flatten ps).length = 2 * ps.length := by
  induction ps with
  | nil => rfl
  | cons p ps ih => simp [flatten] at ih ⊢; omega

theorem flatten_injective : ∀ {ps qs : List ECPoint}, flatten ps = flatten qs → ps = qs
  | [], [] => fun _ => rfl
  | [], q :: qs => by simp [flatten]
  | p :: ps, [] => by simp [flatten]
  | (p1, p2) :: ps, (q1, q2) :: qs => by
    intro h
    simp only [flatten, List.flatMap_cons, List.cons_append, List.nil_append, List.cons.injEq] at h
    obtain ⟨rfl, rfl, h⟩ := h
    rw [flatten_injective (ps := ps) (qs := qs) h]

end generic

/-! ## secp256k1 -/

theorem secp_onCurve_iff (x y : Nat) : Secp256k1.onCurve x y = true ↔
    x < Secp256k1.p ∧ y < Secp256k1.p ∧ y * y % Secp256k1.p = (x * x % Secp256k1.p * x + 7) % Secp256k1.p := by
  simp [Secp256k1.onCurve, and_assoc]

theorem secp_ecIsOnCurve_iff (x y : Nat) : Secp256k1.curve.ecIsOnCurve (x, y) = true ↔
    x < Secp256k1.p ∧ y < Secp256k1.p ∧ y * y % Secp256k1.p = (x * x % Secp256k1.p * x + 7) % Secp256k1.p := by
  rw [← secp_onCurve_iff]
  simp only [Curve.ecIsOnCurve, Secp256k1.curve]
  split <;> simp_all

theorem secp_eqn_iff_zmod (x y : Nat) :
    y * y % Secp256k1.p = (x * x % Secp256k1.p * x + 7) % Secp256k1.p ↔
      ((y : ZMod Secp256k1.p) ^ 2 = (x : ZMod Secp256k1.p) ^ 3 + 7) := by
  rw [← ZMod.natCast_eq_natCast_iff']
  push_cast [ZMod.natCast_mod]
  constructor <;> intro h <;> linear_combination h

theorem secp_eqn_iff_modEq (x y : Nat) :
    y * y % Secp256k1.p = (x * x % Secp256k1.p * x + 7) % Secp256k1.p ↔ y ^ 2 ≡ x ^ 3 + 7 [MOD Secp256k1.p] := by
  rw [secp_eqn_iff_zmod, ← ZMod.natCast_eq_natCast_iff]
  push_cast
  rfl

/-! ## ed25519 -/

theorem ed_onCurve_iff (x y : Nat) : Ed25519.onCurve x y = true ↔
    x < Ed25519.p ∧ y < Ed25519.p ∧
      (y * y + (Ed25519.p - x * x % Ed25519.p)) % Ed25519.p =
        (1 + Ed25519.d * (x * x % Ed25519.p) % Ed25519.p * (y * y % Ed25519.p)) % Ed25519.p := by
  simp [Ed25519.onCurve, and_assoc]

theorem ed_ecIsOnCurve_iff (x y : Nat) : Ed25519.curve.ecIsOnCurve (x, y) = true ↔
    x < Ed25519.p ∧ y < Ed25519.p ∧
      (y * y + (Ed25519.p - x * x % Ed25519.p)) % Ed25519.p =
        (1 + Ed25519.d * (x * x % Ed25519.p) % Ed25519.p * (y * y % Ed25519.p)) % Ed25519.p := by
  rw [← ed_onCurve_iff]
  simp only [Curve.ecIsOnCurve, Ed25519.curve]
  split <;> simp_all

theorem ed_eqn_iff_zmod (x y : Nat) :
    (y * y + (Ed25519.p - x * x % Ed25519.p)) % Ed25519.p =
        (1 + Ed25519.d * (x * x % Ed25519.p) % Ed25519.p * (y * y % Ed25519.p)) % Ed25519.p ↔
      (-(x : ZMod Ed25519.p) ^ 2 + (y : ZMod Ed25519.p) ^ 2
        = 1 + (Ed25519.d : ZMod Ed25519.p) * (x : ZMod Ed25519.p) ^ 2 * (y : ZMod Ed25519.p) ^ 2) := by
  rw [← ZMod.natCast_eq_natCast_iff']
  push_cast [ZMod.natCast_mod, natCast_sub_self (Nat.mod_lt _ ed_p_pos).le]
  constructor <;> intro h <;> linear_combination h

/-! ## secp256k1: a point plus its negative -/

theorem neg_mod_sq {p y : Nat} (h : y < p) : ((p - y) % p) * ((p - y) % p) % p = y * y % p := by
  rw [← ZMod.natCast_eq_natCast_iff']
  push_cast [ZMod.natCast_mod, natCast_sub_self h.le]
  ring

theorem secp_neg_onCurve {x y : Nat} (h : Secp256k1.onCurve x y = true) :
    Secp256k1.onCurve x ((Secp256k1.p - y) % Secp256k1.p) = true := by
  rw [secp_onCurve_iff] at h ⊢
  obtain ⟨hx, hy, he⟩ := h
  refine ⟨hx, Nat.mod_lt _ (by omega), ?_⟩
  rw [neg_mod_sq hy, he]

theorem secp_p_odd : Secp256k1.p % 2 = 1 := by decide

theorem secp_add_neg {x y : Nat} (hy : y < Secp256k1.p) :
    Secp256k1.add (some (x, y)) (some (x, (Secp256k1.p - y) % Secp256k1.p)) = none := by
  unfold Secp256k1.add
  simp only [if_true]
  by_cases h0 : y = 0
  · subst h0
    simp [Secp256k1.double]
  · have hne : y ≠ (Secp256k1.p - y) % Secp256k1.p := by
      have := secp_p_odd
      rw [Nat.mod_eq_of_lt (by omega)]
      omega
    simp [hne]

theorem secp_ecAdd_neg {x y : Nat} (h : Secp256k1.curve.ecIsOnCurve (x, y) = true) :
    Secp256k1.curve.ecAdd (x, y) (x, (Secp256k1.p - y) % Secp256k1.p) = .err "not-on-curve" := by
  have h1 : Secp256k1.onCurve x y = true := by
    rw [secp_onCurve_iff, ← secp_ecIsOnCurve_iff]; exact h
  have h2 := secp_neg_onCurve h1
  have hy : y < Secp256k1.p := ((secp_onCurve_iff x y).1 h1).2.1
  simp only [Curve.ecAdd, Curve.lift, Secp256k1.curve, h1, h2, if_true, id, secp_add_neg hy]

/-! ## cofactor clearing in an abstract commutative group -/
section cofactor
variable {G : Type*} [AddCommMonoid G]

/-- (i) the image of `x ↦ (8e)•x` on the `8q`-torsion is killed by `q` -/
theorem cofactor_image_order (q e : Nat) (x : G) (hx : (8 * q) • x = 0) : q • ((8 * e) • x) = 0 := by
  rw [← mul_nsmul]
  have : 8 * e * q = (8 * q) * e := by ring
  rw [this, mul_nsmul, hx, nsmul_zero]

/-- on `q`-torsion, a multiple only depends on the multiplier mod `q` -/
theorem nsmul_mod_of_torsion {q : Nat} {x : G} (hx : q • x = 0) (n : Nat) : n • x = (n % q) • x := by
  conv_lhs => rw [← Nat.div_add_mod n q, add_nsmul, mul_nsmul, hx, nsmul_zero, zero_add]

/-- (ii) `q`-torsion points are fixed -/
theorem cofactor_fix (q e : Nat) (he : 8 * e ≡ 1 [MOD q]) (x : G) (hx : q • x = 0) : (8 * e) • x = x := by
  rw [nsmul_mod_of_torsion hx, he, ← nsmul_mod_of_torsion hx, one_nsmul]

/-- (iii) adding an 8-torsion point does not change the image -/
theorem cofactor_kill_torsion (e : Nat) (x t : G) (ht : 8 • t = 0) : (8 * e) • (x + t) = (8 * e) • x := by
  rw [nsmul_add, mul_nsmul t, ht, nsmul_zero, add_zero]

end cofactor

/-! ## generic API: outcomes -/
section outcomes
variable {P : Type} (C : Curve P)

theorem ecAdd_cases (a b : ECPoint) :
    (∃ pa pb r, C.lift a = some pa ∧ C.lift b = some pb ∧ C.toAffine (C.add pa pb) = some r ∧ C.ecAdd a b = .ok r) ∨
    (∃ pa pb, C.lift a = some pa ∧ C.lift b = some pb ∧ C.toAffine (C.add pa pb) = none ∧ C.ecAdd a b = .err "not-on-curve") ∨
    ((C.lift a = none ∨ C.lift b = none) ∧ C.ecAdd a b = .err "operand-not-on-curve") := by
  unfold Curve.ecAdd
  cases ha : C.lift a with
  | none => simp
  | some pa =>
    cases hb : C.lift b with
    | none => simp
    | some pb =>
      cases hr : C.toAffine (C.add pa pb) with
      | none => simp [hr]
      | some r => simp [hr]

theorem ecScalarMult_cases (a : ECPoint) (k : Int) :
    (∃ pa r, C.lift a = some pa ∧ C.toAffine (C.smul k.natAbs pa) = some r ∧ C.ecScalarMult a k = .ok r) ∨
    (∃ pa, C.lift a = some pa ∧ C.toAffine (C.smul k.natAbs pa) = none ∧ C.ecScalarMult a k = .panic "scalar-mult-identity") ∨
    (C.lift a = none ∧ C.ecScalarMult a k = .err "operand-not-on-curve") := by
  unfold Curve.ecScalarMult
  cases ha : C.lift a with
  | none => simp
  | some pa =>
    cases hr : C.toAffine (C.smul k.natAbs pa) with
    | none => simp [hr]
    | some r => simp [hr]

theorem ecBaseMult_cases (k : Int) :
    (∃ r, C.toAffine (C.smul k.natAbs C.base) = some r ∧ C.ecBaseMult k = .ok r) ∨
    (C.toAffine (C.smul k.natAbs C.base) = none ∧ C.ecBaseMult k = .panic "scalar-base-mult-identity") := by
  unfold Curve.ecBaseMult
  cases hr : C.toAffine (C.smul k.natAbs C.base) with
  | none => simp
  | some r => simp

theorem ecBaseMult_of_none (k : Int) (h : C.toAffine (C.smul k.natAbs C.base) = none) :
    C.ecBaseMult k = .panic "scalar-base-mult-identity" := by
  unfold Curve.ecBaseMult; rw [h]

theorem ecBaseMult_of_some (k : Int) (r : ECPoint) (h : C.toAffine (C.smul k.natAbs C.base) = some r) :
    C.ecBaseMult k = .ok r := by
  unfold Curve.ecBaseMult; rw [h]

theorem ecScalarMult_of_none (a : ECPoint) (k : Int) (pa : P) (ha : C.lift a = some pa)
    (h : C.toAffine (C.smul k.natAbs pa) = none) : C.ecScalarMult a k = .panic "scalar-mult-identity" := by
  unfold Curve.ecScalarMult; rw [ha]; dsimp only; rw [h]

theorem lift_isSome (a : ECPoint) : (C.lift a).isSome = C.ecIsOnCurve a := rfl

theorem ecAdd_total (a b : ECPoint) : (C.ecAdd a b).isPanic = false := by
  rcases ecAdd_cases C a b with ⟨_, _, _, _, _, _, h⟩ | ⟨_, _, _, _, _, h⟩ | ⟨_, h⟩ <;> rw [h] <;> rfl

theorem ecAdd_ok_iff (a b r : ECPoint) : C.ecAdd a b = .ok r ↔
    ∃ pa pb, C.lift a = some pa ∧ C.lift b = some pb ∧ C.toAffine (C.add pa pb) = some r := by
  unfold Curve.ecAdd
  cases C.lift a with
  | none => simp
  | some pa =>
    cases C.lift b with
    | none => simp
    | some pb => dsimp only; cases h : C.toAffine (C.add pa pb) <;> simp [h]

theorem ecAdd_err_iff (a b : ECPoint) (t : String) : C.ecAdd a b = .err t ↔
    ((C.ecIsOnCurve a = false ∨ C.ecIsOnCurve b = false) ∧ t = "operand-not-on-curve") ∨
    (∃ pa pb, C.lift a = some pa ∧ C.lift b = some pb ∧ C.toAffine (C.add pa pb) = none ∧
      t = "not-on-curve") := by
  simp only [← lift_isSome]
  unfold Curve.ecAdd
  cases C.lift a with
  | none => simp [eq_comm (b := t)]
  | some pa =>
    cases C.lift b with
    | none => simp [eq_comm (b := t)]
    | some pb => dsimp only; cases h : C.toAffine (C.add pa pb) <;> simp [h, eq_comm (b := t)]

theorem ecScalarMult_outcomes (a : ECPoint) (k : Int) :
    (∀ t, C.ecScalarMult a k = .panic t ↔
      (∃ pa, C.lift a = some pa ∧ C.toAffine (C.smul k.natAbs pa) = none) ∧ t = "scalar-mult-identity") ∧
    (∀ t, C.ecScalarMult a k = .err t ↔ C.ecIsOnCurve a = false ∧ t = "operand-not-on-curve") ∧
    (∀ r, C.ecScalarMult a k = .ok r ↔
      ∃ pa, C.lift a = some pa ∧ C.toAffine (C.smul k.natAbs pa) = some r) := by
  simp only [← lift_isSome]
  unfold Curve.ecScalarMult
  cases C.lift a with
  | none => simp [eq_comm]
  | some pa => dsimp only; cases h : C.toAffine (C.smul k.natAbs pa) <;> simp [h, eq_comm]

theorem ecBaseMult_outcomes (k : Int) :
    (∀ t, C.ecBaseMult k = .panic t ↔
      C.toAffine (C.smul k.natAbs C.base) = none ∧ t = "scalar-base-mult-identity") ∧
    (∀ t, C.ecBaseMult k ≠ .err t) ∧
    (∀ r, C.ecBaseMult k = .ok r ↔ C.toAffine (C.smul k.natAbs C.base) = some r) := by
  unfold Curve.ecBaseMult
  cases C.toAffine (C.smul k.natAbs C.base) <;> simp [eq_comm]

end outcomes

/-! ## outcomes on the two executable curves -/

theorem ed_never_panics (a : ECPoint) (k : Int) :
    (Ed25519.curve.ecScalarMult a k).isPanic = false ∧ (Ed25519.curve.ecBaseMult k).isPanic = false ∧
    (Ed25519.eightInvEight a).isPanic = false := by
  have h1 : ∀ a k, (Ed25519.curve.ecScalarMult a k).isPanic = false := by
    intro a k
    rcases ecScalarMult_cases Ed25519.curve a k with ⟨_, _, _, _, h⟩ | ⟨_, _, hr, _⟩ | ⟨_, h⟩
    · rw [h]; rfl
    · cases hr
    · rw [h]; rfl
  refine ⟨h1 a k, rfl, ?_⟩
  unfold Ed25519.eightInvEight
  cases h : Ed25519.curve.ecScalarMult a 8 with
  | ok e => exact h1 e _
  | err t => rfl
  | panic t => have := h1 a 8; rw [h] at this; cases this

theorem secp_scalarMult_panic_iff (x y : Nat) (k : Int) (t : String) :
    Secp256k1.curve.ecScalarMult (x, y) k = .panic t ↔
      (x < Secp256k1.p ∧ y < Secp256k1.p ∧
        y * y % Secp256k1.p = (x * x % Secp256k1.p * x + 7) % Secp256k1.p) ∧ Secp256k1.curve.smul k.natAbs (some (x, y)) = none ∧ t = "scalar-mult-identity" := by
  rw [(ecScalarMult_outcomes Secp256k1.curve (x, y) k).1 t, ← secp_onCurve_iff]
  by_cases h : Secp256k1.onCurve x y = true <;> simp [Curve.lift, Secp256k1.curve, h]

/-- doubling the identity of the Edwards model gives the identity, hence so does every multiple -/
theorem ed_smul_identity (k : Nat) : Ed25519.curve.smul k (0, 1) = (0, 1) :=
  smul_zero_of_add_self Ed25519.curve (by decide +kernel) k

/-- `EightInvEight` sends an accepted point killed by 8 to the identity -/
theorem eightInvEight_of_smul_eight {t : ECPoint} (hon : Ed25519.curve.ecIsOnCurve t = true)
    (h8 : Ed25519.curve.smul 8 t = (0, 1)) : Ed25519.eightInvEight t = .ok (0, 1) := by
  have hl : Ed25519.curve.lift t = some t := by
    simp only [Curve.ecIsOnCurve, Curve.lift, Ed25519.curve] at hon ⊢
    split at hon <;> simp_all
  have h1 : Ed25519.curve.ecScalarMult t 8 = .ok (0, 1) :=
    ((ecScalarMult_outcomes _ t 8).2.2 _).2 ⟨t, hl, congrArg some h8⟩
  have h2 : Ed25519.curve.ecScalarMult (0, 1) Ed25519.eightInv = .ok (0, 1) :=
    ((ecScalarMult_outcomes _ _ _).2.2 _).2 ⟨(0, 1), by decide +kernel, congrArg some (ed_smul_identity _)⟩
  rw [Ed25519.eightInvEight, h1]
  exact h2

end TssVerif.C17L
