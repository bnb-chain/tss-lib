import TssVerif.Core.Paillier
import TssVerif.Lemmas.GoIntSpec
import TssVerif.Lemmas.Outcome
import Mathlib.FieldTheory.Finite.Basic
import Mathlib.Data.Nat.ModEq
import Mathlib.Tactic.Ring
import Mathlib.Tactic.Linarith
/-! Number theory behind `crypto/paillier/paillier.go`: when `λ` and `φ(n)` are units, well-formed ciphertexts, the
operations in closed form, decryption, freshness, bit lengths of the key.

The central notion is `IsCt n m c`: `c` is a reduced residue `≡ (n+1)^m · x^n (mod n²)` for some unit `x`.
Encryption produces such values, `HomoAdd`/`HomoMult` preserve them, and `Decrypt` maps them to `m % n`. -/
namespace TssVerif.PaillierL
open TssVerif TssVerif.Paillier

/-! ## pure number theory -/

theorem one_add_mul_pow (N j k : ℕ) : (1 + j * N) ^ k ≡ 1 + k * j * N [MOD N * N] := by
  induction k with
  | zero => simp [Nat.ModEq]
  | succ k ih =>
    have h1 : (1 + j * N) ^ (k + 1) ≡ (1 + k * j * N) * (1 + j * N) [MOD N * N] := by
      rw [pow_succ]; exact ih.mul_right _
    have h2 : (1 + k * j * N) * (1 + j * N) = 1 + (k + 1) * j * N + (k * j * j) * (N * N) := by ring
    rw [h2] at h1
    refine h1.trans ?_
    have : (k * j * j) * (N * N) ≡ 0 [MOD N * N] := (Nat.modEq_zero_iff_dvd).2 (Dvd.intro_left _ rfl)
    exact (Nat.ModEq.refl (1 + (k + 1) * j * N)).add this

theorem succ_pow_modEq (N k : ℕ) : (N + 1) ^ k ≡ 1 + k * N [MOD N * N] := by
  have := one_add_mul_pow N 1 k
  simpa [add_comm] using this

/-- `(1 + a N) % N² = 1 + (a % N) N` -/
theorem one_add_mul_mod {N : ℕ} (hN : 1 < N) (a : ℕ) : (1 + a * N) % (N * N) = 1 + (a % N) * N := by
  have ha : a = N * (a / N) + a % N := (Nat.div_add_mod a N).symm
  have hlt : 1 + (a % N) * N < N * N := by
    have : a % N < N := Nat.mod_lt _ (by omega)
    nlinarith
  have e : 1 + a * N = 1 + (a % N) * N + (N * N) * (a / N) := by
    conv_lhs => rw [ha]
    ring
  rw [e, Nat.add_mul_mod_self_left, Nat.mod_eq_of_lt hlt]

/-- the `L` function of the Go code inverts `a ↦ 1 + a N` modulo `N²` -/
theorem L_of_modEq {N u a : ℕ} (hN : 1 < N) (h : u ≡ 1 + a * N [MOD N * N]) :
    L (u % (N * N)) N = ((a % N : ℕ) : ℤ) := by
  have h' : u % (N * N) = (1 + a * N) % (N * N) := h
  rw [h', one_add_mul_mod hN]
  unfold L
  rw [if_neg (by omega), Nat.add_sub_cancel_left, Nat.mul_div_cancel _ (by omega)]

/-- lifting `x^λ ≡ 1 (mod N)` to `(x^N)^λ ≡ 1 (mod N²)` -/
theorem pow_pow_modEq_one {N lam x : ℕ} (h : x ^ lam ≡ 1 [MOD N]) :
    (x ^ N) ^ lam ≡ 1 [MOD N * N] := by
  rcases eq_or_ne N 1 with rfl | hN
  · exact Nat.modEq_one
  -- otherwise `x^λ = j N + 1`
  have hj := Nat.div_add_mod' (x ^ lam) N
  rw [show x ^ lam % N = 1 % N from h, Nat.one_mod_eq_one.2 hN] at hj
  rw [← pow_mul, mul_comm N lam, pow_mul, ← hj, add_comm]
  refine (one_add_mul_pow N _ N).trans ?_
  simpa using (Nat.ModEq.refl 1).add ((Nat.modEq_zero_iff_dvd).2 ⟨x ^ lam / N, by ring⟩)

theorem pow_lcm_modEq_one {P Q x : ℕ} (hP : P.Prime) (hQ : Q.Prime) (hne : P ≠ Q)
    (hx : Nat.Coprime x (P * Q)) : x ^ Nat.lcm (P - 1) (Q - 1) ≡ 1 [MOD P * Q] := by
  -- Fermat for each prime, then the Chinese remainder theorem
  have key : ∀ {R : ℕ}, R.Prime → Nat.Coprime x R → ∀ {e : ℕ}, R - 1 ∣ e → x ^ e ≡ 1 [MOD R] := by
    rintro R hR hxR e ⟨a, rfl⟩
    rw [pow_mul, ← Nat.totient_prime hR]
    simpa using (Nat.ModEq.pow_totient hxR).pow a
  exact (Nat.modEq_and_modEq_iff_modEq_mul ((Nat.coprime_primes hP hQ).2 hne)).1
    ⟨key hP (Nat.Coprime.coprime_mul_right_right hx) (Nat.dvd_lcm_left _ _),
      key hQ (Nat.Coprime.coprime_mul_left_right hx) (Nat.dvd_lcm_right _ _)⟩

theorem one_lt_mul_primes {P Q : ℕ} (hP : P.Prime) (hQ : Q.Prime) : 1 < P * Q := by
  have h2 : 2 ≤ P := hP.two_le
  have h3 : 2 ≤ Q := hQ.two_le
  nlinarith

/-! ## key conditions -/

/-- what decryption needs of `(n, λ)`: `λ` kills the unit group of `ℤ/n` and is itself a unit mod `n` -/
structure LamOK (n lam : ℕ) : Prop where
  one_lt : 1 < n
  kills : ∀ x, Nat.Coprime x n → x ^ lam ≡ 1 [MOD n]
  unit : Nat.Coprime lam n

/-- a key made of two distinct primes, `λ = lcm (P-1) (Q-1)` a unit modulo `n` -/
theorem lamOK_of_key {P Q : ℕ} (hP : P.Prime) (hQ : Q.Prime) (hne : P ≠ Q)
    (hlam : Nat.gcd (Nat.lcm (P - 1) (Q - 1)) (P * Q) = 1)
    {sk : PrivateKey} (hn : sk.n = P * Q) (hl : sk.lambdaN = Nat.lcm (P - 1) (Q - 1)) :
    LamOK sk.n sk.lambdaN := by
  rw [hn, hl]
  exact ⟨one_lt_mul_primes hP hQ, fun _ hx => pow_lcm_modEq_one hP hQ hne hx, hlam⟩

theorem prime_coprime_pred_mul {P Q : ℕ} (hP : P.Prime) (h : ¬ P ∣ Q - 1) :
    Nat.Coprime P ((P - 1) * (Q - 1)) := by
  have h2 := hP.two_le
  rw [hP.coprime_iff_not_dvd, hP.dvd_mul]
  rintro (h' | h')
  · exact absurd (Nat.le_of_dvd (by omega) h') (by omega)
  · exact h h'

/-- two odd primes of the same bit length never divide each other's predecessor -/
theorem not_dvd_pred_of_same_bitlen {P Q k : ℕ} (hP : P.Prime) (hQ : Q.Prime) (hP2 : P ≠ 2)
    (hPk : 2 ^ (k - 1) ≤ P) (hQk : Q < 2 ^ k) (hk : 1 ≤ k) : ¬ P ∣ Q - 1 := by
  rintro ⟨t, ht⟩
  have hPodd : P % 2 = 1 := hP.eq_two_or_odd.resolve_left hP2
  have hpow : 2 ^ k = 2 * 2 ^ (k - 1) := by rw [← pow_succ', Nat.sub_add_cancel hk]
  have hQ2 := hQ.two_le
  match t with
  | 0 => omega
  | 1 => rcases hQ.eq_two_or_odd with h | h <;> omega
  | t + 2 =>
    -- `2 P ≤ Q - 1 < 2^k ≤ 2 P`
    have : P * 2 ≤ P * (t + 2) := Nat.mul_le_mul_left P (by omega)
    omega

/-- safe primes `P = 2p'+1`, `Q = 2q'+1`: `P ∣ Q − 1` only if `P = q'` -/
theorem not_dvd_pred_of_safe {P Q q' : ℕ} (hP : P.Prime) (hq' : q'.Prime) (hQ : Q = 2 * q' + 1)
    (hP2 : P ≠ 2) (hne : P ≠ q') : ¬ P ∣ Q - 1 := by
  intro h
  have : Q - 1 = 2 * q' := by omega
  rw [this, Nat.Prime.dvd_mul hP] at h
  rcases h with h | h
  · exact hP2 ((Nat.prime_dvd_prime_iff_eq hP Nat.prime_two).1 h)
  · exact hne ((Nat.prime_dvd_prime_iff_eq hP hq').1 h)

/-! ## well-formed ciphertexts -/

/-- `c` is a reduced encryption of `m` under modulus `n`: `c ≡ (n+1)^m · x^n (mod n²)` for a unit `x` -/
def IsCt (n m c : ℕ) : Prop :=
  c < n * n ∧ ∃ x, Nat.Coprime x n ∧ c ≡ (n + 1) ^ m * x ^ n [MOD n * n]

/-- the value `EncryptAndReturnRandomness` computes, with `Exp` replaced by its specification -/
def encNat (n m x : ℕ) : ℕ := (n + 1) ^ m % (n * n) * (x ^ n % (n * n)) % (n * n)

theorem encNat_modEq (n m x : ℕ) : encNat n m x ≡ (n + 1) ^ m * x ^ n [MOD n * n] :=
  (Nat.mod_modEq _ _).trans ((Nat.mod_modEq _ _).mul (Nat.mod_modEq _ _))

theorem encNat_lt {n : ℕ} (hn : 0 < n) (m x : ℕ) : encNat n m x < n * n :=
  Nat.mod_lt _ (Nat.mul_pos hn hn)

/-! ### the three pure operations in closed form: one range test, then the value -/

theorem encryptWith_eq_ite (n : ℕ) (m : ℤ) (x : ℕ) :
    encryptWith n m x =
      if 0 ≤ m ∧ m < n then .ok (encNat n m.toNat x) else .err "message-too-long" := by
  unfold encryptWith
  split_ifs
  · omega
  · rfl
  · simp only [nSquare, gamma, modPow_spec, encNat]
  · omega

theorem homoMult_eq_ite (n : ℕ) (m c : ℤ) :
    homoMult n m c =
      if 0 ≤ m ∧ m < n ∧ 0 ≤ c ∧ c < (n * n : ℕ) then .ok (c.toNat ^ m.toNat % (n * n))
      else .err "message-too-long" := by
  unfold homoMult
  simp only [nSquare, modPow_spec]
  split_ifs <;> first | rfl | omega

theorem homoAdd_eq_ite (n : ℕ) (c1 c2 : ℤ) :
    homoAdd n c1 c2 =
      if 0 ≤ c1 ∧ c1 < (n * n : ℕ) ∧ 0 ≤ c2 ∧ c2 < (n * n : ℕ) then .ok (c1.toNat * c2.toNat % (n * n))
      else .err "message-too-long" := by
  unfold homoAdd nSquare
  dsimp only
  split_ifs <;> first | rfl | omega

theorem encryptWith_ok_iff {n : ℕ} {m : ℤ} {x c : ℕ} :
    encryptWith n m x = .ok c ↔ 0 ≤ m ∧ m < n ∧ c = encNat n m.toNat x := by
  rw [encryptWith_eq_ite, Outcome.ite_ok_err_eq_ok, and_assoc]

theorem homoMult_ok_iff {n : ℕ} {m c : ℤ} {r : ℕ} :
    homoMult n m c = .ok r ↔
      (0 ≤ m ∧ m < n ∧ 0 ≤ c ∧ c < (n * n : ℕ)) ∧ r = c.toNat ^ m.toNat % (n * n) := by
  rw [homoMult_eq_ite, Outcome.ite_ok_err_eq_ok]

theorem homoAdd_ok_iff {n : ℕ} {c1 c2 : ℤ} {r : ℕ} :
    homoAdd n c1 c2 = .ok r ↔
      (0 ≤ c1 ∧ c1 < (n * n : ℕ) ∧ 0 ≤ c2 ∧ c2 < (n * n : ℕ)) ∧ r = c1.toNat * c2.toNat % (n * n) := by
  rw [homoAdd_eq_ite, Outcome.ite_ok_err_eq_ok]

theorem encryptWith_eq {n m : ℕ} (hm : m < n) (x : ℕ) :
    encryptWith n (m : ℤ) x = .ok (encNat n m x) :=
  encryptWith_ok_iff.2 ⟨by omega, by omega, by rw [Int.toNat_natCast]⟩

theorem homoMult_eq {n k c : ℕ} (hk : k < n) (hc : c < n * n) :
    homoMult n (k : ℤ) (c : ℤ) = .ok (c ^ k % (n * n)) :=
  homoMult_ok_iff.2 ⟨by omega, by rw [Int.toNat_natCast, Int.toNat_natCast]⟩

theorem homoAdd_eq {n c1 c2 : ℕ} (h1 : c1 < n * n) (h2 : c2 < n * n) :
    homoAdd n (c1 : ℤ) (c2 : ℤ) = .ok (c1 * c2 % (n * n)) :=
  homoAdd_ok_iff.2 ⟨by omega, by rw [Int.toNat_natCast, Int.toNat_natCast]⟩

theorem isCt_encNat {n x : ℕ} (hn : 1 < n) (hx : Nat.Coprime x n) (m : ℕ) : IsCt n m (encNat n m x) :=
  ⟨encNat_lt (by omega) m x, x, hx, encNat_modEq n m x⟩

theorem isCt_of_encryptWith {n m x c : ℕ} (hn : 1 < n) (hx : Nat.Coprime x n)
    (h : encryptWith n (m : ℤ) x = .ok c) : IsCt n m c := by
  obtain ⟨-, -, rfl⟩ := encryptWith_ok_iff.1 h
  rw [Int.toNat_natCast]
  exact isCt_encNat hn hx m

theorem coprime_succ_self (n : ℕ) : Nat.Coprime (n + 1) n := by
  simp [Nat.Coprime]

/-- a well-formed ciphertext passes `Decrypt`'s gcd check -/
theorem IsCt.coprime {n m c : ℕ} (h : IsCt n m c) : Nat.Coprime c (n * n) := by
  obtain ⟨_, x, hx, hc⟩ := h
  have h1 : Nat.Coprime ((n + 1) ^ m * x ^ n) n :=
    Nat.Coprime.mul_left (Nat.Coprime.pow_left _ (coprime_succ_self n)) (Nat.Coprime.pow_left _ hx)
  have h2 : Nat.Coprime ((n + 1) ^ m * x ^ n) (n * n) := Nat.Coprime.mul_right h1 h1
  unfold Nat.Coprime
  rw [hc.gcd_eq]
  exact h2

theorem IsCt.homoAdd {n m1 m2 c1 c2 : ℕ} (hn : 1 < n) (h1 : IsCt n m1 c1) (h2 : IsCt n m2 c2) :
    IsCt n (m1 + m2) (c1 * c2 % (n * n)) := by
  obtain ⟨_, x1, hx1, e1⟩ := h1
  obtain ⟨_, x2, hx2, e2⟩ := h2
  refine ⟨Nat.mod_lt _ (Nat.mul_pos (by omega) (by omega)), x1 * x2, Nat.Coprime.mul_left hx1 hx2, ?_⟩
  refine (Nat.mod_modEq _ _).trans ((e1.mul e2).trans ?_)
  have e : (n + 1) ^ m1 * x1 ^ n * ((n + 1) ^ m2 * x2 ^ n) = (n + 1) ^ (m1 + m2) * (x1 * x2) ^ n := by ring
  exact congrArg (· % (n * n)) e

theorem IsCt.homoMult {n m c : ℕ} (hn : 1 < n) (k : ℕ) (h : IsCt n m c) :
    IsCt n (k * m) (c ^ k % (n * n)) := by
  obtain ⟨_, x, hx, e⟩ := h
  refine ⟨Nat.mod_lt _ (Nat.mul_pos (by omega) (by omega)), x ^ k, Nat.Coprime.pow_left _ hx, ?_⟩
  refine (Nat.mod_modEq _ _).trans ((e.pow k).trans ?_)
  have e : ((n + 1) ^ m * x ^ n) ^ k = (n + 1) ^ (k * m) * (x ^ k) ^ n := by
    rw [mul_pow, ← pow_mul, ← pow_mul, ← pow_mul, mul_comm m k, mul_comm n k]
  exact congrArg (· % (n * n)) e

/-- `c^λ ≡ 1 + (m·λ)·n (mod n²)` for a well-formed ciphertext `c` of `m`: the `x^n` part dies, `(n+1)^{mλ}` is linear -/
theorem IsCt.lam_power {n lam m c : ℕ} (hk : LamOK n lam) (h : IsCt n m c) :
    c ^ lam ≡ 1 + (m * lam) * n [MOD n * n] := by
  obtain ⟨_, x, hx, e⟩ := h
  refine (e.pow lam).trans ?_
  have a1 : ((n + 1) ^ m) ^ lam ≡ 1 + (m * lam) * n [MOD n * n] := by
    rw [← pow_mul]; exact succ_pow_modEq n (m * lam)
  have a2 : (x ^ n) ^ lam ≡ 1 [MOD n * n] := pow_pow_modEq_one (hk.kills x hx)
  have a3 := a1.mul a2
  rwa [mul_one, ← mul_pow] at a3

/-! ## `Decrypt` -/

/-- `Decrypt` with its two guards discharged and the result of `ModInverse` named -/
theorem decrypt_eq {sk : PrivateKey} {c inv : ℕ} (hc : c < sk.n * sk.n)
    (hcop : Nat.Coprime c (sk.n * sk.n))
    (hinv : modInverse (L (modPow (sk.n + 1) sk.lambdaN (sk.n * sk.n)) sk.n) sk.n = some inv) :
    decrypt sk (c : ℤ) =
      .ok ((L (modPow c sk.lambdaN (sk.n * sk.n)) sk.n * (inv : ℤ)) % (sk.n : ℤ)).toNat := by
  simp only [decrypt, nSquare, gamma, Int.toNat_natCast, hinv]
  rw [if_neg (by omega), if_neg (by rw [hcop]; omega)]

/-- `L(γ^λ mod n²) = λ mod n` -/
theorem L_gamma {n lam : ℕ} (hn : 1 < n) :
    L (modPow (n + 1) lam (n * n)) n = ((lam % n : ℕ) : ℤ) := by
  rw [modPow_spec]; exact L_of_modEq hn (succ_pow_modEq n lam)

/-- the `ModInverse` call of `Decrypt` never returns nil on a good key -/
theorem modInverse_L_gamma {n lam : ℕ} (hk : LamOK n lam) :
    ∃ inv : ℕ, modInverse (L (modPow (n + 1) lam (n * n)) n) n = some inv ∧
      (lam % n) * inv % n = 1 := by
  have hn := hk.one_lt
  rw [L_gamma hn]
  have hg : Int.gcd ((lam % n : ℕ) : ℤ) (n : ℤ) = 1 := by
    rw [Int.gcd_natCast_natCast, ← Nat.gcd_rec, Nat.gcd_comm]; exact hk.unit
  obtain ⟨b, hb, hspec, _⟩ := modInverse_exists (by omega) hg
  refine ⟨b, hb, ?_⟩
  have : (lam % n) * b % n = 1 % n := by exact_mod_cast hspec
  rwa [Nat.mod_eq_of_lt hn] at this

/-- **decryption of any well-formed ciphertext** -/
theorem decrypt_isCt {sk : PrivateKey} {m c : ℕ} (hk : LamOK sk.n sk.lambdaN) (h : IsCt sk.n m c) :
    decrypt sk (c : ℤ) = .ok (m % sk.n) := by
  have hn := hk.one_lt
  obtain ⟨inv, hinv, hone⟩ := modInverse_L_gamma hk
  rw [decrypt_eq h.1 h.coprime hinv, modPow_spec, L_of_modEq hn (h.lam_power hk)]
  congr 1
  have hone' : sk.lambdaN * inv % sk.n = 1 := by rwa [Nat.mod_mul_mod] at hone
  rw [← Nat.cast_mul, ← Int.natCast_mod, Int.toNat_natCast, Nat.mod_mul_mod, mul_assoc, Nat.mul_mod, hone',
    mul_one, Nat.mod_mod]

theorem decrypt_of_key {P Q : ℕ} (hP : P.Prime) (hQ : Q.Prime) (hne : P ≠ Q)
    (hlam : Nat.gcd (Nat.lcm (P - 1) (Q - 1)) (P * Q) = 1)
    {sk : PrivateKey} (hn : sk.n = P * Q) (hl : sk.lambdaN = Nat.lcm (P - 1) (Q - 1))
    {m c : ℕ} (h : IsCt (P * Q) m c) : decrypt sk (c : ℤ) = .ok (m % (P * Q)) := by
  rw [← hn] at h ⊢
  exact decrypt_isCt (lamOK_of_key hP hQ hne hlam hn hl) h

/-! ## `>>=` on the two failing outcomes -/

@[simp] theorem err_bind {α β : Type} (t : String) (f : α → Outcome β) :
    ((Outcome.err t : Outcome α) >>= f) = .err t := rfl
@[simp] theorem panic_bind {α β : Type} (t : String) (f : α → Outcome β) :
    ((Outcome.panic t : Outcome α) >>= f) = .panic t := rfl

/-! ## freshness: `x ↦ x^n` is injective on units when `gcd(n, φ(n)) = 1` -/

theorem pow_n_injective {n x x' : ℕ} (hn : 1 < n) (hcop : Nat.Coprime n (Nat.totient n))
    (hx : Nat.Coprime x n) (hx' : Nat.Coprime x' n) (h : x ^ n ≡ x' ^ n [MOD n]) :
    x ≡ x' [MOD n] := by
  -- raising to a power coprime to its order is a bijection of the unit group of `ZMod n`
  have : NeZero n := ⟨by omega⟩
  have hc : Nat.Coprime (Nat.card (ZMod n)ˣ) n := by
    rw [Nat.card_eq_fintype_card, ZMod.card_units_eq_totient]; exact hcop.symm
  have := (powCoprime hc).injective (a₁ := ZMod.unitOfCoprime x hx) (a₂ := ZMod.unitOfCoprime x' hx')
    (Units.ext (by simpa using (ZMod.natCast_eq_natCast_iff _ _ _).2 h))
  simpa [Units.ext_iff, ZMod.natCast_eq_natCast_iff] using this

theorem totient_mul_primes {P Q : ℕ} (hP : P.Prime) (hQ : Q.Prime) (hne : P ≠ Q) :
    Nat.totient (P * Q) = (P - 1) * (Q - 1) := by
  rw [Nat.totient_mul ((Nat.coprime_primes hP hQ).2 hne), Nat.totient_prime hP, Nat.totient_prime hQ]

/-- equal ciphertexts of the same plaintext have equal randomisers in `[0, n)` (they are congruent modulo `n` because
`x ↦ x^n` is injective on units) -/
theorem encNat_inj_x {n m x x' : ℕ} (hn : 1 < n) (hcop : Nat.Coprime n (Nat.totient n))
    (hx : Nat.Coprime x n) (hx' : Nat.Coprime x' n) (hlt : x < n) (hlt' : x' < n)
    (h : encNat n m x = encNat n m x') : x = x' := by
  have h1 : (n + 1) ^ m * x ^ n ≡ (n + 1) ^ m * x' ^ n [MOD n * n] :=
    (encNat_modEq n m x).symm.trans ((by rw [h] : encNat n m x ≡ encNat n m x' [MOD n * n]).trans (encNat_modEq n m x'))
  have h2 : (n + 1) ^ m * x ^ n ≡ (n + 1) ^ m * x' ^ n [MOD n] := h1.of_mul_left n
  have g : (n + 1) ^ m ≡ 1 [MOD n] := by
    have : n + 1 ≡ 1 [MOD n] := by simp [Nat.ModEq]
    simpa using this.pow m
  have h3 : x ^ n ≡ x' ^ n [MOD n] := by
    have a := (g.mul_right (x ^ n)).symm.trans (h2.trans (g.mul_right (x' ^ n)))
    simpa using a
  have := pow_n_injective hn hcop hx hx' h3
  rw [Nat.ModEq, Nat.mod_eq_of_lt hlt, Nat.mod_eq_of_lt hlt'] at this
  exact this

/-! ## bit lengths -/

theorem bitLen_eq_of_bounds {n k : ℕ} (hk : 1 ≤ k) (h1 : 2 ^ (k - 1) ≤ n) (h2 : n < 2 ^ k) :
    bitLen n = k := by
  have hn : n ≠ 0 := by
    have : 0 < 2 ^ (k - 1) := Nat.two_pow_pos _
    omega
  unfold bitLen
  rw [if_neg hn]
  obtain ⟨j, rfl⟩ : ∃ j, k = j + 1 := ⟨k - 1, by omega⟩
  rw [(Nat.log2_eq_iff hn).2 ⟨by simpa using h1, h2⟩]

/-- `3·2^(k-2) ≤ P` says that the two top bits of the `k`-bit number `P` are set (`common/safe_prime.go` sets
them); then `P·Q ≥ 9·2^(2k-4) > 2^(2k-1)` has exactly `2k` bits -/
theorem mul_bounds_of_top_bits {P Q k : ℕ} (hk : 2 ≤ k) (hP : 3 * 2 ^ (k - 2) ≤ P) (hP' : P < 2 ^ k)
    (hQ : 3 * 2 ^ (k - 2) ≤ Q) (hQ' : Q < 2 ^ k) :
    2 ^ (2 * k - 1) ≤ P * Q ∧ P * Q < 2 ^ (2 * k) := by
  obtain ⟨j, rfl⟩ : ∃ j, k = j + 2 := ⟨k - 2, by omega⟩
  simp only [Nat.add_sub_cancel] at hP hQ
  have e1 : 2 ^ (2 * (j + 2) - 1) = 8 * (2 ^ j * 2 ^ j) := by
    rw [show 2 * (j + 2) - 1 = j + j + 3 by omega, pow_add, pow_add]; ring
  have e2 : 2 ^ (2 * (j + 2)) = 2 ^ (j + 2) * 2 ^ (j + 2) := by
    rw [← pow_add]; congr 1; omega
  constructor
  · have h := Nat.mul_le_mul hP hQ
    have e : 3 * 2 ^ j * (3 * 2 ^ j) = 9 * (2 ^ j * 2 ^ j) := by ring
    rw [e1]; rw [e] at h
    generalize 2 ^ j * 2 ^ j = t at h ⊢
    omega
  · rw [e2]; exact Nat.mul_lt_mul'' hP' hQ'

end TssVerif.PaillierL
