import TssVerif.Lemmas.Engine2
/-! History invariant of one party of the two-committee engine: whatever is stored in a slot other than the
own one was delivered, whoever is marked ok in the current round was marked by `Start` or had everything the
round needs delivered, and every round the party has left had its requirements met by deliveries.
Consequence for the two resharing tables: the final round is entered only after the final acknowledgement
of every new member has been delivered. -/
set_option autoImplicit false
namespace TssVerif.E2L
open TssVerif.Engine (Slot)
open TssVerif.Engine2

variable {tbl : List RSpec} {p : Party} {r : RSpec} {ms : List Msg} {P : Proto} {ka ks : Nat}

/-- the messages delivered by a sequence of events, in order -/
def hist : List Ev → List Msg
  | [] => []
  | .start _ :: es => hist es
  | .deliver m :: es => m :: hist es

/-- a message of type `t` from index `j` with broadcast flag `f` is among `ms` -/
def Deliv (ms : List Msg) (t j : Nat) (f : Bool) : Prop := ∃ m ∈ ms, m.ty = t ∧ m.frm = j ∧ m.slot.flag = f

theorem Deliv.mono {ms ms' : List Msg} {t j : Nat} {f : Bool} (hsub : ∀ m ∈ ms, m ∈ ms') (h : Deliv ms t j f) :
    Deliv ms' t j f :=
  let ⟨m, hm, h1⟩ := h
  ⟨m, hsub m hm, h1⟩

/-- `Start` of some round of the table puts an own message of type `t` into the own slot -/
def ownTy (tbl : List RSpec) (t : Nat) : Bool := tbl.any fun r => r.selfStore.any fun tf => tf.1 == t

theorem ownTy_of_mem (hr : r ∈ tbl) {t : Nat}
    (h : (r.selfStore.any fun tf => tf.1 == t) = true) : ownTy tbl t = true := by
  unfold ownTy
  rw [List.any_eq_true]
  exact ⟨r, hr, h⟩

/-- the requirement `tf` (type, flag) is met for index `j`: it is the party's own slot for a type the party
stores itself, or a message with that type, sender index and flag was delivered -/
def HasOrOwn (tbl : List RSpec) (self : Nat) (ms : List Msg) (j : Nat) (tf : Nat × Bool) : Prop :=
  (j = self ∧ ownTy tbl tf.1 = true) ∨ Deliv ms tf.1 j tf.2

/-- the old-committee requirement of round `r` is met for old index `j` -/
def MetOld (tbl : List RSpec) (self : Nat) (ms : List Msg) (r : RSpec) (j : Nat) : Prop :=
  r.presetOld = true ∨ (r.needsOld ≠ [] ∧ ∀ tf ∈ r.needsOld, HasOrOwn tbl self ms j tf)

/-- the new-committee requirement of round `r` is met for new index `j` -/
def MetNew (tbl : List RSpec) (self : Nat) (ms : List Msg) (r : RSpec) (j : Nat) : Prop :=
  r.presetNew = true ∨ (r.selfOkNew = true ∧ j = self) ∨
    (r.needsNew ≠ [] ∧ ∀ tf ∈ r.needsNew, HasOrOwn tbl self ms j tf)

theorem HasOrOwn.mono {self : Nat} {ms ms' : List Msg} {j : Nat} {tf : Nat × Bool}
    (hsub : ∀ m ∈ ms, m ∈ ms') (h : HasOrOwn tbl self ms j tf) : HasOrOwn tbl self ms' j tf :=
  h.imp id (Deliv.mono hsub)

theorem MetOld.mono {self : Nat} {ms ms' : List Msg} {j : Nat}
    (hsub : ∀ m ∈ ms, m ∈ ms') (h : MetOld tbl self ms r j) : MetOld tbl self ms' r j :=
  h.imp id fun h => ⟨h.1, fun tf htf => (h.2 tf htf).mono hsub⟩

theorem MetNew.mono {self : Nat} {ms ms' : List Msg} {j : Nat}
    (hsub : ∀ m ∈ ms, m ∈ ms') (h : MetNew tbl self ms r j) : MetNew tbl self ms' r j :=
  h.imp id fun h => h.imp id fun h => ⟨h.1, fun tf htf => (h.2 tf htf).mono hsub⟩

structure Hist (tbl : List RSpec) (ms : List Msg) (p : Party) : Prop where
  /-- a slot holds the party's own message or a delivered one -/
  store : ∀ t j s, p.store t j = some s →
    (j = p.self ∧ ownTy tbl t = true) ∨ ∃ m ∈ ms, m.ty = t ∧ m.frm = j ∧ m.slot = s
  /-- whoever is ok in the current (non-final) round has its requirement met -/
  okOld : ∀ r, p.rnd ≠ 0 → tbl[p.rnd - 1]? = some r → r.final = false →
    ∀ j, p.okOld j = true → MetOld tbl p.self ms r j
  okNew : ∀ r, p.rnd ≠ 0 → tbl[p.rnd - 1]? = some r → r.final = false →
    ∀ j, p.okNew j = true → MetNew tbl p.self ms r j
  /-- every (non-final) round the party has left had its requirements met for every member of both committees -/
  past : ∀ k r, k + 1 < p.rnd → tbl[k]? = some r → r.final = false →
    (∀ j, j < p.nOld → MetOld tbl p.self ms r j) ∧ (∀ j, j < p.nNew → MetNew tbl p.self ms r j)

theorem Hist.mono {ms ms' : List Msg} (hsub : ∀ m ∈ ms, m ∈ ms')
    (h : Hist tbl ms p) : Hist tbl ms' p where
  store := fun t j s hs => (h.store t j s hs).imp id fun ⟨m, hm, h1⟩ => ⟨m, hsub m hm, h1⟩
  okOld := fun r h0 hr hf j hj => (h.okOld r h0 hr hf j hj).mono hsub
  okNew := fun r h0 hr hf j hj => (h.okNew r h0 hr hf j hj).mono hsub
  past := fun k r hk hr hf =>
    ⟨fun j hj => ((h.past k r hk hr hf).1 j hj).mono hsub, fun j hj => ((h.past k r hk hr hf).2 j hj).mono hsub⟩

theorem hist_fresh (tbl : List RSpec) (nOld nNew : Nat) (isNew : Bool) (self : Nat) :
    Hist tbl [] (fresh nOld nNew isNew self) where
  store := fun _ _ _ h => by cases h
  okOld := fun _ h0 => absurd rfl h0
  okNew := fun _ h0 => absurd rfl h0
  past := fun k _ hk => by simp [fresh] at hk

theorem hist_storeMsg (m : Msg) (h : Hist tbl ms p) :
    Hist tbl (ms ++ [m]) (storeMsg m p) := by
  have hsub : ∀ x ∈ ms, x ∈ ms ++ [m] := fun x hx => List.mem_append_left _ hx
  have h' := h.mono hsub
  refine ⟨?_, h'.okOld, h'.okNew, h'.past⟩
  intro t j s hs
  by_cases hc : t = m.ty ∧ j = m.frm
  · rw [hc.1, hc.2, storeMsg_store_same] at hs
    exact Or.inr ⟨m, by simp, hc.1.symm, hc.2.symm, Option.some.inj hs⟩
  · rw [storeMsg_store_other m p hc] at hs
    exact h'.store t j s hs

theorem hasOrOwn_of_sat (h : Hist tbl ms p)
    {needs : List (Nat × Bool)} {j : Nat} (hs : sat needs p.store j = true) :
    ∀ tf ∈ needs, HasOrOwn tbl p.self ms j tf := by
  intro tf htf
  obtain ⟨s, hst, hfl⟩ := (sat_iff needs p.store j).mp hs tf htf
  rcases h.store tf.1 j s hst with h1 | ⟨m, hm, h1, h2, h3⟩
  · exact Or.inl h1
  · exact Or.inr ⟨m, hm, h1, h2, by rw [h3]; exact hfl⟩

theorem metOld_of_cov (h : Hist tbl ms p) {r : RSpec}
    (hc : cur tbl p = some r) (hf : r.final = false) {j : Nat} (hj : cov r p false j) : MetOld tbl p.self ms r j := by
  obtain ⟨h0, _, hr⟩ := cur_eq_some.mp hc
  exact hj.elim (h.okOld r h0 hr hf j) fun h' => Or.inr ⟨h'.1, hasOrOwn_of_sat h h'.2⟩

theorem metNew_of_cov (h : Hist tbl ms p) {r : RSpec}
    (hc : cur tbl p = some r) (hf : r.final = false) {j : Nat} (hj : cov r p true j) : MetNew tbl p.self ms r j := by
  obtain ⟨h0, _, hr⟩ := cur_eq_some.mp hc
  exact hj.elim (h.okNew r h0 hr hf j) fun h' => Or.inr (Or.inr ⟨h'.1, hasOrOwn_of_sat h h'.2⟩)

/-- `Start` of round `k + 1`: the own slots are written, the flags are those `Start` sets, and the rounds left
behind (round `k` now among them: `hpast` is `Hist.past` at `rnd = k + 1`) had their requirements met -/
theorem hist_startRound {k : Nat} (h : Hist tbl ms p)
    (hr : tbl[k]? = some r)
    (hpast : ∀ k' r1, k' + 1 < k + 1 → tbl[k']? = some r1 → r1.final = false →
      (∀ j, j < p.nOld → MetOld tbl p.self ms r1 j) ∧ (∀ j, j < p.nNew → MetNew tbl p.self ms r1 j)) :
    Hist tbl ms (startRound r k p) := by
  have hrm : r ∈ tbl := List.mem_of_getElem? hr
  refine ⟨?_, ?_, ?_, hpast⟩
  · intro t j s hs
    simp only [startRound, putSelf] at hs
    by_cases hc : j = p.self ∧ (r.selfStore.any fun tf => tf.1 == t) = true
    · exact Or.inl ⟨hc.1, ownTy_of_mem hrm hc.2⟩
    · rw [if_neg hc] at hs
      exact h.store t j s hs
  · intro r1 _ hr1 hf j hj
    obtain rfl : r = r1 := Option.some.inj (hr.symm.trans hr1)
    simp only [startRound, hf, Bool.or_false] at hj
    exact Or.inl hj
  · intro r1 _ hr1 hf j hj
    obtain rfl : r = r1 := Option.some.inj (hr.symm.trans hr1)
    simp only [startRound, hf, Bool.or_false, Bool.or_eq_true, Bool.and_eq_true, beq_iff_eq] at hj
    exact hj.imp id Or.inl

theorem hist_moves (tbl : List RSpec) (ms : List Msg) : Moves tbl (Hist tbl ms) where
  scan := by
    intro p r h h0 hd hr
    have hc : cur tbl p = some r := cur_eq_some.mpr ⟨h0, hd, hr⟩
    refine ⟨?_, ?_, ?_, ?_⟩
    · rw [scan_store, scan_self]; exact h.store
    · intro r1 _ hr1 hf j hj
      rw [scan_rnd] at hr1
      obtain rfl : r = r1 := Option.some.inj (hr.symm.trans hr1)
      rw [scan_self]
      exact metOld_of_cov h hc hf (cov_of_okC_scan (c := false) hj)
    · intro r1 _ hr1 hf j hj
      rw [scan_rnd] at hr1
      obtain rfl : r = r1 := Option.some.inj (hr.symm.trans hr1)
      rw [scan_self]
      exact metNew_of_cov h hc hf (cov_of_okC_scan (c := true) hj)
    · intro k r1 hk hr1 hf
      rw [scan_rnd] at hk
      rw [scan_self, scan_nOld, scan_nNew]
      exact h.past k r1 hk hr1 hf
  adv := by
    intro p r r' h h0 hd hr hcp hr'
    rw [canProceed_iff] at hcp
    refine hist_startRound h hr' fun k r1 hk hr1 hf => ?_
    by_cases hlt : k + 1 < p.rnd
    · exact h.past k r1 hlt hr1 hf
    · -- the round just completed: everybody was ok
      obtain rfl : k = p.rnd - 1 := by omega
      obtain rfl : r = r1 := Option.some.inj (hr.symm.trans hr1)
      exact ⟨fun j hj => h.okOld r h0 hr hf j (hcp false j hj), fun j hj => h.okNew r h0 hr hf j (hcp true j hj)⟩
  fin := fun p h _ _ _ => ⟨h.store, h.okOld, h.okNew, h.past⟩

theorem hist_deliver (m : Msg) (h : Hist tbl ms p) :
    Hist tbl (ms ++ [m]) (deliver tbl m p) := (hist_moves tbl _).deliver m (hist_storeMsg m h)

theorem hist_start (pre : Bool) (h : Hist tbl ms p) :
    Hist tbl ms (start tbl pre p) :=
  (hist_moves tbl ms).start pre h fun _ _ hr => hist_startRound h hr fun _ _ hk => absurd hk (by omega)

theorem hist_run_from (evs : List Ev) (h : Hist tbl ms p) :
    Hist tbl (ms ++ hist evs) (run tbl evs p) := by
  induction evs generalizing ms p with
  | nil => simp only [hist, List.append_nil]; exact h
  | cons e evs ih =>
    cases e with
    | start pre => exact ih (hist_start pre h)
    | deliver m =>
      have := ih (hist_deliver m h)
      rwa [List.append_assoc] at this

theorem hist_run (tbl : List RSpec) (nOld nNew : Nat) (isNew : Bool) (self : Nat) (evs : List Ev) :
    Hist tbl (hist evs) (run tbl evs (fresh nOld nNew isNew self)) := by
  have := hist_run_from (tbl := tbl) evs (hist_fresh tbl nOld nNew isNew self)
  simpa using this

/-- a party beyond round index `k`, whose spec needs `(ty, fl)` from every new member and does not preset the
new flags, has had that message delivered from every new index, except possibly its own slot -/
theorem past_needsNew (h : Hist tbl ms p) {k : Nat} {r : RSpec}
    {ty : Nat} {fl : Bool} (hk : k + 1 < p.rnd) (hr : tbl[k]? = some r) (hf : r.final = false)
    (hp : r.presetNew = false) (hn : (ty, fl) ∈ r.needsNew) :
    ∀ j, j < p.nNew → (j = p.self ∧ (r.selfOkNew = true ∨ ownTy tbl ty = true)) ∨ Deliv ms ty j fl := by
  intro j hj
  rcases (h.past k r hk hr hf).2 j hj with h1 | ⟨h1, h2⟩ | ⟨_, h1⟩
  · rw [hp] at h1; cases h1
  · exact Or.inl ⟨h2, Or.inl h1⟩
  · rcases h1 (ty, fl) hn with ⟨h2, h3⟩ | h2
    · exact Or.inl ⟨h2, Or.inr h3⟩
    · exact Or.inr h2

theorem past_needsOld (h : Hist tbl ms p) {k : Nat} {r : RSpec}
    {ty : Nat} {fl : Bool} (hk : k + 1 < p.rnd) (hr : tbl[k]? = some r) (hf : r.final = false)
    (hp : r.presetOld = false) (hn : (ty, fl) ∈ r.needsOld) :
    ∀ j, j < p.nOld → (j = p.self ∧ ownTy tbl ty = true) ∨ Deliv ms ty j fl := by
  intro j hj
  rcases (h.past k r hk hr hf).1 j hj with h1 | ⟨_, h1⟩
  · rw [hp] at h1; cases h1
  · exact h1 (ty, fl) hn

def tblOf (P : Proto) (isNew : Bool) : List RSpec := if isNew then P.new else P.old

/-- the final acknowledgement ("I have verified my shares") is the last message type of the protocol:
`DGRound4Message` (5) for EdDSA, `DGRound4Message2` (7) for ECDSA -/
def finalAck (P : Proto) : Nat := P.types.length

/-- the point-to-point share message `DGRound3Message1` -/
def shareTy (P : Proto) : Nat := typeId P "DGRound3Message1"
/-- the de-commitment broadcast `DGRound3Message2` -/
def decomTy (P : Proto) : Nat := typeId P "DGRound3Message2"

/-- the library's two resharing protocols -/
def IsLib (P : Proto) : Prop := P = eddsaResharing ∨ P = ecdsaResharing

/-- what the proofs use about a resharing protocol whose new members acknowledge in round `ka + 1` (0-based
index `ka`), after the shares of round `ks + 1`; all checked by evaluation for the two library protocols -/
structure AckFactsAt (P : Proto) (ka ks : Nat) : Prop where
  ksLt : ks < ka
  lenOld : P.old.length = ka + 2
  lenNew : P.new.length = ka + 2
  /-- one final round, in last position: `end` is signalled once, when it is started -/
  finOld : Loop.lastOnly (P.old.map (·.final)) = true
  finNew : Loop.lastOnly (P.new.map (·.final)) = true
  /-- the acknowledgement round of either role: not final, new flags not preset, needs the final acknowledgement
  (broadcast) from every new member; an old member does not mark itself -/
  ackOld : ∃ r, P.old[ka]? = some r ∧ r.final = false ∧ r.presetNew = false ∧ (finalAck P, true) ∈ r.needsNew ∧
    r.selfOkNew = false
  ackNew : ∃ r, P.new[ka]? = some r ∧ r.final = false ∧ r.presetNew = false ∧ (finalAck P, true) ∈ r.needsNew
  /-- an old member stores no own final acknowledgement -/
  ackNotOwnOld : ownTy P.old (finalAck P) = false
  /-- the share round of a new member: needs the share (point-to-point) and the de-commitment (broadcast) from
  every old member -/
  shareNew : ∃ r, P.new[ks]? = some r ∧ r.final = false ∧ r.presetOld = false ∧ (shareTy P, false) ∈ r.needsOld ∧
    (decomTy P, true) ∈ r.needsOld
  shareNotOwnNew : ownTy P.new (shareTy P) = false ∧ ownTy P.new (decomTy P) = false
  /-- the final acknowledgement is emitted by the new role in its acknowledgement round and only there, and never
  by the old role -/
  ackEmitNew : ∀ k r, P.new[k]? = some r → ((r.emits.any fun e => e.1 == finalAck P) = true ↔ k = ka)
  ackEmitOnce : ∃ r, P.new[ka]? = some r ∧ (finalAck P, Cnt.once) ∈ r.emits
  ackNotEmitOld : ∀ r ∈ P.old, (r.emits.any fun e => e.1 == finalAck P) = false
  /-- the share and the de-commitment are not emitted by the new role -/
  shareNotEmitNew : ∀ r ∈ P.new, (r.emits.any fun e => e.1 == shareTy P || e.1 == decomTy P) = false

/-- the library's shape: the acknowledgement in round 4, the shares in round 3, five rounds -/
abbrev AckFacts (P : Proto) : Prop := AckFactsAt P 3 2

theorem ackFacts_of_isLib (h : IsLib P) : AckFacts P := by
  rcases h with rfl | rfl <;> exact
    { ksLt := by decide
      lenOld := by decide
      lenNew := by decide
      finOld := by decide
      finNew := by decide
      ackOld := ⟨_, rfl, by decide, by decide, by decide, by decide⟩
      ackNew := ⟨_, rfl, by decide, by decide, by decide⟩
      ackNotOwnOld := by decide
      shareNew := ⟨_, rfl, by decide, by decide, by decide, by decide⟩
      shareNotOwnNew := by decide
      ackEmitNew := by
        intro k r hr
        have hk : k < 5 := Loop.lt_of_getElem?_some hr
        have : k = 0 ∨ k = 1 ∨ k = 2 ∨ k = 3 ∨ k = 4 := by omega
        rcases this with rfl | rfl | rfl | rfl | rfl <;> (injection hr with hr; subst hr; decide)
      ackEmitOnce := ⟨_, rfl, by decide⟩
      ackNotEmitOld := by decide
      shareNotEmitNew := by decide }

/-- either role: `end` signalled at most once, and once ⟺ the final round has been started -/
theorem ended_of_ackFacts (F : AckFactsAt P ka ks) (c : Bool) (hc : Canon (tblOf P c) p) :
    p.ended ≤ 1 ∧ (p.ended = 1 ↔ p.rnd = ka + 2) := by
  cases c
  · exact F.lenOld ▸ ended_of_lastOnly F.finOld hc
  · exact F.lenNew ▸ ended_of_lastOnly F.finNew hc

theorem not_ended_of_ne (F : AckFactsAt P ka ks) (c : Bool) (hc : Canon (tblOf P c) p)
    (hne : p.ended ≠ 1) : p.ended = 0 ∧ p.rnd < ka + 2 := by
  obtain ⟨h1, h2⟩ := ended_of_ackFacts F c hc
  have h5 : p.rnd ≠ ka + 2 := fun h => hne (h2.mpr h)
  have : p.rnd ≤ ka + 2 := by cases c; exact F.lenOld ▸ hc.1; exact F.lenNew ▸ hc.1
  omega

/-- an old member that has started the final round has had the final acknowledgement of every new member delivered -/
theorem old_final_acks (F : AckFactsAt P ka ks) (hc : Canon P.old p)
    (hh : Hist P.old ms p) (he : p.ended = 1) : ∀ j, j < p.nNew → Deliv ms (finalAck P) j true := by
  intro j hj
  have hr5 := (ended_of_ackFacts F false hc).2.mp he
  obtain ⟨r, hr, hf, hp, hn, hso⟩ := F.ackOld
  rcases past_needsNew hh (k := ka) (by omega) hr hf hp hn j hj with ⟨_, h1 | h1⟩ | h1
  · rw [hso] at h1; cases h1
  · rw [F.ackNotOwnOld] at h1; cases h1
  · exact h1

/-- a new member that has started the final round has had the final acknowledgement of every other new member delivered -/
theorem new_final_acks (F : AckFactsAt P ka ks) (hc : Canon P.new p)
    (hh : Hist P.new ms p) (he : p.ended = 1) : ∀ j, j < p.nNew → j ≠ p.self → Deliv ms (finalAck P) j true := by
  intro j hj hne
  have hr5 := (ended_of_ackFacts F true hc).2.mp he
  obtain ⟨r, hr, hf, hp, hn⟩ := F.ackNew
  rcases past_needsNew hh (k := ka) (by omega) hr hf hp hn j hj with ⟨h1, _⟩ | h1
  · exact absurd h1 hne
  · exact h1

theorem mem_emitList_iff {n ty : Nat} {es : List (Nat × Cnt)} :
    ty ∈ emitList n es ↔ ∃ e ∈ es, e.1 = ty ∧
      (e.2 = Cnt.once ∨ (e.2 = Cnt.perNew ∧ 0 < n) ∨ (e.2 = Cnt.perNewOther ∧ 1 < n)) := by
  unfold emitList
  rw [List.mem_flatMap]
  constructor
  · rintro ⟨e, he, h⟩
    refine ⟨e, he, ?_⟩
    rcases e with ⟨t, c⟩
    cases c
    · simp at h; exact ⟨h.symm, Or.inl rfl⟩
    · simp only [List.mem_replicate] at h; exact ⟨h.2.symm, Or.inr (Or.inl ⟨rfl, by omega⟩)⟩
    · simp only [List.mem_replicate] at h; exact ⟨h.2.symm, Or.inr (Or.inr ⟨rfl, by omega⟩)⟩
  · rintro ⟨e, he, h1, h2⟩
    refine ⟨e, he, ?_⟩
    rcases e with ⟨t, c⟩
    simp only at h1 h2
    subst h1
    rcases h2 with h | ⟨h, hn⟩ | ⟨h, hn⟩ <;> subst h
    · simp
    · exact List.mem_replicate.mpr ⟨by omega, rfl⟩
    · exact List.mem_replicate.mpr ⟨by omega, rfl⟩

theorem emitted_of_mem_out (hc : Canon tbl p) {ty : Nat} (h : ty ∈ p.out) :
    ∃ k r e, k < p.rnd ∧ tbl[k]? = some r ∧ e ∈ r.emits ∧ e.1 = ty := by
  rw [hc.2.1, mem_emitsUpTo_iff] at h
  obtain ⟨k, r, hk, hr, hty⟩ := h
  obtain ⟨e, he, h1, _⟩ := mem_emitList_iff.mp hty
  exact ⟨k, r, e, hk, hr, he, h1⟩

/-- a new member has the final acknowledgement in its emission log iff it has started the acknowledgement round -/
theorem ack_in_out_iff (F : AckFactsAt P ka ks) (hc : Canon P.new p) :
    finalAck P ∈ p.out ↔ ka + 1 ≤ p.rnd := by
  constructor
  · intro h
    obtain ⟨k, r, e, hk, hr, he, h1⟩ := emitted_of_mem_out hc h
    have := (F.ackEmitNew k r hr).mp (List.any_eq_true.mpr ⟨e, he, by simp [h1]⟩)
    omega
  · intro h
    obtain ⟨r, hr, he⟩ := F.ackEmitOnce
    rw [hc.2.1, mem_emitsUpTo_iff]
    exact ⟨ka, r, by omega, hr, mem_emitList_iff.mpr ⟨_, he, rfl, Or.inl rfl⟩⟩

theorem ack_not_in_out_old (F : AckFactsAt P ka ks) (hc : Canon P.old p) : finalAck P ∉ p.out := by
  intro h
  obtain ⟨_, r, e, _, hr, he, h1⟩ := emitted_of_mem_out hc h
  exact List.any_eq_false.mp (F.ackNotEmitOld r (List.mem_of_getElem? hr)) e he (by simp [h1])

theorem share_not_in_out_new (F : AckFactsAt P ka ks) (hc : Canon P.new p) :
    shareTy P ∉ p.out ∧ decomTy P ∉ p.out := by
  have key : ∀ ty, ty = shareTy P ∨ ty = decomTy P → ty ∉ p.out := by
    intro ty hty h
    obtain ⟨_, r, e, _, hr, he, h1⟩ := emitted_of_mem_out hc h
    refine List.any_eq_false.mp (F.shareNotEmitNew r (List.mem_of_getElem? hr)) e he ?_
    rcases hty with rfl | rfl <;> simp [h1]
  exact ⟨key _ (Or.inl rfl), key _ (Or.inr rfl)⟩

/-- a new member that has started the acknowledgement round has had the share and the de-commitment of every old
member delivered -/
theorem new_ack_round_shares (F : AckFactsAt P ka ks) (hh : Hist P.new ms p)
    (h4 : ka + 1 ≤ p.rnd) : ∀ j, j < p.nOld → Deliv ms (shareTy P) j false ∧ Deliv ms (decomTy P) j true := by
  intro j hj
  have := F.ksLt
  obtain ⟨r, hr, hf, hp, hn1, hn2⟩ := F.shareNew
  refine ⟨?_, ?_⟩
  · rcases past_needsOld hh (k := ks) (by omega) hr hf hp hn1 j hj with ⟨_, h1⟩ | h1
    · rw [F.shareNotOwnNew.1] at h1; cases h1
    · exact h1
  · rcases past_needsOld hh (k := ks) (by omega) hr hf hp hn2 j hj with ⟨_, h1⟩ | h1
    · rw [F.shareNotOwnNew.2] at h1; cases h1
    · exact h1

end TssVerif.E2L
