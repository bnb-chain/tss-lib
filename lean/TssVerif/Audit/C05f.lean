import TssVerif.Props.C05f
#print axioms TssVerif.C05f.rs5_first_failing_named
#print axioms TssVerif.C05f.rs5_pass_iff
#print axioms TssVerif.C05f.rs5_culprit_is_sender
#print axioms TssVerif.C05f.rs5_never_names_self
#print axioms TssVerif.C05f.rs5_honest_peer_not_named
#print axioms TssVerif.C05f.rs5_single_deviator
#print axioms TssVerif.C05f.rsFacPeer_none_iff
#print axioms TssVerif.C05f.rsFacPeer_named_iff
#print axioms TssVerif.C05f.rs5_context_is_verifiers
#print axioms TssVerif.C05f.rs5_sender_index_irrelevant
#print axioms TssVerif.C05f.rs5_rejected_proof_blamed
#print axioms TssVerif.C05f.rs5_missing_proof_blamed
#print axioms TssVerif.C05f.rs5_missing_proof_tolerated
#print axioms TssVerif.C05f.rs5_peer_returns
#print axioms TssVerif.C05f.rs5_no_panic
#print axioms TssVerif.C05f.rs5_no_unattributed_error
#print axioms TssVerif.C05f.rs5_returns
#print axioms TssVerif.C05f.rs5_accept_witness
#print axioms TssVerif.C05f.rs5_reject_witness
