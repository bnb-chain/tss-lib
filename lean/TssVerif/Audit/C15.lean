import TssVerif.Props.C15
#print axioms TssVerif.C15.evalPoly_spec
#print axioms TssVerif.C15.vss_first_commitment
#print axioms TssVerif.C15.vss_create_refuses_iff
#print axioms TssVerif.C15.vss_create_panics_iff
#print axioms TssVerif.C15.vss_create_ok_iff
#print axioms TssVerif.C15.vss_verify_sound
#print axioms TssVerif.C15.vss_verify_iff
#print axioms TssVerif.C15.vss_verify_iff_of_affine_zero
#print axioms TssVerif.C15.vss_verify_partial_sum_rejects
#print axioms TssVerif.C15.vss_verify_no_panic
#print axioms TssVerif.C15.vss_verify_no_panic_commitment
#print axioms TssVerif.C15.vss_verify_unrepaired_panics
#print axioms TssVerif.C15.vss_share_verifies
#print axioms TssVerif.C15.vss_zero_share_rejected
#print axioms TssVerif.C15.vss_other_id
#print axioms TssVerif.C15.vss_other_id_bound
#print axioms TssVerif.C15.vss_tamper_rejected
#print axioms TssVerif.C15.vss_tamper_commitment_rejected
#print axioms TssVerif.C15.vss_reconstruct
#print axioms TssVerif.C15.vss_reconstruct_dealt
#print axioms TssVerif.C15.vss_fewer_shares_refused
#print axioms TssVerif.C15.vss_t_shares_iff
#print axioms TssVerif.C15.vss_t_shares_iff_prod
#print axioms TssVerif.C15.vss_t_shares_wrong
#print axioms TssVerif.C15.vss_privacy
#print axioms TssVerif.C15.vss_privacy_poly
#print axioms TssVerif.C15.vss_one_polynomial
#print axioms TssVerif.C15.dealE
#print axioms TssVerif.C15.dealW
