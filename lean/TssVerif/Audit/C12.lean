import TssVerif.Props.C12
#print axioms TssVerif.C12.frame_int_natAbs_injective
#print axioms TssVerif.C12.untagged_challenge_binding
#print axioms TssVerif.C12.tagged_challenge_binding
#print axioms TssVerif.C12.tagged_other_context_needs_collision
#print axioms TssVerif.C12.tagged_digest_needs_collision
#print axioms TssVerif.C12.untagged_digest_needs_collision
#print axioms TssVerif.C12.short_of_lt_pow
#print axioms TssVerif.C12.schnorr_challenge_eq
#print axioms TssVerif.C12.schnorr_preimage_injective
#print axioms TssVerif.C12.schnorr_challenge_binding
#print axioms TssVerif.C12.schnorr_other_context_needs_collision
#print axioms TssVerif.C12.schnorrV_challenge_eq
#print axioms TssVerif.C12.schnorrV_preimage_injective
#print axioms TssVerif.C12.schnorrV_challenge_binding
#print axioms TssVerif.C12.schnorrV_other_context_needs_collision
#print axioms TssVerif.C12.bob_challenge_eq
#print axioms TssVerif.C12.bob_preimage_injective
#print axioms TssVerif.C12.bob_challenge_binding
#print axioms TssVerif.C12.bob_other_context_needs_collision
#print axioms TssVerif.C12.fac_challenge_eq
#print axioms TssVerif.C12.fac_preimage_injective
#print axioms TssVerif.C12.fac_challenge_binding
#print axioms TssVerif.C12.fac_other_context_needs_collision
#print axioms TssVerif.C12.mod_challenge_eq
#print axioms TssVerif.C12.mod_preimage_injective
#print axioms TssVerif.C12.mod_challenge_binding
#print axioms TssVerif.C12.mod_other_context_needs_collision
#print axioms TssVerif.C12.range_challenge_eq
#print axioms TssVerif.C12.range_no_session
#print axioms TssVerif.C12.range_preimage_injective
#print axioms TssVerif.C12.range_challenge_binding
#print axioms TssVerif.C12.dln_challenge_eq
#print axioms TssVerif.C12.dln_no_session
#print axioms TssVerif.C12.dln_preimage_injective
#print axioms TssVerif.C12.dln_challenge_binding
#print axioms TssVerif.C12.paillier_candidate_eq
#print axioms TssVerif.C12.paillier_key_binding
#print axioms TssVerif.C12.paillier_key_binding_nonneg
#print axioms TssVerif.C12.context_injective
#print axioms TssVerif.C12.context_index_distinct
#print axioms TssVerif.C12.context_not_framed_witness
#print axioms TssVerif.C12.schnorr_two_challenges
#print axioms TssVerif.C12.schnorrV_two_challenges
#print axioms TssVerif.C12.schnorr_two_challenges_needs_order
#print axioms TssVerif.C12.schnorr_accept_equation
#print axioms TssVerif.C12.schnorrV_accept_equation
#print axioms TssVerif.C12.schnorr_accepted_two_sessions
#print axioms TssVerif.C12.schnorr_replay_other_session_needs_collision
#print axioms TssVerif.C12.schnorrV_accepted_two_sessions
#print axioms TssVerif.C12.schnorrV_replay_other_session_needs_collision
#print axioms TssVerif.C12.schnorr_replay_other_statement
#print axioms TssVerif.C12.range_two_challenges
#print axioms TssVerif.C12.fac_two_challenges
#print axioms TssVerif.C12.bob_two_challenges
#print axioms TssVerif.C12.bob_accept_equation
#print axioms TssVerif.C12.bob_accepted_two_contexts
#print axioms TssVerif.C12.fac_accept_equation
#print axioms TssVerif.C12.fac_accepted_two_contexts
#print axioms TssVerif.C12.range_accept_equation
#print axioms TssVerif.C12.range_accepted_two_statements
#print axioms TssVerif.C12.schnorr_response_nonmalleable
#print axioms TssVerif.C12.schnorr_response_equivalent
#print axioms TssVerif.C12.schnorrV_response_nonmalleable
#print axioms TssVerif.C12.schnorrV_response_nonmalleable_u
#print axioms TssVerif.C12.dln_response_nonmalleable
#print axioms TssVerif.C12.dln_response_nonmalleable_pow
#print axioms TssVerif.C12.dln_response_order
#print axioms TssVerif.C12.mod_accept_canonical
#print axioms TssVerif.C12.mod_negated_root_rejected
#print axioms TssVerif.C12.mod_old_negated_root_accepted_witness
#print axioms TssVerif.C12.mod_root_unique_up_to_factoring
#print axioms TssVerif.C12.mod_other_root_reveals_factor
#print axioms TssVerif.C12.preimage_ne_of_commitment_ne
#print axioms TssVerif.C12.tagged_bytes_ne_of_preimage_ne
#print axioms TssVerif.C12.schnorr_shift_changes_preimage
#print axioms TssVerif.C12.schnorr_shift_changes_hashed_bytes
#print axioms TssVerif.C12.schnorr_commitment_replaced
#print axioms TssVerif.C12.schnorr_shift_needs_same_challenge
#print axioms TssVerif.C12.toy_challenge
#print axioms TssVerif.C12.schnorr_toy_accept
#print axioms TssVerif.C12.toy_order
#print axioms TssVerif.C12.dln_toy_accept
#print axioms TssVerif.C12.bob_toy_accept
#print axioms TssVerif.C12.fac_toy_accept
#print axioms TssVerif.C12.range_toy_accept
