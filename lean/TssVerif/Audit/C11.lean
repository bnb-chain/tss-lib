import TssVerif.Props.C11
#print axioms TssVerif.C11.range_accept_implies
#print axioms TssVerif.C11.bob_accept_implies
#print axioms TssVerif.C11.bobWC_accept_implies_point
#print axioms TssVerif.C11.schnorr_accept_implies
#print axioms TssVerif.C11.schnorrV_accept_implies
#print axioms TssVerif.C11.mod_accept_implies
#print axioms TssVerif.C11.fac_accept_implies
#print axioms TssVerif.C11.fac_accept_implies_nonneg
#print axioms TssVerif.C11.dln_accept_implies
#print axioms TssVerif.C11.dln_accept_implies_nonneg
#print axioms TssVerif.C11.schnorr_special_sound
#print axioms TssVerif.C11.schnorr_two_transcripts
#print axioms TssVerif.C11.dln_both_bits_extract
#print axioms TssVerif.C11.range_accept_bounds_plaintext
#print axioms TssVerif.C11.range_rejects_large_plaintext
#print axioms TssVerif.C11.bob_rejects_large_multiplier
#print axioms TssVerif.C11.bob_rejects_large_mask
#print axioms TssVerif.C11.fac_bound_meaning
#print axioms TssVerif.C11.paillierProof_accept_implies
#print axioms TssVerif.C11.smallPrimes_spec
#print axioms TssVerif.C11.paillier_guards
#print axioms TssVerif.C11.fact5
#print axioms TssVerif.C11.C5_lawful
#print axioms TssVerif.C11.no_small_factor_1009_1013
#print axioms TssVerif.C11.C5_torsion
