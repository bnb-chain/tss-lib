import TssVerif.Props.C10
#print axioms TssVerif.C10.schnorr_complete
#print axioms TssVerif.C10.schnorr_complete_iff
#print axioms TssVerif.C10.schnorr_complete_nat
#print axioms TssVerif.C10.schnorrV_complete
#print axioms TssVerif.C10.schnorrV_complete_iff
#print axioms TssVerif.C10.dln_complete
#print axioms TssVerif.C10.dln_complete_iff
#print axioms TssVerif.C10.range_complete
#print axioms TssVerif.C10.range_complete_iff
#print axioms TssVerif.C10.range_complete_enc
#print axioms TssVerif.C10.paillierKey_complete
#print axioms TssVerif.C10.no_small_factor
#print axioms TssVerif.C10.fac_complete
#print axioms TssVerif.C10.fac_complete_iff
#print axioms TssVerif.C10.bob_complete
#print axioms TssVerif.C10.bob_complete_iff
#print axioms TssVerif.C10.mod_complete_partial
#print axioms TssVerif.C10.goJacobi_correct
#print axioms TssVerif.C10.fourthRootFact_blum
#print axioms TssVerif.C10.mod_complete
#print axioms TssVerif.C10.wire_roundtrip_general
#print axioms TssVerif.C10.wire_roundtrip
#print axioms TssVerif.C10.wire_roundtrip_nat
#print axioms TssVerif.C10.wire_drops_sign
#print axioms TssVerif.C10.wire_roundtrip_pos
#print axioms TssVerif.C10.dln_serialize_roundtrip
#print axioms TssVerif.C10.viaWire_pos
#print axioms TssVerif.C10.complete_wire
#print axioms TssVerif.C10.fac_complete_wire
#print axioms TssVerif.C10.range_complete_wire
#print axioms TssVerif.C10.bob_complete_wire
