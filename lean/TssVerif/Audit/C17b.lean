import TssVerif.Props.C17b
#print axioms TssVerif.C17b.ecNew_on_curve
#print axioms TssVerif.C17b.unflatten_all_on_curve
#print axioms TssVerif.C17b.lift_on_curve
#print axioms TssVerif.C17b.bobWC_point_on_curve
#print axioms TssVerif.C17b.sg3_point_on_curve
#print axioms TssVerif.C17b.sg5_point_on_curve
#print axioms TssVerif.C17b.sg5_round_points_on_curve
#print axioms TssVerif.C17b.sg7_points_on_curve
#print axioms TssVerif.C17b.sg7_round_points_on_curve
#print axioms TssVerif.C17b.round9_accepts_only_curve_points
#print axioms TssVerif.C17b.round9_accepts_only_curve_points'
#print axioms TssVerif.C17b.round9_old_tree_accepts_only_curve_points
#print axioms TssVerif.C17b.round9_old_tree_accepts_offcurve_is_self_blame
#print axioms TssVerif.C17b.eddsa_sg3_point_on_curve
#print axioms TssVerif.C17b.eddsa_kg3_points_on_curve
#print axioms TssVerif.C17b.ecdsa_kg3_points_on_curve
#print axioms TssVerif.C17b.rs_points_on_curve
#print axioms TssVerif.C17b.rs_key_on_curve
#print axioms TssVerif.C17b.rs_every_announced_key_on_curve
