import TssVerif.Props.C05
import TssVerif.Props.C05b
import TssVerif.Props.C05c
import TssVerif.Props.C05d
import TssVerif.Props.C05e
import TssVerif.Props.C05f
import TssVerif.Props.C05g
import TssVerif.Props.C05h
#print axioms TssVerif.C05.kg_result
#print axioms TssVerif.C05.kg_culprits_subset_peers
#print axioms TssVerif.C05.kg_never_names_self
#print axioms TssVerif.C05.kg_culprit_iff
#print axioms TssVerif.C05.kg_bad_decommit_blamed
#print axioms TssVerif.C05.kg_bad_schnorr_blamed
#print axioms TssVerif.C05.kg_bad_share_blamed
#print axioms TssVerif.C05.kg_bad_format_blamed
#print axioms TssVerif.C05.kg_covered_alteration_blamed
#print axioms TssVerif.C05.single_deviator_blamed_exactly
#print axioms TssVerif.C05.clear_id_of_order
#print axioms TssVerif.C05.clear_id_of_base_multiple
#print axioms TssVerif.C05.kg_honest_peer_passes
#print axioms TssVerif.C05.honest_kg_peer_passes
#print axioms TssVerif.C05.single_deviator_blame
#print axioms TssVerif.C05.single_deviator_theorem
#print axioms TssVerif.C05.kg_check_returns
#print axioms TssVerif.C05.kg_returns
#print axioms TssVerif.C05.kg_no_panic
#print axioms TssVerif.C05.kg_old_panics_witness
#print axioms TssVerif.C05.kg_clear_scalars_needed_witness
#print axioms TssVerif.C05.kg_check_accepts_iff
#print axioms TssVerif.C05.kg_accept_consistent
#print axioms TssVerif.C05.kg_accept_on_polynomial
#print axioms TssVerif.C05.sg_error_names_first_failing_peer
#print axioms TssVerif.C05.sg_pass_iff
#print axioms TssVerif.C05.sg_error_names_a_peer
#print axioms TssVerif.C05.sg_error_always_blamed
#print axioms TssVerif.C05.sg_check_accepts_iff
#print axioms TssVerif.C05.sg_covered_alteration_blamed
#print axioms TssVerif.C05.sg_honest_peer_passes
#print axioms TssVerif.C05.sg_single_deviator_blame
#print axioms TssVerif.C05.sg_single_deviator_blamed_exactly
#print axioms TssVerif.C05.sg_returns
#print axioms TssVerif.C05.sg_old_unblamed_witness
#print axioms TssVerif.C05.sg_old_nil_panics_witness
#print axioms TssVerif.C05.sg_first_failing_witness
#print axioms TssVerif.C05.replay_blamed_witness
#print axioms TssVerif.C05.no_bad_output_signature
#print axioms TssVerif.C05.no_bad_output_share
#print axioms TssVerif.C05.no_bad_output_binding
#print axioms TssVerif.C05.no_bad_output_decommit_unique
#print axioms TssVerif.C05b.r2_pass_iff
#print axioms TssVerif.C05b.r2_scan_none_spawns_all
#print axioms TssVerif.C05b.r2_pass_iff_all
#print axioms TssVerif.C05b.r2_culprits_are_senders
#print axioms TssVerif.C05b.r2_structural_blames_sender
#print axioms TssVerif.C05b.r2_structural_failure_cases
#print axioms TssVerif.C05b.r2_duplicateCulprits
#print axioms TssVerif.C05b.HonestOthers.oneDev
#print axioms TssVerif.C05b.HonestOthers.dlnOk
#print axioms TssVerif.C05b.r2_single_deviator
#print axioms TssVerif.C05b.r2_covered_alteration_blamed
#print axioms TssVerif.C05b.r2_bad_size_blamed
#print axioms TssVerif.C05b.r2_duplicate_general
#print axioms TssVerif.C05b.r2_duplicate_with_own_blames_other
#print axioms TssVerif.C05b.r2_duplicate_with_third_names_nobody
#print axioms TssVerif.C05b.r2_no_panic
#print axioms TssVerif.C05b.r2_dev_jobs_return
#print axioms TssVerif.C05b.r2_returns
#print axioms TssVerif.C05b.r3_culprit_iff
#print axioms TssVerif.C05b.r3_culprits_sublist
#print axioms TssVerif.C05b.r3_never_names_self
#print axioms TssVerif.C05b.r3_single_deviator_blamed_exactly
#print axioms TssVerif.C05b.checkPeer_pass_iff
#print axioms TssVerif.C05b.r3_bad_decommit_blamed
#print axioms TssVerif.C05b.r3_bad_points_blamed
#print axioms TssVerif.C05b.r3_bad_mod_blamed
#print axioms TssVerif.C05b.r3_bad_share_blamed
#print axioms TssVerif.C05b.r3_bad_fac_blamed
#print axioms TssVerif.C05b.r3_covered_alteration_blamed
#print axioms TssVerif.C05b.r3_check_no_panic
#print axioms TssVerif.C05b.r3_no_panic
#print axioms TssVerif.C05b.sizesOk_msg
#print axioms TssVerif.C05b.prf_decodes_9
#print axioms TssVerif.C05b.prf_decodes_25
#print axioms TssVerif.C05b.prf_decodes_49
#print axioms TssVerif.C05b.prf_decodes_121
#print axioms TssVerif.C05b.prf_decodes_169
#print axioms TssVerif.C05b.prf_decodes_225
#print axioms TssVerif.C05b.dln_3
#print axioms TssVerif.C05b.dln_5
#print axioms TssVerif.C05b.dln_7
#print axioms TssVerif.C05b.dln_11
#print axioms TssVerif.C05b.dln_13
#print axioms TssVerif.C05b.dln_15
#print axioms TssVerif.C05b.dln_13_bad
#print axioms TssVerif.C05b.scan_clean
#print axioms TssVerif.C05b.honestOthers_witness
#print axioms TssVerif.C05b.r3_empty_decommitment_panics_witness
#print axioms TssVerif.C05c.rs_pass_iff
#print axioms TssVerif.C05c.rs_scan_none_spawns_all
#print axioms TssVerif.C05c.rs_pass_iff_all
#print axioms TssVerif.C05c.rs_scan_none_iff
#print axioms TssVerif.C05c.rs_culprits_are_senders
#print axioms TssVerif.C05c.rs_structural_failure_cases
#print axioms TssVerif.C05c.rs_structural_equal_blames_sender
#print axioms TssVerif.C05c.rs_structural_pass_iff
#print axioms TssVerif.C05c.rs_duplicate_never_names_own
#print axioms TssVerif.C05c.rs_duplicateCulprits
#print axioms TssVerif.C05c.HonestOthersRs.oneDev
#print axioms TssVerif.C05c.HonestOthersRs.jobsOk
#print axioms TssVerif.C05c.rs_single_deviator
#print axioms TssVerif.C05c.rs_covered_alteration_blamed
#print axioms TssVerif.C05c.rs_equal_blamed
#print axioms TssVerif.C05c.rs_missing_mod_proof
#print axioms TssVerif.C05c.rs_mod_job_iff
#print axioms TssVerif.C05c.rs_missing_mod_proof_blamed
#print axioms TssVerif.C05c.rs_missing_mod_proof_tolerated
#print axioms TssVerif.C05c.rs_duplicate_general
#print axioms TssVerif.C05c.rs_duplicate_with_own_blames_other
#print axioms TssVerif.C05c.rs_duplicate_with_third_names_nobody
#print axioms TssVerif.C05c.rs_no_panic
#print axioms TssVerif.C05c.rs_mod_job_never_errs
#print axioms TssVerif.C05c.rs_dev_jobs_return
#print axioms TssVerif.C05c.rs_returns
#print axioms TssVerif.C05c.rs_no_size_check_witness
#print axioms TssVerif.C05c.dln_1a
#print axioms TssVerif.C05c.dln_1b
#print axioms TssVerif.C05c.dln_2a
#print axioms TssVerif.C05c.dln_2b
#print axioms TssVerif.C05c.dln_3a
#print axioms TssVerif.C05c.dln_3b
#print axioms TssVerif.C05c.mod27_1
#print axioms TssVerif.C05c.mod27_3
#print axioms TssVerif.C05c.rs_tiny_moduli_pass_witness
#print axioms TssVerif.C05c.honestOthersRs_witness
#print axioms TssVerif.C05c.honestOthersRs_witness_strict
#print axioms TssVerif.C05c.rs_old_tree_panics_witness
#print axioms TssVerif.C05d.sg2_culprit_iff
#print axioms TssVerif.C05d.sg2_culprits_are_senders
#print axioms TssVerif.C05d.sg2_never_names_self
#print axioms TssVerif.C05d.sg2_pass_iff
#print axioms TssVerif.C05d.sg2_single_deviator
#print axioms TssVerif.C05d.r2Peer_true_iff
#print axioms TssVerif.C05d.r2Peer_undecodable_fails
#print axioms TssVerif.C05d.r2Peer_rejected_fails
#print axioms TssVerif.C05d.r2Peer_bad_ciphertext_fails
#print axioms TssVerif.C05d.sg2_covered_alteration_blamed
#print axioms TssVerif.C05d.sg2_no_panic
#print axioms TssVerif.C05d.sg2_returns
#print axioms TssVerif.C05d.sg3_culprit_iff
#print axioms TssVerif.C05d.sg3_culprits_are_senders
#print axioms TssVerif.C05d.sg3_never_names_self
#print axioms TssVerif.C05d.sg3_shares_only_when_clean
#print axioms TssVerif.C05d.sg3_shares_are_the_peers
#print axioms TssVerif.C05d.sg3_shares_length
#print axioms TssVerif.C05d.sg3_single_deviator
#print axioms TssVerif.C05d.sg3_pass_iff
#print axioms TssVerif.C05d.r3Peer_some_iff
#print axioms TssVerif.C05d.sg3_covered_alteration_fails
#print axioms TssVerif.C05d.sg3_covered_alteration_blamed
#print axioms TssVerif.C05d.sg3_wrong_point_blamed
#print axioms TssVerif.C05d.sg3_no_panic
#print axioms TssVerif.C05d.sg3_returns
#print axioms TssVerif.C05d.bobWCFromBytes_panics_iff
#print axioms TssVerif.C05d.bobWC_ten_parts_panics_witness
#print axioms TssVerif.C05d.sg3_ten_parts_panics_witness
#print axioms TssVerif.C05d.sg5_first_failing_named
#print axioms TssVerif.C05d.r5Peer_names_its_peer
#print axioms TssVerif.C05d.sg5_culprit_is_sender
#print axioms TssVerif.C05d.sg5_pass_sum
#print axioms TssVerif.C05d.r5Peer_pass_iff
#print axioms TssVerif.C05d.sg5_covered_alteration_fails
#print axioms TssVerif.C05d.sg5_single_deviator
#print axioms TssVerif.C05d.sg5_single_deviator_affine_identity
#print axioms TssVerif.C05d.sg5_deviator_blamed_exactly
#print axioms TssVerif.C05d.sg5_no_panic
#print axioms TssVerif.C05d.sg5_no_unattributed_error
#print axioms TssVerif.C05d.sg5_returns
#print axioms TssVerif.C05d.sg7_first_failing_named
#print axioms TssVerif.C05d.r7Peer_names_its_peer
#print axioms TssVerif.C05d.sg7_culprit_is_sender
#print axioms TssVerif.C05d.r7Peer_pass_iff
#print axioms TssVerif.C05d.sg7_pass_all
#print axioms TssVerif.C05d.sg7_pass_length
#print axioms TssVerif.C05d.sg7_covered_alteration_fails
#print axioms TssVerif.C05d.sg7_single_deviator
#print axioms TssVerif.C05d.sg7_deviator_blamed_exactly
#print axioms TssVerif.C05d.sg7_no_panic
#print axioms TssVerif.C05d.sg7_returns
#print axioms TssVerif.C05d.forall_mem_three
#print axioms TssVerif.C05d.honest5
#print axioms TssVerif.C05d.sg5_empty_decommitment_panics_witness
#print axioms TssVerif.C05d.sg5_hadd_needed_witness
#print axioms TssVerif.C05d.honest7
#print axioms TssVerif.C05d.sg7_empty_decommitment_panics_witness
#print axioms TssVerif.C05d.honest2
#print axioms TssVerif.C05d.honest3
#print axioms TssVerif.C05e.opens_iff
#print axioms TssVerif.C05e.noOpen_iff
#print axioms TssVerif.C05e.short_iff
#print axioms TssVerif.C05e.offU_iff
#print axioms TssVerif.C05e.offT_iff
#print axioms TssVerif.C05e.named_iff
#print axioms TssVerif.C05e.opening_trichotomy
#print axioms TssVerif.C05e.opens_functional
#print axioms TssVerif.C05e.opens_excludes
#print axioms TssVerif.C05e.sg9_first_failing_named
#print axioms TssVerif.C05e.sg9_first_failing_named_cur
#print axioms TssVerif.C05e.sg9_first_failing_named_old
#print axioms TssVerif.C05e.sg9_offcurve_names_sender
#print axioms TssVerif.C05e.sg9_bad_opening_names_sender
#print axioms TssVerif.C05e.sg9_old_tree_offcurve_names_self
#print axioms TssVerif.C05e.sg9_culprit_is_sender_or_own
#print axioms TssVerif.C05e.sg9_fail_kinds
#print axioms TssVerif.C05e.sg9_self_blame_only_for_local_assertion
#print axioms TssVerif.C05e.sg9_honest_peer_not_named
#print axioms TssVerif.C05e.sg9_single_deviator
#print axioms TssVerif.C05e.sg9_single_deviator_old
#print axioms TssVerif.C05e.sg9_pass_iff
#print axioms TssVerif.C05e.sg9_pass_all_open
#print axioms TssVerif.C05e.sg9_trees_agree_on_valid_openings
#print axioms TssVerif.C05e.sg9_panic_iff
#print axioms TssVerif.C05e.decommit_length
#print axioms TssVerif.C05e.sg9_no_panic
#print axioms TssVerif.C05e.sg9_no_unattributed_error
#print axioms TssVerif.C05e.sg9_returns
#print axioms TssVerif.C05e.sg9_short_opening_panics
#print axioms TssVerif.C05e.round9_eq
#print axioms TssVerif.C05e.round9_err_iff
#print axioms TssVerif.C05e.sg9_old_tree_self_blame_witness
#print axioms TssVerif.C05e.honest9
#print axioms TssVerif.C05e.sg9_short_opening_panics_witness
#print axioms TssVerif.C05e.sg9_empty_decommitment_panics_witness
#print axioms TssVerif.C05f.rs5_first_failing_named
#print axioms TssVerif.C05f.rs5_pass_iff
#print axioms TssVerif.C05f.rs5_culprit_is_sender
#print axioms TssVerif.C05f.rs5_never_names_self
#print axioms TssVerif.C05f.rs5_honest_peer_not_named
#print axioms TssVerif.C05f.rs5_single_deviator
#print axioms TssVerif.C05f.rsFacPeer_none_iff
#print axioms TssVerif.C05f.rsFacPeer_named_iff
#print axioms TssVerif.C05f.rs5_context_is_verifiers
#print axioms TssVerif.C05f.rs5_sender_index_irrelevant
#print axioms TssVerif.C05f.rs5_rejected_proof_blamed
#print axioms TssVerif.C05f.rs5_missing_proof_blamed
#print axioms TssVerif.C05f.rs5_missing_proof_tolerated
#print axioms TssVerif.C05f.rs5_peer_returns
#print axioms TssVerif.C05f.rs5_returns
#print axioms TssVerif.C05f.rs5_no_panic
#print axioms TssVerif.C05f.rs5_no_unattributed_error
#print axioms TssVerif.C05f.rs5_accept_witness
#print axioms TssVerif.C05f.rs5_reject_witness
#print axioms TssVerif.C05g.emits_ecdsa_iff
#print axioms TssVerif.C05g.emits_eddsa_iff
#print axioms TssVerif.C05g.lossView_rejected
#print axioms TssVerif.C05g.lossView_not_emits
#print axioms TssVerif.C05g.c05_last_clause_false_witness
#print axioms TssVerif.C05g.c05_last_clause_false_witness_1_2
#print axioms TssVerif.C05g.c05_last_clause_ecdsa_false
#print axioms TssVerif.C05g.c05_last_clause_partial
#print axioms TssVerif.C05g.c05_last_clause_all_final
#print axioms TssVerif.C05g.c05_last_clause_eddsa
#print axioms TssVerif.C05g.c05_last_clause_eddsa_holds
#print axioms TssVerif.C05g.c05_last_clause_ecdsa_iff
#print axioms TssVerif.C05g.c05_last_clause_ecdsa_single_deviator
#print axioms TssVerif.C05h.kg4_culprit_iff
#print axioms TssVerif.C05h.kg4_culprits_are_senders
#print axioms TssVerif.C05h.kg4_never_names_self
#print axioms TssVerif.C05h.kg4_pass_iff
#print axioms TssVerif.C05h.kg4_clean_iff
#print axioms TssVerif.C05h.kg4_no_key_data_when_a_check_fails
#print axioms TssVerif.C05h.kg4_single_deviator
#print axioms TssVerif.C05h.kg4Peer_true_iff
#print axioms TssVerif.C05h.kg4Peer_false_iff
#print axioms TssVerif.C05h.kg4_verifier_error_is_rejection
#print axioms TssVerif.C05h.kg4Peer_no_error
#print axioms TssVerif.C05h.kg4Peer_accept_spec
#print axioms TssVerif.C05h.kg4Peer_accept_basic
#print axioms TssVerif.C05h.kg4_small_factor_blamed
#print axioms TssVerif.C05h.kg4_covered_alteration_blamed
#print axioms TssVerif.C05h.kg4Peer_panics_iff
#print axioms TssVerif.C05h.kg4_no_panic
#print axioms TssVerif.C05h.kg4_returns
#print axioms TssVerif.C05h.kg4_no_unattributed_error
#print axioms TssVerif.C05h.kg4_short_proof_panics_witness
#print axioms TssVerif.C05h.kg4_short_proof_panics_round_witness
#print axioms TssVerif.C05h.no_small_factor_1009_1013
#print axioms TssVerif.C05h.good_accepted
#print axioms TssVerif.C05h.bad_rejected
