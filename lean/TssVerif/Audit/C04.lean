import TssVerif.Props.C04
import TssVerif.Props.C04b
import TssVerif.Props.C04c
#print axioms TssVerif.C04.reshare_same_secret
#print axioms TssVerif.C04.reshare_same_key
#print axioms TssVerif.C04.reshare_v0_check_sound
#print axioms TssVerif.C04.reshare_v0_check_key_preserved
#print axioms TssVerif.C04.reshare_chain
#print axioms TssVerif.C04.reshare_chain_pk
#print axioms TssVerif.C04.oldF
#print axioms TssVerif.C04.oldShares
#print axioms TssVerif.C04b.emits_once_in_order2
#print axioms TssVerif.C04b.advance_requires2
#print axioms TssVerif.C04b.update_fixpoint2
#print axioms TssVerif.C04b.start_fixpoint2
#print axioms TssVerif.C04b.local_confluence2
#print axioms TssVerif.C04b.duplicates_idempotent2
#print axioms TssVerif.C04b.schedule_independent2
#print axioms TssVerif.C04b.schedule_independent_up_to_duplicates2
#print axioms TssVerif.C04b.prestart_equals_poststart2
#print axioms TssVerif.C04b.ended_iff_final_round
#print axioms TssVerif.C04b.old_final_needs_all_acks
#print axioms TssVerif.C04b.new_final_needs_all_acks
#print axioms TssVerif.C04b.new_final_has_acked
#print axioms TssVerif.C04b.new_ack_needs_all_shares
#print axioms TssVerif.C04b.erase_after_all_acks
#print axioms TssVerif.C04b.save_after_all_acks
#print axioms TssVerif.C04b.ack_after_shares
#print axioms TssVerif.C04b.cut_leaves_old_intact
#print axioms TssVerif.C04b.cut_no_key_material
#print axioms TssVerif.C04b.no_deadlock2
#print axioms TssVerif.C04b.no_deadlock2_any
#print axioms TssVerif.C04b.honest_eddsa_end
#print axioms TssVerif.C04b.honest_ecdsa_end
#print axioms TssVerif.C04c.key_agreed_by_every_old_member
#print axioms TssVerif.C04c.key_agreed_iff
#print axioms TssVerif.C04c.key_failure_cases
#print axioms TssVerif.C04c.key_mismatch_names_nobody
#print axioms TssVerif.C04c.old_tree_first_member_decides
#print axioms TssVerif.C04c.old_tree_failure
#print axioms TssVerif.C04c.old_tree_never_reports_mismatch
#print axioms TssVerif.C04c.old_tree_accepts_disagreement_witness
#print axioms TssVerif.C04c.check_old_pass_iff
#print axioms TssVerif.C04c.check_old_fail_names_sender
#print axioms TssVerif.C04c.round4_ack_iff
#print axioms TssVerif.C04c.new_member_of_key
#print axioms TssVerif.C04c.ack_inv
#print axioms TssVerif.C04c.ack_implies_every_check
#print axioms TssVerif.C04c.failure_iff
#print axioms TssVerif.C04c.failure_culprits
#print axioms TssVerif.C04c.new_member_failure_names
#print axioms TssVerif.C04c.single_deviator_old_member
#print axioms TssVerif.C04c.single_deviator_old_member_blamed
#print axioms TssVerif.C04c.altered_share_blamed
#print axioms TssVerif.C04c.altered_decommitment_blamed
#print axioms TssVerif.C04c.off_curve_points_blamed
#print axioms TssVerif.C04c.ack_share_consistent
#print axioms TssVerif.C04c.ack_each_share_consistent
#print axioms TssVerif.C04c.ack_each_share_on_committed_polynomial
#print axioms TssVerif.C04c.ack_share_on_summed_polynomial
#print axioms TssVerif.C04c.check_old_returns
#print axioms TssVerif.C04c.newMember_returns
#print axioms TssVerif.C04c.newMember_no_panic
