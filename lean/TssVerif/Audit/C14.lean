import TssVerif.Props.C14
import TssVerif.Props.C14b
#print axioms TssVerif.C14.phi_unit_of_not_dvd
#print axioms TssVerif.C14.lambda_unit_of_not_dvd
#print axioms TssVerif.C14.lambda_unit_same_bitlen
#print axioms TssVerif.C14.lambda_unit_safe_primes
#print axioms TssVerif.C14.safe_primes_side_condition_needed
#print axioms TssVerif.C14.enc_ok
#print axioms TssVerif.C14.enc_lt
#print axioms TssVerif.C14.enc_is_unit
#print axioms TssVerif.C14.dec_enc
#print axioms TssVerif.C14.dec_enc_keyOf
#print axioms TssVerif.C14.dec_enc_keygen
#print axioms TssVerif.C14.homo_add
#print axioms TssVerif.C14.homo_mult
#print axioms TssVerif.C14.ct_closed
#print axioms TssVerif.C14.enc_injective_in_x
#print axioms TssVerif.C14.enc_injective
#print axioms TssVerif.C14.guards_encrypt
#print axioms TssVerif.C14.guards_homoMult
#print axioms TssVerif.C14.guards_homoAdd
#print axioms TssVerif.C14.guards_decrypt
#print axioms TssVerif.C14.guards
#print axioms TssVerif.C14.decrypt_never_panics
#print axioms TssVerif.C14.keygen_shape
#print axioms TssVerif.C14.keygen_units
#print axioms TssVerif.C14.homo_affine
#print axioms TssVerif.C14.homoAdd_comm_ok
#print axioms TssVerif.C14.homoAdd_comm_refuses
