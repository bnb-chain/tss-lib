import TssVerif.Props.C05e
#print axioms TssVerif.C05e.opens_iff
#print axioms TssVerif.C05e.noOpen_iff
#print axioms TssVerif.C05e.short_iff
#print axioms TssVerif.C05e.offU_iff
#print axioms TssVerif.C05e.offT_iff
#print axioms TssVerif.C05e.named_iff
#print axioms TssVerif.C05e.opening_trichotomy
#print axioms TssVerif.C05e.opens_functional
#print axioms TssVerif.C05e.opens_excludes
#print axioms TssVerif.C05e.sg9_first_failing_named
#print axioms TssVerif.C05e.sg9_first_failing_named_cur
#print axioms TssVerif.C05e.sg9_first_failing_named_old
#print axioms TssVerif.C05e.sg9_offcurve_names_sender
#print axioms TssVerif.C05e.sg9_bad_opening_names_sender
#print axioms TssVerif.C05e.sg9_old_tree_offcurve_names_self
#print axioms TssVerif.C05e.sg9_culprit_is_sender_or_own
#print axioms TssVerif.C05e.sg9_fail_kinds
#print axioms TssVerif.C05e.sg9_self_blame_only_for_local_assertion
#print axioms TssVerif.C05e.sg9_honest_peer_not_named
#print axioms TssVerif.C05e.sg9_single_deviator
#print axioms TssVerif.C05e.sg9_single_deviator_old
#print axioms TssVerif.C05e.sg9_pass_iff
#print axioms TssVerif.C05e.sg9_pass_all_open
#print axioms TssVerif.C05e.sg9_trees_agree_on_valid_openings
#print axioms TssVerif.C05e.sg9_panic_iff
#print axioms TssVerif.C05e.decommit_length
#print axioms TssVerif.C05e.sg9_no_panic
#print axioms TssVerif.C05e.sg9_no_unattributed_error
#print axioms TssVerif.C05e.sg9_returns
#print axioms TssVerif.C05e.sg9_short_opening_panics
#print axioms TssVerif.C05e.round9_eq
#print axioms TssVerif.C05e.round9_err_iff
#print axioms TssVerif.C05e.sg9_old_tree_self_blame_witness
#print axioms TssVerif.C05e.honest9
#print axioms TssVerif.C05e.sg9_short_opening_panics_witness
#print axioms TssVerif.C05e.sg9_empty_decommitment_panics_witness
