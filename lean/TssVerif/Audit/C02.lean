import TssVerif.Props.C02
import TssVerif.Props.C02b
#print axioms TssVerif.C02.eddsa_sign_algebra
#print axioms TssVerif.C02.eddsa_sign_algebra_points
#print axioms TssVerif.C02.eddsa_cofactored_check
#print axioms TssVerif.C02.eddsa_cofactored_check_honest
#print axioms TssVerif.C02.enc_length
#print axioms TssVerif.C02.enc_roundtrip
#print axioms TssVerif.C02.enc_truncates
#print axioms TssVerif.C02.bigIntToEncodedBytes_truncates_witness
#print axioms TssVerif.C02.l_lt_two_pow_256
#print axioms TssVerif.C02.enc_injective
#print axioms TssVerif.C02.enc_reduced_roundtrip
#print axioms TssVerif.C02.enc_reduced_injective
#print axioms TssVerif.C02.enc_not_injective_witness
