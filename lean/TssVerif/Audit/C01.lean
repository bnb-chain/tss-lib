import TssVerif.Props.C01
import TssVerif.Props.C01b
#print axioms TssVerif.C01.lagrange_weights_sum
#print axioms TssVerif.C01.lagrange_weights_sum_list
#print axioms TssVerif.C01.weight_isSome
#print axioms TssVerif.C01.weight_none_of_collision
#print axioms TssVerif.C01.sigma_sum
#print axioms TssVerif.C01.sign_algebra
#print axioms TssVerif.C01.ecdsaFromTranscript_point
#print axioms TssVerif.C01.transcript_is_finalize
#print axioms TssVerif.C01.gamma_sum
#print axioms TssVerif.C01.ecdsa_verify_of_algebra
#print axioms TssVerif.C01.ecdsa_verify_of_algebra_modInverse
#print axioms TssVerif.C01.finalize_sound
#print axioms TssVerif.C01.finalize_echo
#print axioms TssVerif.C01.finalize_fullLen_too_small_panics
#print axioms TssVerif.C01.finalize_outcomes
#print axioms TssVerif.C01.low_s_flip_valid
#print axioms TssVerif.C01.finalize_complete
#print axioms TssVerif.C01.finalize_complete_lowS
#print axioms TssVerif.C01.threshold_sign_valid
#print axioms TssVerif.C01b.bigW_eq_weight_smul
#print axioms TssVerif.C01b.bigW_eq_weight_smul_affine
#print axioms TssVerif.C01b.bigW_eq_weight_smul_baseMult
#print axioms TssVerif.C01b.bigW_never_errors
#print axioms TssVerif.C01b.bigW_outcomes
#print axioms TssVerif.C01b.bigW_returns_of_identity_affine
#print axioms TssVerif.C01b.bigW_returns_of_ids_ne_zero
#print axioms TssVerif.C01b.bigW_panic_prefix
#print axioms TssVerif.C01b.bigW_panic_iff
#print axioms TssVerif.C01b.bigW_panic_iff_prefix
#print axioms TssVerif.C01b.bigW_never_inverse_failure
#print axioms TssVerif.C01b.bigW_collision_not_ok
#print axioms TssVerif.C01b.bigWs_each_is_weight_smul
#print axioms TssVerif.C01b.bigWs_sum_is_public_key
#print axioms TssVerif.C01b.bigWs_returns
#print axioms TssVerif.C01b.bigW_sign_slip_witness
#print axioms TssVerif.C01b.bigW_sign_slip_witness_four
#print axioms TssVerif.C01b.bigW_sign_slip_even_all
#print axioms TssVerif.C01b.toy_neg
#print axioms TssVerif.C01b.bigW_sign_slip_odd_coincides
