import TssVerif.Props.C07
import TssVerif.Props.C07b
#print axioms TssVerif.C07.update_fixpoint
#print axioms TssVerif.C07.start_fixpoint
#print axioms TssVerif.C07.run_fixpoint
#print axioms TssVerif.C07.settle_idempotent
#print axioms TssVerif.C07.local_confluence
#print axioms TssVerif.C07.duplicates_idempotent
#print axioms TssVerif.C07.schedule_independent
#print axioms TssVerif.C07.schedule_independent_up_to_duplicates
#print axioms TssVerif.C07.prestart_equals_poststart
#print axioms TssVerif.C07.start_commutes_with_deliveries
#print axioms TssVerif.C07.prestart_old_deadlock_witness
#print axioms TssVerif.C07.ends_exactly_once
#print axioms TssVerif.C07.no_deadlock
#print axioms TssVerif.C07.round_requirements_met
#print axioms TssVerif.C07.lifo_equals_fifo
#print axioms TssVerif.C07.rotated_equals_fifo
#print axioms TssVerif.C07.duplicate_everything
#print axioms TssVerif.C07.late_retransmission
