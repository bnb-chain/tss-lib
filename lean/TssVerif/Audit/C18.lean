import TssVerif.Props.C18
import TssVerif.Props.C18b
#print axioms TssVerif.C18.derive_child_point
#print axioms TssVerif.C18.derive_child_delta_point
#print axioms TssVerif.C18.derive_child_complete
#print axioms TssVerif.C18.path_offset_accumulates
#print axioms TssVerif.C18.path_offset_accumulates'
#print axioms TssVerif.C18.path_offset_invariant
#print axioms TssVerif.C18.path_offset_two_levels
#print axioms TssVerif.C18.path_append
#print axioms TssVerif.C18.refusals
#print axioms TssVerif.C18.path_propagates_first_refusal
#print axioms TssVerif.C18.path_no_hardened
#print axioms TssVerif.C18.path_excessive_depth_refused
#print axioms TssVerif.C18.derive_never_panics
#print axioms TssVerif.C18.offset_public_key
#print axioms TssVerif.C18.child_key_of_secret
#print axioms TssVerif.C18.child_key_ne_parent
#print axioms TssVerif.C18.lagrange_coeffs_sum_one
#print axioms TssVerif.C18.offset_shares
#print axioms TssVerif.C18.weight_is_lagrange
#print axioms TssVerif.C18.weights_exist
#print axioms TssVerif.C18.offset_shares_code
#print axioms TssVerif.C18.weights_sum_secret
#print axioms TssVerif.C18.shifted_share_eq
#print axioms TssVerif.C18.path_empty
#print axioms TssVerif.C18.path_resume
#print axioms TssVerif.C18.path_prefix_refusal
