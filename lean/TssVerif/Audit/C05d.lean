import TssVerif.Props.C05d
#print axioms TssVerif.C05d.sg2_culprit_iff
#print axioms TssVerif.C05d.sg2_culprits_are_senders
#print axioms TssVerif.C05d.sg2_never_names_self
#print axioms TssVerif.C05d.sg2_pass_iff
#print axioms TssVerif.C05d.sg2_single_deviator
#print axioms TssVerif.C05d.r2Peer_true_iff
#print axioms TssVerif.C05d.r2Peer_undecodable_fails
#print axioms TssVerif.C05d.r2Peer_rejected_fails
#print axioms TssVerif.C05d.r2Peer_bad_ciphertext_fails
#print axioms TssVerif.C05d.sg2_covered_alteration_blamed
#print axioms TssVerif.C05d.sg2_no_panic
#print axioms TssVerif.C05d.sg2_returns
#print axioms TssVerif.C05d.sg3_culprit_iff
#print axioms TssVerif.C05d.sg3_culprits_are_senders
#print axioms TssVerif.C05d.sg3_never_names_self
#print axioms TssVerif.C05d.sg3_shares_only_when_clean
#print axioms TssVerif.C05d.sg3_shares_are_the_peers
#print axioms TssVerif.C05d.sg3_shares_length
#print axioms TssVerif.C05d.sg3_pass_iff
#print axioms TssVerif.C05d.sg3_single_deviator
#print axioms TssVerif.C05d.r3Peer_some_iff
#print axioms TssVerif.C05d.sg3_covered_alteration_fails
#print axioms TssVerif.C05d.sg3_covered_alteration_blamed
#print axioms TssVerif.C05d.sg3_wrong_point_blamed
#print axioms TssVerif.C05d.sg3_no_panic
#print axioms TssVerif.C05d.sg3_returns
#print axioms TssVerif.C05d.bobWCFromBytes_panics_iff
#print axioms TssVerif.C05d.bobWC_ten_parts_panics_witness
#print axioms TssVerif.C05d.sg3_ten_parts_panics_witness
#print axioms TssVerif.C05d.sg5_first_failing_named
#print axioms TssVerif.C05d.r5Peer_names_its_peer
#print axioms TssVerif.C05d.sg5_culprit_is_sender
#print axioms TssVerif.C05d.sg5_pass_sum
#print axioms TssVerif.C05d.r5Peer_pass_iff
#print axioms TssVerif.C05d.sg5_covered_alteration_fails
#print axioms TssVerif.C05d.sg5_single_deviator
#print axioms TssVerif.C05d.sg5_single_deviator_affine_identity
#print axioms TssVerif.C05d.sg5_deviator_blamed_exactly
#print axioms TssVerif.C05d.sg5_no_panic
#print axioms TssVerif.C05d.sg5_returns
#print axioms TssVerif.C05d.sg5_no_unattributed_error
#print axioms TssVerif.C05d.sg7_first_failing_named
#print axioms TssVerif.C05d.r7Peer_names_its_peer
#print axioms TssVerif.C05d.sg7_culprit_is_sender
#print axioms TssVerif.C05d.r7Peer_pass_iff
#print axioms TssVerif.C05d.sg7_pass_all
#print axioms TssVerif.C05d.sg7_pass_length
#print axioms TssVerif.C05d.sg7_covered_alteration_fails
#print axioms TssVerif.C05d.sg7_single_deviator
#print axioms TssVerif.C05d.sg7_deviator_blamed_exactly
#print axioms TssVerif.C05d.sg7_no_panic
#print axioms TssVerif.C05d.sg7_returns
#print axioms TssVerif.C05d.honest5
#print axioms TssVerif.C05d.sg5_empty_decommitment_panics_witness
#print axioms TssVerif.C05d.sg5_hadd_needed_witness
#print axioms TssVerif.C05d.honest7
#print axioms TssVerif.C05d.sg7_empty_decommitment_panics_witness
#print axioms TssVerif.C05d.honest2
#print axioms TssVerif.C05d.honest3
