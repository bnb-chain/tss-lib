import TssVerif.Props.C08
import TssVerif.Props.C08b
#print axioms TssVerif.C08.emits_once_in_order
#print axioms TssVerif.C08.emits_once_in_order_around_start
#print axioms TssVerif.C08.nothing_before_start
#print axioms TssVerif.C08.round_advances_only_when_satisfied
#print axioms TssVerif.C08.flag_flip_not_counted
#print axioms TssVerif.C08.flag_flip_never_advances
#print axioms TssVerif.C08.flag_flip_never_advances_run
#print axioms TssVerif.C08.flag_flip_is_noop
#print axioms TssVerif.C08.flag_flip_same_round
#print axioms TssVerif.C08.flag_flip_overwrites_witness
#print axioms TssVerif.C08.waitingFor_exact
#print axioms TssVerif.C08.waitingFor_never_underreports
#print axioms TssVerif.C08.waitingFor_overreports_witness
#print axioms TssVerif.C08.tables_match_code
#print axioms TssVerif.C08.types_match_code
#print axioms TssVerif.C08.accepted_once
#print axioms TssVerif.C08.channel_discipline
#print axioms TssVerif.C08.secret_bearing_are_p2p
#print axioms TssVerif.C08.routing_matches_code
#print axioms TssVerif.C08.emissions_independent_of_self
#print axioms TssVerif.C08.emissions_determined_by_round
