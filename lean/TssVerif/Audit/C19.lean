import TssVerif.Props.C19
import TssVerif.Props.C19b
#print axioms TssVerif.C19.candidate_shape
#print axioms TssVerif.C19.pocklington_2q1
#print axioms TssVerif.C19.pocklington_code
#print axioms TssVerif.C19.emitted_pair_checks
#print axioms TssVerif.C19.emitted_pair_validates
#print axioms TssVerif.C19.emitted_pair_pocklington
#print axioms TssVerif.C19.sampler_mustGetRandomInt
#print axioms TssVerif.C19.sampler_positive
#print axioms TssVerif.C19.sampler_relprime
#print axioms TssVerif.C19.sampler_qnr
#print axioms TssVerif.C19.sampler_ranges
#print axioms TssVerif.C19.sampler_from_stream
#print axioms TssVerif.C19.sampler_positive_returns_iff
#print axioms TssVerif.C19.sampler_relprime_returns_iff
#print axioms TssVerif.C19.relprime_one_never_returns
#print axioms TssVerif.C19.positive_one_returns_zero
#print axioms TssVerif.C19.qnr_panics_iff
#print axioms TssVerif.C19.preparams_algebra
#print axioms TssVerif.C19.preparams_h2_square
#print axioms TssVerif.C19.preparams_beta_none_iff
#print axioms TssVerif.C19.ntilde_bits
#print axioms TssVerif.C19.ntilde_bits_2048
#print axioms TssVerif.C19.ntilde_bits_of_candidates
#print axioms TssVerif.C19.emitted_pair_blum
#print axioms TssVerif.C19.blum_modulus
#print axioms TssVerif.C19.emitted_modulus_blum
