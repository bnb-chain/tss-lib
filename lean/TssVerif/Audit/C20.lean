import TssVerif.Props.C20
import TssVerif.Props.C20b
#print axioms TssVerif.C20.subset_reindex
#print axioms TssVerif.C20.subset_missing_iff
#print axioms TssVerif.C20.subset_order_independent
#print axioms TssVerif.C20.subset_perm
#print axioms TssVerif.C20.subset_keys
#print axioms TssVerif.C20.nonce_injective
#print axioms TssVerif.C20.nonce_injective'
#print axioms TssVerif.C20.nonce_r_determines_nonce
#print axioms TssVerif.C20.distinct_nonces_distinct_r
#print axioms TssVerif.C20.nonce_r_collision
#print axioms TssVerif.C20.coins_fresh
#print axioms TssVerif.C20.zmodCurve_xdet
#print axioms TssVerif.C20.subset_identity
#print axioms TssVerif.C20.subset_of_subset
