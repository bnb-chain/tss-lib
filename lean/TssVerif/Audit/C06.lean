import TssVerif.Props.C06
#print axioms TssVerif.C06.rangeVerify_no_panic
#print axioms TssVerif.C06.schnorrVerify_no_panic
#print axioms TssVerif.C06.schnorrVVerify_no_panic
#print axioms TssVerif.C06.schnorrVerify_cofactor_needed_witness
#print axioms TssVerif.C06.bobVerify_no_panic
#print axioms TssVerif.C06.bobVerify_none_no_panic
#print axioms TssVerif.C06.modVerify_no_panic
#print axioms TssVerif.C06.modYs_no_panic
#print axioms TssVerif.C06.facVerify_no_panic
#print axioms TssVerif.C06.facVerify_negative_exponent_panics_witness
#print axioms TssVerif.C06.dlnVerify_no_panic
#print axioms TssVerif.C06.dlnVerify_negative_exponent_panics_witness
#print axioms TssVerif.C06.dlnUnmarshal_no_panic
#print axioms TssVerif.C06.paillierProofVerify_panic_iff
#print axioms TssVerif.C06.paillierProofVerify_no_panic
#print axioms TssVerif.C06.paillierProofVerify_short_panics_witness
#print axioms TssVerif.C06.generateXs_terminates
#print axioms TssVerif.C06.generateXsI_erases
#print axioms TssVerif.C06.generateXs_none_iff_rejected
#print axioms TssVerif.C06.generateXs_none_rejection
#print axioms TssVerif.C06.generateXs_fuel_irrelevant
#print axioms TssVerif.C06.aliceEnd_no_panic
#print axioms TssVerif.C06.aliceEnd_no_panic_keygen
#print axioms TssVerif.C06.aliceEnd_none_no_panic
#print axioms TssVerif.C06.bobMid_no_panic
#print axioms TssVerif.C06.commitVerify_no_panic_nonempty
#print axioms TssVerif.C06.decommit_no_panic_nonempty
#print axioms TssVerif.C06.parse_never_panics
#print axioms TssVerif.C06.vss_verify_no_panic
#print axioms TssVerif.C06.rangeVerify_old_panics_witness
#print axioms TssVerif.C06.rangeVerify_cur_same_input
#print axioms TssVerif.C06.schnorrVerify_old_panics_witness
#print axioms TssVerif.C06.schnorrVerify_cur_same_input
#print axioms TssVerif.C06.schnorrVVerify_old_panics_witness
#print axioms TssVerif.C06.schnorrVVerify_cur_same_input
#print axioms TssVerif.C06.bobWC_old_panics_witness
#print axioms TssVerif.C06.bobWC_cur_same_input
#print axioms TssVerif.C06.modVerify_old_panics_witness
#print axioms TssVerif.C06.modVerify_cur_same_input
#print axioms TssVerif.C06.paillierProofVerify_old_hangs_witness
#print axioms TssVerif.C06.paillierProofVerify_cur_same_input
#print axioms TssVerif.C06.hcofW
#print axioms TssVerif.C06.hcofE
