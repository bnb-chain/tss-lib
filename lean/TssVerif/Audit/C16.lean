import TssVerif.Props.C16
import TssVerif.Props.C16b
#print axioms TssVerif.C16.le64_injective
#print axioms TssVerif.C16.natBytes_roundtrip
#print axioms TssVerif.C16.natBytes_injective
#print axioms TssVerif.C16.neg_collides_witness
#print axioms TssVerif.C16.frame_injective
#print axioms TssVerif.C16.sha512_256i_preimage_injective
#print axioms TssVerif.C16.sha512_256_injective_or_collision
#print axioms TssVerif.C16.tagged_preimage_injective
#print axioms TssVerif.C16.commit_opens
#print axioms TssVerif.C16.decommit_returns_secrets
#print axioms TssVerif.C16.commit_binding
#print axioms TssVerif.C16.commit_verify_empty_panics
#print axioms TssVerif.C16.parse_never_panics
#print axioms TssVerif.C16.parse_panics_witness_before_fix
#print axioms TssVerif.C16.roundtrip_fails_witness_before_fix
#print axioms TssVerif.C16.witnesses_repaired
#print axioms TssVerif.C16.builder_refuses_iff
#print axioms TssVerif.C16.builder_roundtrip
#print axioms TssVerif.C16.parse_rejects_bad_first_length
#print axioms TssVerif.C16.builder_injective
#print axioms TssVerif.C16.parse_of_packed_unique
#print axioms TssVerif.C16.goInt64_exact
#print axioms TssVerif.C16.goInt64_wraps_witness
#print axioms TssVerif.C16.decommit_some_iff_verify
#print axioms TssVerif.C16.decommit_refuses_wrong_opening
#print axioms TssVerif.C16.decommit_binding
