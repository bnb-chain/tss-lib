import TssVerif.Props.C17
import TssVerif.Props.C17b
#print axioms TssVerif.C17.ecNew_iff
#print axioms TssVerif.C17.ecNew_none_iff
#print axioms TssVerif.C17.unflatten_iff
#print axioms TssVerif.C17.unflatten_odd_fails
#print axioms TssVerif.C17.unflatten_length
#print axioms TssVerif.C17.decoders_check_curve
#print axioms TssVerif.C17.unflatten_flatten
#print axioms TssVerif.C17.flatten_unflatten
#print axioms TssVerif.C17.unflatten_flatten_fails
#print axioms TssVerif.C17.ecEquals_iff
#print axioms TssVerif.C17.ecAdd_total
#print axioms TssVerif.C17.ecAdd_ok_iff
#print axioms TssVerif.C17.ecAdd_err_iff
#print axioms TssVerif.C17.ecScalarMult_outcomes
#print axioms TssVerif.C17.ecBaseMult_outcomes
#print axioms TssVerif.C17.ecScalarMult_neg
#print axioms TssVerif.C17.ecBaseMult_neg
#print axioms TssVerif.C17.secpValid_iff_zmod
#print axioms TssVerif.C17.secpValid_iff_modEq
#print axioms TssVerif.C17.edValid_iff_zmod
#print axioms TssVerif.C17.secp_isOnCurve_iff
#print axioms TssVerif.C17.ed_isOnCurve_iff
#print axioms TssVerif.C17.secp_ecNew_iff
#print axioms TssVerif.C17.secp_ecNew_none_iff
#print axioms TssVerif.C17.ed_ecNew_iff
#print axioms TssVerif.C17.ed_ecNew_none_iff
#print axioms TssVerif.C17.secp_rejects_noncanonical
#print axioms TssVerif.C17.ed_rejects_noncanonical
#print axioms TssVerif.C17.cofactor_clear
#print axioms TssVerif.C17.cofactor_clear_two_step
#print axioms TssVerif.C17.cofactor_const
#print axioms TssVerif.C17.cofactor_const_lt
#print axioms TssVerif.C17.ed_l_odd
#print axioms TssVerif.C17.ed_l_coprime_8
#print axioms TssVerif.C17.cofactor_clear_ed
#print axioms TssVerif.C17.torsion_generated
#print axioms TssVerif.C17.torsion_orders
#print axioms TssVerif.C17.torsion_table
#print axioms TssVerif.C17.torsion_low_order
#print axioms TssVerif.C17.base_order_ed
#print axioms TssVerif.C17.base_order_secp
#print axioms TssVerif.C17.identity_handling_secp
#print axioms TssVerif.C17.identity_handling_ed
#print axioms TssVerif.C17.secp_neg_on_curve
#print axioms TssVerif.C17.secp_add_neg_err
#print axioms TssVerif.C17.identity_handling
#print axioms TssVerif.C17.secp_scalarMult_zero_panics
#print axioms TssVerif.C17.secp_scalarMult_order_panics
#print axioms TssVerif.C17.ed_never_panics
#print axioms TssVerif.C17.secp_scalarMult_panic_iff
#print axioms TssVerif.C17b.ecNew_on_curve
#print axioms TssVerif.C17b.unflatten_all_on_curve
#print axioms TssVerif.C17b.lift_on_curve
#print axioms TssVerif.C17b.bobWC_point_on_curve
#print axioms TssVerif.C17b.sg3_point_on_curve
#print axioms TssVerif.C17b.sg5_point_on_curve
#print axioms TssVerif.C17b.sg5_round_points_on_curve
#print axioms TssVerif.C17b.sg7_points_on_curve
#print axioms TssVerif.C17b.sg7_round_points_on_curve
#print axioms TssVerif.C17b.round9_accepts_only_curve_points
#print axioms TssVerif.C17b.round9_accepts_only_curve_points'
#print axioms TssVerif.C17b.round9_old_tree_accepts_only_curve_points
#print axioms TssVerif.C17b.round9_old_tree_accepts_offcurve_is_self_blame
#print axioms TssVerif.C17b.eddsa_sg3_point_on_curve
#print axioms TssVerif.C17b.eddsa_kg3_points_on_curve
#print axioms TssVerif.C17b.ecdsa_kg3_points_on_curve
#print axioms TssVerif.C17b.rs_points_on_curve
#print axioms TssVerif.C17b.rs_key_on_curve
#print axioms TssVerif.C17b.rs_every_announced_key_on_curve
