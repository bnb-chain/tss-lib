import TssVerif.Props.C09
import TssVerif.Props.C09b
#print axioms TssVerif.C09.queries_transparent
#print axioms TssVerif.C09.interleave_is_permutation
#print axioms TssVerif.C09.atomic_sections_serialise
#print axioms TssVerif.C09.interleavings_agree
#print axioms TssVerif.C09.end_emitted_once_concurrent
#print axioms TssVerif.C09.query_answers_exact
#print axioms TssVerif.C09b.entry_points_listed
#print axioms TssVerif.C09b.entry_points_hold_the_lock
#print axioms TssVerif.C09b.wrappers_listed
#print axioms TssVerif.C09b.wrappers_delegate
