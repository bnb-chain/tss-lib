import TssVerif.Props.C03
import TssVerif.Props.C03b
#print axioms TssVerif.C03.keygen_share_matches_public
#print axioms TssVerif.C03.keygen_public_points_on_polynomial
#print axioms TssVerif.C03.keygen_any_t1_interpolates
#print axioms TssVerif.C03.feldman_accept_implies_consistent
#print axioms TssVerif.C03.verify_accept_implies_consistent
#print axioms TssVerif.C03.public_shares_interpolate
#print axioms TssVerif.C03.keygen_share_reduced
#print axioms TssVerif.C03.keygen_congruent_ids_same_share
