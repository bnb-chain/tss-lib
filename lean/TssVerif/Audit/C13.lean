import TssVerif.Props.C13
import TssVerif.Props.C13b
#print axioms TssVerif.C13.mta_arith
#print axioms TssVerif.C13.mta_no_wrap
#print axioms TssVerif.C13.mta_arith_of_bounds
#print axioms TssVerif.C13.mta_correct_any
#print axioms TssVerif.C13.mta_correct
#print axioms TssVerif.C13.mta_correct_wc
#print axioms TssVerif.C13.mta_correct_of_bounds
#print axioms TssVerif.C13.mta_shares
#print axioms TssVerif.C13.mta_progress
#print axioms TssVerif.C13.mta_gate_alice
#print axioms TssVerif.C13.mta_alpha_is_decrypt_mod_q
#print axioms TssVerif.C13.mta_gate_bob
#print axioms TssVerif.C13.mta_reject_alice
#print axioms TssVerif.C13.mta_reject_bob
#print axioms TssVerif.C13.mta_wc_returns_u
#print axioms TssVerif.C13.mta_wc_point_check
#print axioms TssVerif.C13.mta_wc_point_relation
#print axioms TssVerif.C13.bob_challenge_preimage
#print axioms TssVerif.C13.range_challenge_preimage
#print axioms TssVerif.C13.bob_preimage_injective
#print axioms TssVerif.C13.bob_preimage_c1_injective
#print axioms TssVerif.C13.bob_preimage_c2_injective
#print axioms TssVerif.C13.range_preimage_c_injective
#print axioms TssVerif.C13.mta_tamper_changes_preimage
#print axioms TssVerif.C13.bob_hash_input_injective
#print axioms TssVerif.C13.range_hash_input_injective
#print axioms TssVerif.C13.bob_tamper_collision
#print axioms TssVerif.C13.Toy.run_init
#print axioms TssVerif.C13.Toy.run_mid
#print axioms TssVerif.C13.Toy.run_end
#print axioms TssVerif.C13.Toy.run_mid_wc
#print axioms TssVerif.C13.Toy.run_end_wc
#print axioms TssVerif.C13.mta_shares_reduced
#print axioms TssVerif.C13.mta_wrap_breaks_witness
