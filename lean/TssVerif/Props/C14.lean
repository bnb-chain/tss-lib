import TssVerif.Lemmas.Paillier
import Mathlib.Tactic.NormNum.Prime
/-! # C14 — Paillier: decryption inverts encryption, homomorphic operations, guards, key shape

Property theorems only; helper lemmas live in `TssVerif/Lemmas/GoIntSpec.lean` (specification of the
`math/big` model: `modPow_spec`, `modInverse_spec`, `modInverse_isSome`) and `TssVerif/Lemmas/Paillier.lean`.

Conventions. `P`, `Q` are the primes, the modulus is `P * Q`; a private key `sk` is *any* record whose
`n` is `P * Q` and whose `lambdaN` is `lcm (P-1) (Q-1)` (`Decrypt` reads no other field), in particular the
record `keyOf P Q` that `GenerateKeyPair` builds. Nothing is assumed about the output of `ModInverse`:
that the call inside `Decrypt` succeeds is proved (fuel sufficiency of the Euclid loop). -/
namespace TssVerif.C14
open TssVerif TssVerif.Paillier TssVerif.PaillierL

/-- the private key record `GenerateKeyPair` returns for primes `P`, `Q` -/
abbrev keyOf (P Q : Nat) : PrivateKey :=
  { n := P * Q, lambdaN := Nat.lcm (P - 1) (Q - 1), phiN := (P - 1) * (Q - 1), p := P, q := Q }

/-! ## when is `λ` a unit modulo `n` -/

/-- `gcd(n, φ(n)) = 1` as soon as neither prime divides the other minus one (used for freshness and by
`Proof`) -/
theorem phi_unit_of_not_dvd {P Q : Nat} (hP : P.Prime) (hQ : Q.Prime)
    (h1 : ¬ P ∣ Q - 1) (h2 : ¬ Q ∣ P - 1) : Nat.gcd (P * Q) ((P - 1) * (Q - 1)) = 1 :=
  Nat.Coprime.mul_left (prime_coprime_pred_mul hP h1) (by rw [mul_comm]; exact prime_coprime_pred_mul hQ h2)

/-- the same side condition gives `gcd(λ, n) = 1`, since `λ ∣ φ(n)` -/
theorem lambda_unit_of_not_dvd {P Q : Nat} (hP : P.Prime) (hQ : Q.Prime)
    (h1 : ¬ P ∣ Q - 1) (h2 : ¬ Q ∣ P - 1) : Nat.gcd (Nat.lcm (P - 1) (Q - 1)) (P * Q) = 1 :=
  Nat.Coprime.coprime_dvd_left (Nat.lcm_dvd_mul _ _) (Nat.Coprime.symm (phi_unit_of_not_dvd hP hQ h1 h2))

/-- odd primes of the same bit length `k` (what `GetRandomSafePrimesConcurrent(bits = k)` returns) -/
theorem lambda_unit_same_bitlen {P Q k : Nat} (hP : P.Prime) (hQ : Q.Prime) (hP2 : P ≠ 2) (hQ2 : Q ≠ 2)
    (hk : 1 ≤ k) (hPlo : 2 ^ (k - 1) ≤ P) (hPhi : P < 2 ^ k) (hQlo : 2 ^ (k - 1) ≤ Q) (hQhi : Q < 2 ^ k) :
    Nat.gcd (Nat.lcm (P - 1) (Q - 1)) (P * Q) = 1 :=
  lambda_unit_of_not_dvd hP hQ
    (not_dvd_pred_of_same_bitlen hP hQ hP2 hPlo hQhi hk)
    (not_dvd_pred_of_same_bitlen hQ hP hQ2 hQlo hPhi hk)

/-- safe primes `P = 2p'+1`, `Q = 2q'+1`. The side conditions `P ≠ q'`, `Q ≠ p'` are necessary:
`P = 11`, `Q = 23 = 2·11+1` are safe primes with `P ∣ Q − 1`, and then `gcd(λ, n) = 11`
(see `safe_primes_side_condition_needed`). -/
theorem lambda_unit_safe_primes {P Q p' q' : Nat} (hP : P.Prime) (hQ : Q.Prime)
    (hp' : p'.Prime) (hq' : q'.Prime) (hPs : P = 2 * p' + 1) (hQs : Q = 2 * q' + 1)
    (h1 : P ≠ q') (h2 : Q ≠ p') : Nat.gcd (Nat.lcm (P - 1) (Q - 1)) (P * Q) = 1 := by
  have hP2 : P ≠ 2 := by have := hp'.two_le; omega
  have hQ2 : Q ≠ 2 := by have := hq'.two_le; omega
  exact lambda_unit_of_not_dvd hP hQ
    (not_dvd_pred_of_safe hP hq' hQs hP2 h1) (not_dvd_pred_of_safe hQ hp' hPs hQ2 h2)

theorem safe_primes_side_condition_needed :
    Nat.gcd (Nat.lcm (11 - 1) (23 - 1)) (11 * 23) = 11 := by decide

/-! ## encryption: range and unit -/

/-- in-range messages are always encrypted (no error, no panic), for every modulus and every `x` -/
theorem enc_ok {n : Nat} {m : Int} (x : Nat) (h0 : 0 ≤ m) (hm : m < n) :
    ∃ c, encryptWith n m x = .ok c :=
  ⟨_, encryptWith_ok_iff.2 ⟨h0, hm, rfl⟩⟩

/-- every ciphertext is `< n²` (every modulus, message, randomiser) -/
theorem enc_lt {n : Nat} {m : Int} {x c : Nat} (h : encryptWith n m x = .ok c) : c < n * n := by
  obtain ⟨h0, hm, rfl⟩ := encryptWith_ok_iff.1 h
  exact encNat_lt (by omega) _ _

/-- a ciphertext made with a unit `x` is a unit modulo `n²`, so `Decrypt`'s malformed-check passes
(every modulus; no primality needed) -/
theorem enc_is_unit {n : Nat} {m : Int} {x c : Nat} (hx : Nat.gcd x n = 1)
    (h : encryptWith n m x = .ok c) : Nat.gcd c (n * n) = 1 := by
  obtain ⟨h0, hm, rfl⟩ := encryptWith_ok_iff.1 h
  exact IsCt.coprime (m := m.toNat) ⟨encNat_lt (by omega) _ _, x, hx, encNat_modEq _ _ _⟩

/-! ## correctness -/

/-- **`Decrypt ∘ Encrypt = id`**, through every guard and the `ModInverse` call of the Go code -/
theorem dec_enc {P Q : Nat} (hP : P.Prime) (hQ : Q.Prime) (hne : P ≠ Q)
    (hlam : Nat.gcd (Nat.lcm (P - 1) (Q - 1)) (P * Q) = 1)
    (sk : PrivateKey) (hn : sk.n = P * Q) (hl : sk.lambdaN = Nat.lcm (P - 1) (Q - 1))
    {m x : Nat} (hm : m < P * Q) (hx : Nat.gcd x (P * Q) = 1) :
    (encryptWith (P * Q) (m : Int) x >>= fun c => decrypt sk (c : Int)) = .ok m := by
  rw [encryptWith_eq hm, Outcome.ok_bind,
    decrypt_of_key hP hQ hne hlam hn hl (isCt_encNat (one_lt_mul_primes hP hQ) hx m), Nat.mod_eq_of_lt hm]

/-- `dec_enc` for the key record of `GenerateKeyPair` -/
theorem dec_enc_keyOf {P Q : Nat} (hP : P.Prime) (hQ : Q.Prime) (hne : P ≠ Q)
    (hlam : Nat.gcd (Nat.lcm (P - 1) (Q - 1)) (P * Q) = 1)
    {m x : Nat} (hm : m < P * Q) (hx : Nat.gcd x (P * Q) = 1) :
    (encryptWith (P * Q) (m : Int) x >>= fun c => decrypt (keyOf P Q) (c : Int)) = .ok m :=
  dec_enc hP hQ hne hlam (keyOf P Q) rfl rfl hm hx

/-- `dec_enc` from the post-conditions of key generation alone: two distinct `k`-bit odd primes -/
theorem dec_enc_keygen {P Q k : Nat} (hP : P.Prime) (hQ : Q.Prime) (hne : P ≠ Q)
    (hP2 : P ≠ 2) (hQ2 : Q ≠ 2) (hk : 1 ≤ k)
    (hPlo : 2 ^ (k - 1) ≤ P) (hPhi : P < 2 ^ k) (hQlo : 2 ^ (k - 1) ≤ Q) (hQhi : Q < 2 ^ k)
    {m x : Nat} (hm : m < P * Q) (hx : Nat.gcd x (P * Q) = 1) :
    (encryptWith (P * Q) (m : Int) x >>= fun c => decrypt (keyOf P Q) (c : Int)) = .ok m :=
  dec_enc_keyOf hP hQ hne (lambda_unit_same_bitlen hP hQ hP2 hQ2 hk hPlo hPhi hQlo hQhi) hm hx

/-! ## homomorphic operations -/

/-- `Decrypt(HomoAdd(Enc m1, Enc m2)) = (m1 + m2) mod n` -/
theorem homo_add {P Q : Nat} (hP : P.Prime) (hQ : Q.Prime) (hne : P ≠ Q)
    (hlam : Nat.gcd (Nat.lcm (P - 1) (Q - 1)) (P * Q) = 1)
    (sk : PrivateKey) (hn : sk.n = P * Q) (hl : sk.lambdaN = Nat.lcm (P - 1) (Q - 1))
    {m1 m2 x1 x2 c1 c2 : Nat} (hx1 : Nat.gcd x1 (P * Q) = 1) (hx2 : Nat.gcd x2 (P * Q) = 1)
    (h1 : encryptWith (P * Q) (m1 : Int) x1 = .ok c1) (h2 : encryptWith (P * Q) (m2 : Int) x2 = .ok c2) :
    (homoAdd (P * Q) (c1 : Int) (c2 : Int) >>= fun c => decrypt sk (c : Int)) =
      .ok ((m1 + m2) % (P * Q)) := by
  have hN := one_lt_mul_primes hP hQ
  have i1 := isCt_of_encryptWith hN hx1 h1
  have i2 := isCt_of_encryptWith hN hx2 h2
  rw [homoAdd_eq i1.1 i2.1, Outcome.ok_bind]
  exact decrypt_of_key hP hQ hne hlam hn hl (i1.homoAdd hN i2)

/-- `Decrypt(HomoMult(k, Enc m)) = k · m mod n` for `0 ≤ k < n` -/
theorem homo_mult {P Q : Nat} (hP : P.Prime) (hQ : Q.Prime) (hne : P ≠ Q)
    (hlam : Nat.gcd (Nat.lcm (P - 1) (Q - 1)) (P * Q) = 1)
    (sk : PrivateKey) (hn : sk.n = P * Q) (hl : sk.lambdaN = Nat.lcm (P - 1) (Q - 1))
    {k m x c : Nat} (hk : k < P * Q) (hx : Nat.gcd x (P * Q) = 1)
    (h : encryptWith (P * Q) (m : Int) x = .ok c) :
    (homoMult (P * Q) (k : Int) (c : Int) >>= fun c' => decrypt sk (c' : Int)) =
      .ok ((k * m) % (P * Q)) := by
  have hN := one_lt_mul_primes hP hQ
  have i1 := isCt_of_encryptWith hN hx h
  rw [homoMult_eq hk i1.1, Outcome.ok_bind]
  exact decrypt_of_key hP hQ hne hlam hn hl (i1.homoMult hN k)

/-- Closed form, for iterated use (MtA chains `HomoMult` and `HomoAdd`): the class `IsCt n m ·` of
reduced residues `≡ (n+1)^m x^n (mod n²)` with `x` a unit contains every honest encryption, is closed
under both operations, and every member decrypts to `m mod n`. -/
theorem ct_closed {P Q : Nat} (hP : P.Prime) (hQ : Q.Prime) (hne : P ≠ Q)
    (hlam : Nat.gcd (Nat.lcm (P - 1) (Q - 1)) (P * Q) = 1)
    (sk : PrivateKey) (hn : sk.n = P * Q) (hl : sk.lambdaN = Nat.lcm (P - 1) (Q - 1)) :
    (∀ m x : Nat, m < P * Q → Nat.gcd x (P * Q) = 1 →
      ∃ c, encryptWith (P * Q) (m : Int) x = .ok c ∧ IsCt (P * Q) m c) ∧
    (∀ m1 m2 c1 c2 : Nat, IsCt (P * Q) m1 c1 → IsCt (P * Q) m2 c2 →
      ∃ c, homoAdd (P * Q) (c1 : Int) (c2 : Int) = .ok c ∧ IsCt (P * Q) (m1 + m2) c) ∧
    (∀ k m c : Nat, k < P * Q → IsCt (P * Q) m c →
      ∃ c', homoMult (P * Q) (k : Int) (c : Int) = .ok c' ∧ IsCt (P * Q) (k * m) c') ∧
    (∀ m c : Nat, IsCt (P * Q) m c → decrypt sk (c : Int) = .ok (m % (P * Q))) := by
  have hN := one_lt_mul_primes hP hQ
  exact ⟨fun m x hm hx => ⟨_, encryptWith_eq hm x, isCt_encNat hN hx m⟩,
    fun m1 m2 c1 c2 h1 h2 => ⟨_, homoAdd_eq h1.1 h2.1, h1.homoAdd hN h2⟩,
    fun k m c hk h => ⟨_, homoMult_eq hk h.1, h.homoMult hN k⟩,
    fun m c h => decrypt_of_key hP hQ hne hlam hn hl h⟩

/-! ## freshness -/

/-- for a fixed message, distinct randomisers in `ℤ_n^*` give distinct ciphertexts -/
theorem enc_injective_in_x {P Q : Nat} (hP : P.Prime) (hQ : Q.Prime) (hne : P ≠ Q)
    (hphi : Nat.gcd (P * Q) ((P - 1) * (Q - 1)) = 1)
    {m x x' : Nat} (hm : m < P * Q) (hx : x < P * Q) (hx' : x' < P * Q)
    (hc : Nat.gcd x (P * Q) = 1) (hc' : Nat.gcd x' (P * Q) = 1)
    (h : encryptWith (P * Q) (m : Int) x = encryptWith (P * Q) (m : Int) x') : x = x' := by
  rw [encryptWith_eq hm, encryptWith_eq hm] at h
  injection h with h
  refine encNat_inj_x (one_lt_mul_primes hP hQ) ?_ hc hc' hx hx' h
  rw [totient_mul_primes hP hQ hne]; exact hphi

/-- encryption is injective in the pair (message, randomiser) -/
theorem enc_injective {P Q : Nat} (hP : P.Prime) (hQ : Q.Prime) (hne : P ≠ Q)
    (hlam : Nat.gcd (Nat.lcm (P - 1) (Q - 1)) (P * Q) = 1)
    (hphi : Nat.gcd (P * Q) ((P - 1) * (Q - 1)) = 1)
    {m m' x x' : Nat} (hm : m < P * Q) (hm' : m' < P * Q) (hx : x < P * Q) (hx' : x' < P * Q)
    (hc : Nat.gcd x (P * Q) = 1) (hc' : Nat.gcd x' (P * Q) = 1)
    (h : encryptWith (P * Q) (m : Int) x = encryptWith (P * Q) (m' : Int) x') : m = m' ∧ x = x' := by
  have d1 := dec_enc_keyOf hP hQ hne hlam hm hc
  have d2 := dec_enc_keyOf hP hQ hne hlam hm' hc'
  rw [h, d2] at d1
  injection d1 with d1
  subst d1
  exact ⟨rfl, enc_injective_in_x hP hQ hne hphi hm hx hx' hc hc' h⟩

/-! ## guards: exact characterisation of the error outcomes -/

theorem guards_encrypt (n : Nat) (m : Int) (x : Nat) :
    ((∃ t, encryptWith n m x = .err t) ↔ (m < 0 ∨ m ≥ n)) ∧
    ((∃ c, encryptWith n m x = .ok c) ↔ (0 ≤ m ∧ m < n)) ∧
    (∀ t, encryptWith n m x ≠ .panic t) := by
  rw [encryptWith_eq_ite]
  obtain ⟨h1, h2, h3⟩ := Outcome.ite_ok_err (0 ≤ m ∧ m < n) (encNat n m.toNat x) "message-too-long"
  exact ⟨h1.trans (by omega), h2, h3⟩

theorem guards_homoMult (n : Nat) (m c1 : Int) :
    ((∃ t, homoMult n m c1 = .err t) ↔ (m < 0 ∨ m ≥ n ∨ c1 < 0 ∨ c1 ≥ (n * n : Nat))) ∧
    ((∃ c, homoMult n m c1 = .ok c) ↔ (0 ≤ m ∧ m < n ∧ 0 ≤ c1 ∧ c1 < (n * n : Nat))) ∧
    (∀ t, homoMult n m c1 ≠ .panic t) := by
  rw [homoMult_eq_ite]
  obtain ⟨h1, h2, h3⟩ := Outcome.ite_ok_err (0 ≤ m ∧ m < n ∧ 0 ≤ c1 ∧ c1 < (n * n : Nat))
    (c1.toNat ^ m.toNat % (n * n)) "message-too-long"
  exact ⟨h1.trans (by omega), h2, h3⟩

theorem guards_homoAdd (n : Nat) (c1 c2 : Int) :
    ((∃ t, homoAdd n c1 c2 = .err t) ↔
      (c1 < 0 ∨ c1 ≥ (n * n : Nat) ∨ c2 < 0 ∨ c2 ≥ (n * n : Nat))) ∧
    ((∃ c, homoAdd n c1 c2 = .ok c) ↔
      (0 ≤ c1 ∧ c1 < (n * n : Nat) ∧ 0 ≤ c2 ∧ c2 < (n * n : Nat))) ∧
    (∀ t, homoAdd n c1 c2 ≠ .panic t) := by
  rw [homoAdd_eq_ite]
  obtain ⟨h1, h2, h3⟩ := Outcome.ite_ok_err (0 ≤ c1 ∧ c1 < (n * n : Nat) ∧ 0 ≤ c2 ∧ c2 < (n * n : Nat))
    (c1.toNat * c2.toNat % (n * n)) "message-too-long"
  exact ⟨h1.trans (by omega), h2, h3⟩

/-- `Decrypt` reports an error exactly for out-of-range or non-unit input, and crashes (nil from
`ModInverse`) exactly when the input passes the guards but `L(γ^λ mod n²)` is not a unit modulo `n`,
which is a property of the key alone. -/
theorem guards_decrypt (sk : PrivateKey) (c : Int) :
    ((∃ t, decrypt sk c = .err t) ↔
      (c < 0 ∨ c ≥ (sk.n * sk.n : Nat) ∨ Nat.gcd c.toNat (sk.n * sk.n) > 1)) ∧
    ((∃ t, decrypt sk c = .panic t) ↔
      (0 ≤ c ∧ c < (sk.n * sk.n : Nat) ∧ Nat.gcd c.toNat (sk.n * sk.n) = 1 ∧
        Int.gcd (L (modPow (sk.n + 1) sk.lambdaN (sk.n * sk.n)) sk.n) sk.n ≠ 1)) := by
  unfold decrypt nSquare gamma
  dsimp only
  split_ifs with h h'
  · simp only [Outcome.err.injEq, exists_eq', exists_false, true_iff, false_iff]; omega
  · simp only [Outcome.err.injEq, exists_eq', exists_false, true_iff, false_iff]; omega
  · -- past both guards: `n ≠ 0`, the gcd is `1`, and the outcome is that of `ModInverse`
    have hn : sk.n ≠ 0 := by rintro h0; rw [h0] at h; omega
    have hg : Nat.gcd c.toNat (sk.n * sk.n) = 1 := by
      have := Nat.gcd_pos_of_pos_right c.toNat (Nat.mul_pos (Nat.pos_of_ne_zero hn) (Nat.pos_of_ne_zero hn))
      omega
    have hinv := modInverse_eq_none_iff (L (modPow (sk.n + 1) sk.lambdaN (sk.n * sk.n)) sk.n) sk.n
    cases hm : modInverse (L (modPow (sk.n + 1) sk.lambdaN (sk.n * sk.n)) sk.n) sk.n <;>
      simp only [hm, reduceCtorEq, exists_false, Outcome.panic.injEq, exists_eq', true_iff, false_iff,
        hn, false_or, true_iff] at hinv ⊢ <;> omega

/-- **guards**: the error outcomes, exactly. (No operation returns a value for out-of-domain input:
an `err` result is not an `ok` result; the `ok` side is spelled out in `guards_encrypt`,
`guards_homoMult`, `guards_homoAdd`.) -/
theorem guards (n : Nat) (sk : PrivateKey) (m c c1 c2 : Int) (x : Nat) :
    ((∃ t, encryptWith n m x = .err t) ↔ (m < 0 ∨ m ≥ n)) ∧
    ((∃ t, homoMult n m c1 = .err t) ↔ (m < 0 ∨ m ≥ n ∨ c1 < 0 ∨ c1 ≥ (n * n : Nat))) ∧
    ((∃ t, homoAdd n c1 c2 = .err t) ↔
      (c1 < 0 ∨ c1 ≥ (n * n : Nat) ∨ c2 < 0 ∨ c2 ≥ (n * n : Nat))) ∧
    ((∃ t, decrypt sk c = .err t) ↔
      (c < 0 ∨ c ≥ (sk.n * sk.n : Nat) ∨ Nat.gcd c.toNat (sk.n * sk.n) > 1)) :=
  ⟨(guards_encrypt n m x).1, (guards_homoMult n m c1).1, (guards_homoAdd n c1 c2).1,
    (guards_decrypt sk c).1⟩

/-- on a good key `Decrypt` never crashes, whatever the input -/
theorem decrypt_never_panics {P Q : Nat} (hP : P.Prime) (hQ : Q.Prime) (hne : P ≠ Q)
    (hlam : Nat.gcd (Nat.lcm (P - 1) (Q - 1)) (P * Q) = 1)
    (sk : PrivateKey) (hn : sk.n = P * Q) (hl : sk.lambdaN = Nat.lcm (P - 1) (Q - 1)) (c : Int) :
    ∀ t, decrypt sk c ≠ .panic t := by
  intro t ht
  obtain ⟨-, -, -, h4⟩ := (guards_decrypt sk c).2.1 ⟨t, ht⟩
  obtain ⟨inv, hinv, -⟩ := modInverse_L_gamma (lamOK_of_key hP hQ hne hlam hn hl)
  exact h4 ((modInverse_isSome_iff _ _).1 (by rw [hinv]; rfl)).2

/-! ## key generation -/

/-- two `k`-bit numbers with their two top bits set have a product of exactly `2k` bits (this is why
`GetRandomSafePrimesConcurrent` sets both bits; primality and distinctness are not needed), and
`λ` as Go computes it, `φ / gcd(P−1, Q−1)`, is `lcm (P−1) (Q−1)`. -/
theorem keygen_shape {P Q k : Nat} (hk : 2 ≤ k)
    (hPlo : 3 * 2 ^ (k - 2) ≤ P) (hPhi : P < 2 ^ k) (hQlo : 3 * 2 ^ (k - 2) ≤ Q) (hQhi : Q < 2 ^ k) :
    bitLen P = k ∧ bitLen Q = k ∧
    2 ^ (2 * k - 1) ≤ P * Q ∧ P * Q < 2 ^ (2 * k) ∧ bitLen (P * Q) = 2 * k ∧
    Nat.lcm (P - 1) (Q - 1) = (P - 1) * (Q - 1) / Nat.gcd (P - 1) (Q - 1) := by
  obtain ⟨b1, b2⟩ := mul_bounds_of_top_bits hk hPlo hPhi hQlo hQhi
  have hpow : 2 ^ (k - 1) = 2 * 2 ^ (k - 2) := by rw [← pow_succ']; congr 1; omega
  exact ⟨bitLen_eq_of_bounds (by omega) (by omega) hPhi, bitLen_eq_of_bounds (by omega) (by omega) hQhi,
    b1, b2, bitLen_eq_of_bounds (by omega) b1 b2, rfl⟩

/-- the key generator's output satisfies every hypothesis of `dec_enc`, `homo_add`, `homo_mult`,
`enc_injective_in_x`: distinct primes of exactly `k` bits with the two top bits set -/
theorem keygen_units {P Q k : Nat} (hP : P.Prime) (hQ : Q.Prime) (hk : 2 ≤ k)
    (hPlo : 3 * 2 ^ (k - 2) ≤ P) (hPhi : P < 2 ^ k) (hQlo : 3 * 2 ^ (k - 2) ≤ Q) (hQhi : Q < 2 ^ k) :
    Nat.gcd (Nat.lcm (P - 1) (Q - 1)) (P * Q) = 1 ∧ Nat.gcd (P * Q) ((P - 1) * (Q - 1)) = 1 := by
  have hpow : 2 ^ (k - 1) = 2 * 2 ^ (k - 2) := by rw [← pow_succ']; congr 1; omega
  have hpos : 0 < 2 ^ (k - 2) := Nat.two_pow_pos _
  have h1 := not_dvd_pred_of_same_bitlen hP hQ (by omega) (by omega : 2 ^ (k - 1) ≤ P) hQhi (by omega)
  have h2 := not_dvd_pred_of_same_bitlen hQ hP (by omega) (by omega : 2 ^ (k - 1) ≤ Q) hPhi (by omega)
  exact ⟨lambda_unit_of_not_dvd hP hQ h1 h2, phi_unit_of_not_dvd hP hQ h1 h2⟩

/-! ## the hypotheses are satisfiable; concrete evaluations -/

/-- `P = 29`, `Q = 31`: distinct 5-bit primes with the two top bits set — the shape key generation
produces — satisfy every hypothesis used above -/
example : Nat.Prime 29 ∧ Nat.Prime 31 ∧ 29 ≠ 31 ∧ 3 * 2 ^ (5 - 2) ≤ 29 ∧ 29 < 2 ^ 5 ∧ 3 * 2 ^ (5 - 2) ≤ 31 ∧
    31 < 2 ^ 5 ∧ Nat.gcd (Nat.lcm (29 - 1) (31 - 1)) (29 * 31) = 1 ∧
    Nat.gcd (29 * 31) ((29 - 1) * (31 - 1)) = 1 ∧ bitLen (29 * 31) = 10 := by
  have h29 : Nat.Prime 29 := by norm_num
  have h31 : Nat.Prime 31 := by norm_num
  obtain ⟨u1, u2⟩ := keygen_units (k := 5) h29 h31 (by omega) (by norm_num) (by norm_num) (by norm_num) (by norm_num)
  exact ⟨h29, h31, by omega, by norm_num, by norm_num, by norm_num, by norm_num, u1, u2, by decide⟩

/-- `dec_enc` instantiated … -/
example : (encryptWith (29 * 31) ((123 : Nat) : Int) 2 >>= fun c => decrypt (keyOf 29 31) (c : Int)) = .ok 123 :=
  dec_enc_keyOf (by norm_num) (by norm_num) (by omega) (by decide) (by omega) (by decide)

/-- … and the same run evaluated by the kernel on the executable model -/
example : (encryptWith 899 123 2 >>= fun c => decrypt ⟨899, 420, 840, 29, 31⟩ (c : Int)) = .ok 123 := by decide
example : encryptWith 899 123 2 = .ok 479958 := by decide
example : keyOf 29 31 = ⟨899, 420, 840, 29, 31⟩ := by simp [keyOf, Nat.lcm]

/-- homomorphic operations evaluated: `Dec(Enc 123 ⊕ Enc 800) = 923 mod 899 = 24`, `Dec(7 ⊙ Enc 200) = 1400 mod 899` -/
example : (do let c1 ← encryptWith 899 123 2
              let c2 ← encryptWith 899 800 3
              let c ← homoAdd 899 c1 c2
              decrypt (keyOf 29 31) c) = .ok 24 := by decide
example : (do let c ← encryptWith 899 200 5
              let c' ← homoMult 899 7 c
              decrypt (keyOf 29 31) c') = .ok 501 := by decide

/-- safe primes `59 = 2·29+1`, `83 = 2·41+1` satisfy the side conditions of `lambda_unit_safe_primes` -/
example : Nat.gcd (Nat.lcm (59 - 1) (83 - 1)) (59 * 83) = 1 :=
  lambda_unit_safe_primes (p' := 29) (q' := 41) (by norm_num) (by norm_num) (by norm_num) (by norm_num)
    rfl rfl (by omega) (by omega)

/-- the error outcomes -/
example : encryptWith 899 899 2 = .err "message-too-long" := by decide
example : encryptWith 899 (-1) 2 = .err "message-too-long" := by decide
example : decrypt (keyOf 29 31) (899 * 899) = .err "message-too-long" := by decide
example : decrypt (keyOf 29 31) 29 = .err "message-malformed" := by decide
example : homoAdd 899 (899 * 899) 1 = .err "message-too-long" := by decide
example : homoMult 899 899 1 = .err "message-too-long" := by decide

/-- the hypothesis `gcd(λ, n) = 1` of `dec_enc` cannot be dropped: for the safe primes `11`, `23`
(`11 ∣ 23 − 1`; different bit lengths, so never produced by `GenerateKeyPair`) the Go `Decrypt`
dereferences the nil returned by `ModInverse` on every well-formed ciphertext -/
example : (encryptWith (11 * 23) 5 2 >>= fun c => decrypt (keyOf 11 23) (c : Int)) = .panic "nil-mod-inverse" := by
  decide

end TssVerif.C14
