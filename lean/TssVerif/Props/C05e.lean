import TssVerif.Lemmas.C05Sg9
/-! # C05e — one deviating participant in threshold-ECDSA signing round 9: who is named

Property C05: "A misbehaving peer cannot cause a bad output and is the one blamed: if one party deviates by
sending an altered message, every honest party either finishes with a valid output or reports an error whose
culprit list names nobody but the deviator; when the alteration is one the checks cover (a proof, a commitment
opening, a share), the error names exactly the deviator. No honest party is ever named."

The object is the model of `ecdsa/signing/round_9.go` in `Core/BlameSg9.lean`: `round9Go C H checkPoints own u t
peers` (the loop on the running sums `u = U_i + …`, `t = T_i + …`, internal points) and its wrapper `round9` (own
points given by coordinates). `checkPoints = true` is the current tree (after the repair), `false` the tree
before it. Everything holds for every curve record `C`, every hash `H`, unboundedly many peers. The judgements
about ONE peer's opening are defined in `Lemmas/C05Sg9.lean` and spelled out first (`opens_iff`, …):
`Opens C H p uj tj` (valid: the de-commitment opens the commitment to at least four values, the first pair are
the coordinates of the curve point `uj`, the second of `tj`), `NoOpen` (does not open), `Short` (opens to fewer
than four values), `OffU` / `OffT` (opens, and the pair for `U_j` / `T_j` is not a point of the curve).
"Every peer except `dev` is honest" is "every peer with `idx ≠ dev` opens validly".

How the clauses of the property are covered (round 9 names the FIRST failing peer, and itself for the final
comparison `U = T`):

* "an error names nobody but the deviator": `sg9_first_failing_named` (exact, both trees),
  `sg9_first_failing_named_cur` (current tree), `sg9_culprit_is_sender_or_own`,
  `sg9_self_blame_only_for_local_assertion`, `sg9_single_deviator` (part 1);
  the party names ITSELF only for the final comparison after every opening was valid — that report is the
  protocol's own "something is wrong, no culprit known" and is not an accusation of a peer;
* "a covered alteration (a commitment opening, a point off the curve) names exactly the deviator":
  `sg9_offcurve_names_sender` (THE REPAIR), `sg9_bad_opening_names_sender`, `sg9_single_deviator` (part 2);
  before the repair this FAILED for points off the curve: `sg9_old_tree_offcurve_names_self` (general),
  `sg9_old_tree_self_blame_witness` (concrete), `sg9_first_failing_named_old`;
* "no honest party is ever named": `sg9_culprit_is_sender_or_own` with `sg9_single_deviator`: a peer that opens
  validly is never the one named; `sg9_honest_peer_not_named`;
* "finishes with a valid output": `sg9_pass_iff` (the share is revealed iff every opening is valid and the two
  sums have the same affine form);
* "the call returns": `sg9_no_panic`, `sg9_returns`, `sg9_no_unattributed_error`, exact crash condition
  `sg9_panic_iff`; the hypothesis (five-part de-commitments, as `SignRound8Message.ValidateBasic` enforces) is
  needed: `sg9_short_opening_panics`, `sg9_short_opening_panics_witness`, `sg9_empty_decommitment_panics_witness`;
* the wrapper: `round9_eq`, `round9_err_iff`. -/
set_option autoImplicit false
namespace TssVerif.C05e
open TssVerif BlameSg C05Sg9L

variable {P : Type} (C : Curve P) (H : HashFn)

/-! ## the judgements about one peer's opening, spelled out -/
section judgements
variable (p : R8Peer)

theorem opens_iff (uj tj : P) :
    Opens C H p uj tj ↔
      ∃ v, decommitWith H p.commitment (p.decommitment.map Int.ofNat) = .ok (some v) ∧ 4 ≤ v.length ∧
        C.ofAffine (v.getD 0 0).toNat (v.getD 1 0).toNat = some uj ∧
        C.ofAffine (v.getD 2 0).toNat (v.getD 3 0).toNat = some tj := Iff.rfl

theorem noOpen_iff : NoOpen H p ↔ decommitWith H p.commitment (p.decommitment.map Int.ofNat) = .ok none := Iff.rfl

theorem short_iff :
    Short H p ↔ ∃ v, decommitWith H p.commitment (p.decommitment.map Int.ofNat) = .ok (some v) ∧ v.length < 4 :=
  Iff.rfl

theorem offU_iff :
    OffU C H p ↔
      ∃ v, decommitWith H p.commitment (p.decommitment.map Int.ofNat) = .ok (some v) ∧ 4 ≤ v.length ∧
        C.ofAffine (v.getD 0 0).toNat (v.getD 1 0).toNat = none := Iff.rfl

theorem offT_iff :
    OffT C H p ↔
      ∃ v uj, decommitWith H p.commitment (p.decommitment.map Int.ofNat) = .ok (some v) ∧ 4 ≤ v.length ∧
        C.ofAffine (v.getD 0 0).toNat (v.getD 1 0).toNat = some uj ∧
        C.ofAffine (v.getD 2 0).toNat (v.getD 3 0).toNat = none := Iff.rfl

/-- who an off-curve pair is blamed on: after the repair the sender (with the tag of the failed decoding);
before it the party itself (with the text of the final assertion) -/
theorem named_iff (cp : Bool) (own : Nat) (tag why : String) (c : Nat) :
    Named cp own p tag why c ↔
      (cp = true ∧ why = tag ∧ c = p.idx) ∨ (cp = false ∧ why = "U doesn't equal T" ∧ c = own) := Iff.rfl

/-- the judgements exclude each other and (unless `DeCommit` itself crashes, which needs an empty list) exhaust
the cases: a valid opening has exactly one pair of points -/
theorem opening_trichotomy :
    (∃ e, decommitWith H p.commitment (p.decommitment.map Int.ofNat) = .panic e) ∨
      NoOpen H p ∨ Short H p ∨ OffU C H p ∨ OffT C H p ∨ ∃ uj tj, Opens C H p uj tj :=
  opening_cases C H p

theorem opens_functional (uj tj uj' tj' : P) (h : Opens C H p uj tj) (h' : Opens C H p uj' tj') :
    uj = uj' ∧ tj = tj' :=
  opens_unique C H p h h'

theorem opens_excludes (uj tj : P) (h : Opens C H p uj tj) :
    ¬ NoOpen H p ∧ ¬ Short H p ∧ ¬ OffU C H p ∧ ¬ OffT C H p := by
  -- the value of `peer9` (with any tree and own index) tells the judgements apart
  have hp := peer9_of_opens C H true 0 p h
  refine ⟨fun hn => ?_, fun hs => ?_, fun hu => ?_, fun ht => ?_⟩
  · rw [peer9_of_noOpen C H true 0 p hn] at hp; cases hp
  · rw [peer9_of_short C H true 0 p hs] at hp; cases hp
  · rw [peer9_of_offU C H true 0 p hu] at hp; cases hp
  · rw [peer9_of_offT C H true 0 p ht] at hp; cases hp

end judgements

/-! ## the error names the first failing peer, or the party itself for the final comparison -/
section first
variable (cp : Bool) (own : Nat) (u t : P)

/-- **both trees, exact**: the loop reports `why` naming `c` iff either every peer opened validly (points
`uts`), the affine forms of `u + Σ U_j` and `t + Σ T_j` differ, and the party names itself for "U doesn't equal
T"; or the list splits as `pre ++ p :: post`, every peer of `pre` opened validly, and `p` is rejected: its
de-commitment does not open (names `p`), or a pair is off the curve (names `p` after the repair, the party itself
before it). -/
theorem sg9_first_failing_named (peers : List R8Peer) (why : String) (c : Nat) :
    round9Go C H cp own u t peers = .ok (.fail why c) ↔
      (∃ uts : List (P × P), List.Forall₂ (fun q ut => Opens C H q ut.1 ut.2) peers uts ∧
        C.toAffine ((uts.map (·.1)).foldl C.add u) ≠ C.toAffine ((uts.map (·.2)).foldl C.add t) ∧
        why = "U doesn't equal T" ∧ c = own) ∨
      (∃ pre p post, peers = pre ++ p :: post ∧ (∀ q ∈ pre, ∃ uj tj, Opens C H q uj tj) ∧
        ((NoOpen H p ∧ why = "de-commitment for bigVj and bigAj failed" ∧ c = p.idx) ∨
         (OffU C H p ∧ Named cp own p "NewECPoint(Uj)" why c) ∨
         (OffT C H p ∧ Named cp own p "NewECPoint(Tj)" why c))) := by
  rw [round9Go_fail_iff]
  constructor
  · rintro (h | ⟨pre, p, post, he, hpre, hf⟩)
    · exact Or.inl h
    · exact Or.inr ⟨pre, p, post, he, hpre, (peer9_fail_iff C H cp own p why c).1 hf⟩
  · rintro (h | ⟨pre, p, post, he, hpre, hf⟩)
    · exact Or.inl h
    · exact Or.inr ⟨pre, p, post, he, hpre, (peer9_fail_iff C H cp own p why c).2 hf⟩

/-- **current tree, exact**: the party names itself only for the final comparison after valid openings
throughout; otherwise the FIRST peer whose opening is not valid is named, with the reason of its rejection -/
theorem sg9_first_failing_named_cur (peers : List R8Peer) (why : String) (c : Nat) :
    round9Go C H true own u t peers = .ok (.fail why c) ↔
      (c = own ∧ why = "U doesn't equal T" ∧
        ∃ uts : List (P × P), List.Forall₂ (fun q ut => Opens C H q ut.1 ut.2) peers uts ∧
          C.toAffine ((uts.map (·.1)).foldl C.add u) ≠ C.toAffine ((uts.map (·.2)).foldl C.add t)) ∨
      (∃ pre p post, peers = pre ++ p :: post ∧ p.idx = c ∧ (∀ q ∈ pre, ∃ uj tj, Opens C H q uj tj) ∧
        ((NoOpen H p ∧ why = "de-commitment for bigVj and bigAj failed") ∨
         (OffU C H p ∧ why = "NewECPoint(Uj)") ∨ (OffT C H p ∧ why = "NewECPoint(Tj)"))) := by
  simp only [sg9_first_failing_named, Named, true_and, reduceCtorEq, false_and, or_false]
  refine or_congr
    ⟨fun ⟨uts, ha, hne, hw, hc⟩ => ⟨hc, hw, uts, ha, hne⟩, fun ⟨hc, hw, uts, ha, hne⟩ => ⟨uts, ha, hne, hw, hc⟩⟩
    (exists_congr fun pre => exists_congr fun p => exists_congr fun post => and_congr_right fun _ => ?_)
  constructor
  · rintro ⟨hpre, ⟨h, hw, hc⟩ | ⟨h, hw, hc⟩ | ⟨h, hw, hc⟩⟩
    exacts [⟨hc.symm, hpre, .inl ⟨h, hw⟩⟩, ⟨hc.symm, hpre, .inr (.inl ⟨h, hw⟩)⟩, ⟨hc.symm, hpre, .inr (.inr ⟨h, hw⟩)⟩]
  · rintro ⟨hc, hpre, ⟨h, hw⟩ | ⟨h, hw⟩ | ⟨h, hw⟩⟩
    exacts [⟨hpre, .inl ⟨h, hw, hc.symm⟩⟩, ⟨hpre, .inr (.inl ⟨h, hw, hc.symm⟩)⟩, ⟨hpre, .inr (.inr ⟨h, hw, hc.symm⟩)⟩]

/-- **tree before the repair, exact**: the party names itself for the final comparison AND for the first peer
whose opened pair is off the curve; a peer is named only for a de-commitment that does not open -/
theorem sg9_first_failing_named_old (peers : List R8Peer) (why : String) (c : Nat) :
    round9Go C H false own u t peers = .ok (.fail why c) ↔
      (c = own ∧ why = "U doesn't equal T" ∧
        ((∃ uts : List (P × P), List.Forall₂ (fun q ut => Opens C H q ut.1 ut.2) peers uts ∧
          C.toAffine ((uts.map (·.1)).foldl C.add u) ≠ C.toAffine ((uts.map (·.2)).foldl C.add t)) ∨
         (∃ pre p post, peers = pre ++ p :: post ∧ (∀ q ∈ pre, ∃ uj tj, Opens C H q uj tj) ∧
          (OffU C H p ∨ OffT C H p)))) ∨
      (∃ pre p post, peers = pre ++ p :: post ∧ p.idx = c ∧ (∀ q ∈ pre, ∃ uj tj, Opens C H q uj tj) ∧
        NoOpen H p ∧ why = "de-commitment for bigVj and bigAj failed") := by
  simp only [sg9_first_failing_named, Named, reduceCtorEq, false_and, false_or, true_and]
  constructor
  · rintro (⟨uts, ha, hne, hw, hc⟩ | ⟨pre, p, post, he, hpre, hr⟩)
    · exact Or.inl ⟨hc, hw, Or.inl ⟨uts, ha, hne⟩⟩
    · rcases hr with ⟨hn, hw, hc⟩ | ⟨hu, hw, hc⟩ | ⟨ht, hw, hc⟩
      · exact Or.inr ⟨pre, p, post, he, hc.symm, hpre, hn, hw⟩
      · exact Or.inl ⟨hc, hw, Or.inr ⟨pre, p, post, he, hpre, Or.inl hu⟩⟩
      · exact Or.inl ⟨hc, hw, Or.inr ⟨pre, p, post, he, hpre, Or.inr ht⟩⟩
  · rintro (⟨hc, hw, ⟨uts, ha, hne⟩ | ⟨pre, p, post, he, hpre, hu | ht⟩⟩ | ⟨pre, p, post, he, hc, hpre, hn, hw⟩)
    · exact Or.inl ⟨uts, ha, hne, hw, hc⟩
    · exact Or.inr ⟨pre, p, post, he, hpre, Or.inr (Or.inl ⟨hu, hw, hc⟩)⟩
    · exact Or.inr ⟨pre, p, post, he, hpre, Or.inr (Or.inr ⟨ht, hw, hc⟩)⟩
    · exact Or.inr ⟨pre, p, post, he, hpre, Or.inl ⟨hn, hw, hc.symm⟩⟩

end first

/-! ## a covered alteration names exactly its sender (the repair), and did not before -/
section covered
variable (own : Nat) (u t : P)

/-- **THE REPAIR**: on the current tree, if every peer before `p` opens validly and `p` opens (four values or
more) to a pair that is not a point of the curve — for `U_j`, resp. for `T_j` with `U_j` on the curve — the round
reports the failed decoding and names `p` -/
theorem sg9_offcurve_names_sender (pre post : List R8Peer) (p : R8Peer)
    (hpre : ∀ q ∈ pre, ∃ uj tj, Opens C H q uj tj) :
    (OffU C H p → round9Go C H true own u t (pre ++ p :: post) = .ok (.fail "NewECPoint(Uj)" p.idx)) ∧
    (OffT C H p → round9Go C H true own u t (pre ++ p :: post) = .ok (.fail "NewECPoint(Tj)" p.idx)) := by
  refine ⟨fun hu => ?_, fun ht => ?_⟩
  · exact (round9Go_fail_iff C H true own u t _ _ _).2
      (Or.inr ⟨pre, p, post, rfl, hpre, by rw [peer9_of_offU C H true own p hu]; rfl⟩)
  · exact (round9Go_fail_iff C H true own u t _ _ _).2
      (Or.inr ⟨pre, p, post, rfl, hpre, by rw [peer9_of_offT C H true own p ht]; rfl⟩)

/-- a de-commitment that does not open the commitment names its sender (both trees) -/
theorem sg9_bad_opening_names_sender (cp : Bool) (pre post : List R8Peer) (p : R8Peer)
    (hpre : ∀ q ∈ pre, ∃ uj tj, Opens C H q uj tj) (hn : NoOpen H p) :
    round9Go C H cp own u t (pre ++ p :: post) =
      .ok (.fail "de-commitment for bigVj and bigAj failed" p.idx) :=
  (round9Go_fail_iff C H cp own u t _ _ _).2
    (Or.inr ⟨pre, p, post, rfl, hpre, peer9_of_noOpen C H cp own p hn⟩)

/-- **before the repair the property failed**: the same alteration — a pair off the curve from peer `p` — made
the party name ITSELF (in the model: by the convention of `Core/BlameSg9.lean` for the unspecified raw addition) -/
theorem sg9_old_tree_offcurve_names_self (pre post : List R8Peer) (p : R8Peer)
    (hpre : ∀ q ∈ pre, ∃ uj tj, Opens C H q uj tj) (hoff : OffU C H p ∨ OffT C H p) :
    round9Go C H false own u t (pre ++ p :: post) = .ok (.fail "U doesn't equal T" own) := by
  refine (round9Go_fail_iff C H false own u t _ _ _).2 (Or.inr ⟨pre, p, post, rfl, hpre, ?_⟩)
  rcases hoff with hu | ht
  · rw [peer9_of_offU C H false own p hu]; rfl
  · rw [peer9_of_offT C H false own p ht]; rfl

end covered

/-! ## who can be named at all -/
section names
variable (cp : Bool) (own : Nat) (u t : P)

/-- **the name is the party's own index or a peer's** -/
theorem sg9_culprit_is_sender_or_own (peers : List R8Peer) (why : String) (c : Nat)
    (h : round9Go C H cp own u t peers = .ok (.fail why c)) : c = own ∨ c ∈ peers.map (·.idx) := by
  rcases (round9Go_fail_iff C H cp own u t peers why c).1 h with ⟨_, _, _, _, hc⟩ | ⟨pre, p, post, he, _, hf⟩
  · exact Or.inl hc
  · rcases peer9_fail_idx C H cp own p why c hf with hc | ⟨_, hc, _⟩
    · exact Or.inr (List.mem_map.2 ⟨p, by rw [he]; simp, hc.symm⟩)
    · exact Or.inl hc

/-- **current tree**: a failure is either the local assertion — reason "U doesn't equal T", names the party,
every opening valid, the sums differ — or it has another reason and names a peer -/
theorem sg9_fail_kinds (peers : List R8Peer) (why : String) (c : Nat)
    (h : round9Go C H true own u t peers = .ok (.fail why c)) :
    (why = "U doesn't equal T" ∧ c = own ∧
      ∃ uts : List (P × P), List.Forall₂ (fun q ut => Opens C H q ut.1 ut.2) peers uts ∧
        C.toAffine ((uts.map (·.1)).foldl C.add u) ≠ C.toAffine ((uts.map (·.2)).foldl C.add t)) ∨
    (why ≠ "U doesn't equal T" ∧ c ∈ peers.map (·.idx)) := by
  rcases (round9Go_fail_iff C H true own u t peers why c).1 h with
    ⟨uts, ha, hne, hw, hc⟩ | ⟨pre, p, post, he, _, hf⟩
  · exact Or.inl ⟨hw, hc, uts, ha, hne⟩
  · obtain ⟨hc, hw, _⟩ := peer9_fail_cur C H own p why c hf
    exact Or.inr ⟨hw, List.mem_map.2 ⟨p, by rw [he]; simp, hc.symm⟩⟩

/-- **the party names itself only for its local assertion** (current tree; the party's own index is not a
peer's): then the reason is "U doesn't equal T" and every peer's opening was valid -/
theorem sg9_self_blame_only_for_local_assertion (peers : List R8Peer) (hself : own ∉ peers.map (·.idx))
    (why : String) (h : round9Go C H true own u t peers = .ok (.fail why own)) :
    why = "U doesn't equal T" ∧
      ∃ uts : List (P × P), List.Forall₂ (fun q ut => Opens C H q ut.1 ut.2) peers uts ∧
        C.toAffine ((uts.map (·.1)).foldl C.add u) ≠ C.toAffine ((uts.map (·.2)).foldl C.add t) := by
  rcases sg9_fail_kinds C H own u t peers why own h with ⟨hw, _, hex⟩ | ⟨_, hm⟩
  · exact ⟨hw, hex⟩
  · exact absurd hm hself

/-- **a peer that opens validly is never the one named** (current tree, distinct indices, the party's own index
not a peer's) -/
theorem sg9_honest_peer_not_named (peers : List R8Peer) (hnd : (peers.map (·.idx)).Nodup)
    (hself : own ∉ peers.map (·.idx)) (q : R8Peer) (hq : q ∈ peers) (uj tj : P) (ho : Opens C H q uj tj)
    (why : String) (c : Nat) (h : round9Go C H true own u t peers = .ok (.fail why c)) : c ≠ q.idx := by
  intro hc
  rcases (round9Go_fail_iff C H true own u t peers why c).1 h with
    ⟨_, _, _, _, hc'⟩ | ⟨pre, p, post, he, _, hf⟩
  · exact hself (List.mem_map.2 ⟨q, hq, by rw [← hc, hc']⟩)
  · obtain ⟨hcp, _, _⟩ := peer9_fail_cur C H own p why c hf
    have hpq : p = q :=
      List.inj_on_of_nodup_map hnd (by rw [he]; simp) hq (by rw [← hcp, hc])
    subst hpq
    exact not_opens_of_fail C H true own p hf ⟨uj, tj, ho⟩

end names

/-! ## one deviator -/
section deviator
variable (own : Nat) (u t : P)

/-- **one deviator, current tree**: every peer other than `dev` opens validly. Then (1) a failure names `dev`,
or it is the local assertion — the party itself, "U doesn't equal T", every opening (also `dev`'s) valid and the
sums different; (2) for distinct indices, if `dev`'s de-commitment does not open, or opens to a pair off the
curve, the round reports exactly that, naming exactly `dev`. -/
theorem sg9_single_deviator (peers : List R8Peer) (dev : Nat)
    (hothers : ∀ p ∈ peers, p.idx ≠ dev → ∃ uj tj, Opens C H p uj tj) :
    (∀ why c, round9Go C H true own u t peers = .ok (.fail why c) →
      c = dev ∨ (c = own ∧ why = "U doesn't equal T" ∧
        ∃ uts : List (P × P), List.Forall₂ (fun q ut => Opens C H q ut.1 ut.2) peers uts ∧
          C.toAffine ((uts.map (·.1)).foldl C.add u) ≠ C.toAffine ((uts.map (·.2)).foldl C.add t))) ∧
    (∀ d ∈ peers, d.idx = dev → (peers.map (·.idx)).Nodup →
      (NoOpen H d → round9Go C H true own u t peers =
        .ok (.fail "de-commitment for bigVj and bigAj failed" dev)) ∧
      (OffU C H d → round9Go C H true own u t peers = .ok (.fail "NewECPoint(Uj)" dev)) ∧
      (OffT C H d → round9Go C H true own u t peers = .ok (.fail "NewECPoint(Tj)" dev))) := by
  have hgo := fun pre p post s he hne (_ : C05L.Runs (step9 C H true own) (u, t) pre s) =>
    round9_others_go C H true own peers dev hothers pre p post s he hne
  constructor
  · intro why c h
    rw [round9Go_eq] at h
    rcases C05L.seqLoop_single_deviator _ _ (·.idx) (u, t) peers dev hgo _ h with
      ⟨_, hr, hf⟩ | ⟨_, p, _, s', _, hdev, _, hq⟩
    · obtain ⟨uts, ha, rfl⟩ := (runs9_iff C H true own peers _ _).1 hr
      obtain ⟨hne, hw, hc⟩ := (final9_fail_iff C own _ _ _ _).1 hf
      exact Or.inr ⟨hc, hw, uts, ha, hne⟩
    · obtain ⟨_, _, hp, hv⟩ := (step9_halt_ok_iff C H true own s' p _).1 hq
      cases hv
      exact Or.inl ((peer9_fail_cur C H own p _ _ hp).1.trans hdev)
  · intro d hd hdev hnd
    subst hdev
    have key : ∀ why, peer9 C H true own d = .ok (.fail why d.idx) →
        round9Go C H true own u t peers = .ok (.fail why d.idx) := fun why hp => by
      rw [round9Go_eq]
      exact C05L.seqLoop_deviator_halts _ _ (·.idx) (u, t) peers d hnd hd hgo _
        fun s => (step9_halt_ok_iff C H true own s d _).2 ⟨why, _, hp, rfl⟩
    exact ⟨fun hn => key _ (peer9_of_noOpen C H true own d hn),
      fun hu => key _ (by rw [peer9_of_offU C H true own d hu]; rfl),
      fun ht => key _ (by rw [peer9_of_offT C H true own d ht]; rfl)⟩

/-- **one deviator, tree before the repair**: a failure names `dev` or the party itself — and the party itself
also when `dev` sent a pair off the curve (`sg9_old_tree_offcurve_names_self`) -/
theorem sg9_single_deviator_old (peers : List R8Peer) (dev : Nat)
    (hothers : ∀ p ∈ peers, p.idx ≠ dev → ∃ uj tj, Opens C H p uj tj)
    (why : String) (c : Nat) (h : round9Go C H false own u t peers = .ok (.fail why c)) :
    c = dev ∨ (c = own ∧ why = "U doesn't equal T") := by
  rw [round9Go_eq] at h
  rcases C05L.seqLoop_single_deviator _ _ (·.idx) (u, t) peers dev
    (fun pre p post s he hne _ => round9_others_go C H false own peers dev hothers pre p post s he hne) _ h with
    ⟨_, _, hf⟩ | ⟨_, p, _, s', _, hdev, _, hq⟩
  · obtain ⟨_, hw, hc⟩ := (final9_fail_iff C own _ _ _ _).1 hf
    exact Or.inr ⟨hc, hw⟩
  · obtain ⟨_, _, hp, hv⟩ := (step9_halt_ok_iff C H false own s' p _).1 hq
    cases hv
    rcases peer9_fail_idx C H false own p _ _ hp with hcp | ⟨_, hc, hw, _⟩
    · exact Or.inl (hcp.trans hdev)
    · exact Or.inr ⟨hc, hw⟩

end deviator

/-! ## the share is revealed iff everything checks -/
section pass
variable (cp : Bool) (own : Nat) (u t : P)

/-- **exact pass condition** (both trees): every peer opens validly (points `uts`, in peer order) and the affine
forms of `u + Σ U_j` and `t + Σ T_j` (left folds of the curve's addition) are equal -/
theorem sg9_pass_iff (peers : List R8Peer) :
    round9Go C H cp own u t peers = .ok (.pass ()) ↔
      ∃ uts : List (P × P), List.Forall₂ (fun q ut => Opens C H q ut.1 ut.2) peers uts ∧
        C.toAffine ((uts.map (·.1)).foldl C.add u) = C.toAffine ((uts.map (·.2)).foldl C.add t) := by
  rw [round9Go_eq, C05L.seqLoop_eq_iff]
  constructor
  · rintro (⟨_, hr, hf⟩ | ⟨_, p, _, s', _, _, hq⟩)
    · obtain ⟨uts, ha, rfl⟩ := (runs9_iff C H cp own peers _ _).1 hr
      exact ⟨uts, ha, (final9_pass_iff C own _ _).1 hf⟩
    · obtain ⟨_, _, _, hv⟩ := (step9_halt_ok_iff C H cp own s' p _).1 hq
      cases hv
  · rintro ⟨uts, ha, heq⟩
    exact Or.inl ⟨_, (runs9_iff C H cp own peers _ _).2 ⟨uts, ha, rfl⟩, (final9_pass_iff C own _ _).2 heq⟩

theorem sg9_pass_all_open (peers : List R8Peer) (h : round9Go C H cp own u t peers = .ok (.pass ())) :
    ∀ q ∈ peers, ∃ uj tj, Opens C H q uj tj := by
  obtain ⟨uts, ha, _⟩ := (sg9_pass_iff C H cp own u t peers).1 h
  exact forall_of_allOpen C H ha

/-- the verdict does not depend on the tree when every opening is valid: the repair changes nothing for honest
peers -/
theorem sg9_trees_agree_on_valid_openings (peers : List R8Peer)
    (hall : ∀ q ∈ peers, ∃ uj tj, Opens C H q uj tj) :
    round9Go C H true own u t peers = round9Go C H false own u t peers := by
  obtain ⟨uts, ha⟩ := allOpen_of_forall C H peers hall
  have h : ∀ cp, round9Go C H cp own u t peers = final9 C own (sumU C u uts) (sumT C t uts) := fun cp => by
    rw [round9Go_eq]
    exact (C05L.seqLoop_eq_iff _ _ _ _ _).2 (Or.inl ⟨_, (runs9_iff C H cp own peers _ _).2 ⟨uts, ha, rfl⟩, rfl⟩)
  rw [h true, h false]

end pass

/-! ## the call returns -/
section returns
variable (cp : Bool) (own : Nat) (u t : P)

/-- **exact crash condition** (both trees): the first peer whose opening is not valid either has an empty
de-commitment list (`DeCommit` compares a nil hash) or opens its commitment to fewer than four values -/
theorem sg9_panic_iff (peers : List R8Peer) (e : String) :
    round9Go C H cp own u t peers = .panic e ↔
      ∃ pre p post, peers = pre ++ p :: post ∧ (∀ q ∈ pre, ∃ uj tj, Opens C H q uj tj) ∧
        (decommitWith H p.commitment (p.decommitment.map Int.ofNat) = .panic e ∨
          (Short H p ∧ e = "index-out-of-range")) := by
  rw [round9Go_panic_iff]
  constructor
  · rintro ⟨pre, p, post, he, hpre, hp⟩
    exact ⟨pre, p, post, he, hpre, (peer9_panic_iff C H cp own p e).1 hp⟩
  · rintro ⟨pre, p, post, he, hpre, hp⟩
    exact ⟨pre, p, post, he, hpre, (peer9_panic_iff C H cp own p e).2 hp⟩

/-- a successful `DeCommit` returns the list without its first entry: five parts open to four values -/
theorem decommit_length (c : Nat) (d v : List Int) (h : decommitWith H c d = .ok (some v)) :
    v.length = d.length - 1 :=
  C05L.decommit_some_length H h

/-- **round 9 never crashes** (both trees) when every de-commitment has five entries — what
`SignRound8Message.ValidateBasic` enforces before a message is stored. No hypothesis on the curve or the hash. -/
theorem sg9_no_panic (peers : List R8Peer) (h5 : ∀ p ∈ peers, p.decommitment.length = 5) (e : String) :
    round9Go C H cp own u t peers ≠ .panic e := by
  intro h
  obtain ⟨pre, p, post, he, _, hp⟩ := (round9Go_panic_iff C H cp own u t peers e).1 h
  exact peer9_no_panic_of_five C H cp own p (h5 p (by rw [he]; simp)) e hp

theorem sg9_no_unattributed_error (peers : List R8Peer) (e : String) :
    round9Go C H cp own u t peers ≠ .err e :=
  round9Go_no_err C H cp own u t peers e

theorem sg9_returns (peers : List R8Peer) (h5 : ∀ p ∈ peers, p.decommitment.length = 5) :
    ∃ v, round9Go C H cp own u t peers = .ok v := by
  cases h : round9Go C H cp own u t peers with
  | ok v => exact ⟨v, rfl⟩
  | err e => exact absurd h (round9Go_no_err C H cp own u t peers e)
  | panic e => exact absurd h (sg9_no_panic C H cp own u t peers h5 e)

/-- **the hypothesis is needed in the model**: a de-commitment that opens the commitment to fewer than four
values (after valid openings) crashes the round at `values[3]`, for every curve and hash, in both trees -/
theorem sg9_short_opening_panics (pre post : List R8Peer) (p : R8Peer)
    (hpre : ∀ q ∈ pre, ∃ uj tj, Opens C H q uj tj)
    (v : List Int) (hv : decommitWith H p.commitment (p.decommitment.map Int.ofNat) = .ok (some v))
    (hl : v.length < 4) :
    round9Go C H cp own u t (pre ++ p :: post) = .panic "index-out-of-range" :=
  (round9Go_panic_iff C H cp own u t _ _).2 ⟨pre, p, post, rfl, hpre, peer9_of_short C H cp own p ⟨v, hv, hl⟩⟩

end returns

/-! ## the wrapper on coordinates -/
section wrapper
variable (cp : Bool) (own : Nat)

theorem round9_eq (ownU ownT : ECPoint) (u t : P) (hu : C.lift ownU = some u) (ht : C.lift ownT = some t)
    (peers : List R8Peer) : round9 C H cp own ownU ownT peers = round9Go C H cp own u t peers := by
  unfold round9; rw [hu, ht]

/-- an error without culprit is reported iff one of the party's OWN points is not on the curve -/
theorem round9_err_iff (ownU ownT : ECPoint) (peers : List R8Peer) (e : String) :
    round9 C H cp own ownU ownT peers = .err e ↔
      (C.ecIsOnCurve ownU = false ∨ C.ecIsOnCurve ownT = false) ∧ e = "own-point-not-on-curve" := by
  unfold round9 Curve.ecIsOnCurve Curve.lift
  cases hu : C.ofAffine ownU.1 ownU.2 with
  | none =>
    cases ht : C.ofAffine ownT.1 ownT.2 <;>
      exact ⟨fun h => ⟨Or.inl rfl, by injection h with h; exact h.symm⟩, fun ⟨_, h⟩ => by rw [h]⟩
  | some u =>
    cases ht : C.ofAffine ownT.1 ownT.2 with
    | none => exact ⟨fun h => ⟨Or.inr rfl, by injection h with h; exact h.symm⟩, fun ⟨_, h⟩ => by rw [h]⟩
    | some t =>
      simp only [Option.isSome_some, reduceCtorEq, or_self, false_and, iff_false]
      exact round9Go_no_err C H cp own u t peers e

end wrapper

/-! ## the hypotheses are satisfiable; the witnesses (kernel evaluation of the model on a toy curve) -/
section examples

instance fact23 : Fact (Nat.Prime 23) := ⟨by decide +kernel⟩
/-- toy lawful curve of order 23 whose identity has affine coordinates: the point `a·G` is `(a, 0)`; a pair
`(x, y)` with `y ≠ 0` is not a point of it -/
abbrev E := zmodCurve 23
/-- a "hash" whose digests are the byte `1`: every commitment value is `1` -/
def Hone : HashFn := fun _ => [1]

/-- round-8 record of peer `idx`: commitment `1` opened by `[blind, a, 0, b, 0]`, i.e. `U = a·G`, `T = b·G` -/
def g9 (idx a b : Nat) : R8Peer := ⟨idx, 1, [9, a, 0, b, 0]⟩

example : Opens E Hone (g9 1 3 5) 3 5 := ⟨[3, 0, 5, 0], by decide +kernel, by decide +kernel, by decide +kernel, by decide +kernel⟩

/-- two honest peers with `U_own + U_1 + U_2 = T_own + T_1 + T_2` (`2 + 3 + 5 = 2 + 5 + 3`): the share is
revealed, on both trees -/
example : round9 E Hone true 0 (2, 0) (2, 0) [g9 1 3 5, g9 2 5 3] = .ok (.pass ()) := by decide +kernel
example : round9 E Hone false 0 (2, 0) (2, 0) [g9 1 3 5, g9 2 5 3] = .ok (.pass ()) := by decide +kernel

/-- valid openings, different sums: the local assertion, the party (index `0`) names itself -/
example : round9 E Hone true 0 (2, 0) (2, 0) [g9 1 3 5, g9 2 5 4] = .ok (.fail "U doesn't equal T" 0) := by
  decide

/-- a commitment that does not open; `U_2` off the curve; `T_2` off the curve: peer 2 is named (current tree) -/
example : round9 E Hone true 0 (2, 0) (2, 0) [g9 1 3 5, ⟨2, 0, [9, 5, 0, 3, 0]⟩, g9 3 1 1] =
    .ok (.fail "de-commitment for bigVj and bigAj failed" 2) := by decide +kernel
example : round9 E Hone true 0 (2, 0) (2, 0) [g9 1 3 5, ⟨2, 1, [9, 5, 1, 3, 0]⟩, g9 3 1 1] =
    .ok (.fail "NewECPoint(Uj)" 2) := by decide +kernel
example : round9 E Hone true 0 (2, 0) (2, 0) [g9 1 3 5, ⟨2, 1, [9, 5, 0, 3, 1]⟩, g9 3 1 1] =
    .ok (.fail "NewECPoint(Tj)" 2) := by decide +kernel

/-- **the defect the repair removed**: peer 2 opens its commitment to a pair `(5, 1)` that is not a point of the
curve. The tree before the repair makes the honest party `0` name ITSELF; the current tree names peer 2. -/
theorem sg9_old_tree_self_blame_witness :
    round9 E Hone false 0 (2, 0) (2, 0) [g9 1 3 5, ⟨2, 1, [9, 5, 1, 3, 0]⟩, g9 3 1 1] =
      .ok (.fail "U doesn't equal T" 0) ∧
    round9 E Hone true 0 (2, 0) (2, 0) [g9 1 3 5, ⟨2, 1, [9, 5, 1, 3, 0]⟩, g9 3 1 1] =
      .ok (.fail "NewECPoint(Uj)" 2) ∧
    OffU E Hone ⟨2, 1, [9, 5, 1, 3, 0]⟩ :=
  ⟨by decide +kernel, by decide +kernel, [5, 1, 3, 0], by decide +kernel, by decide +kernel, by decide +kernel⟩

/-- the hypotheses of `sg9_single_deviator` hold for three peers with the deviator `2` in the middle, whatever
it sends -/
theorem honest9 (md : R8Peer) (hd : md.idx = 2) :
    ∀ p ∈ [g9 1 3 5, md, g9 3 1 1], p.idx ≠ 2 → ∃ uj tj, Opens E Hone p uj tj := by
  intro p hp hne
  simp only [List.mem_cons, List.not_mem_nil, or_false] at hp
  rcases hp with rfl | rfl | rfl
  · exact ⟨3, 5, [3, 0, 5, 0], by decide +kernel, by decide +kernel, by decide +kernel, by decide +kernel⟩
  · exact absurd hd hne
  · exact ⟨1, 1, [1, 0, 1, 0], by decide +kernel, by decide +kernel, by decide +kernel, by decide +kernel⟩

example (md : R8Peer) (hd : md.idx = 2) (why : String) (c : Nat)
    (h : round9Go E Hone true 0 2 2 [g9 1 3 5, md, g9 3 1 1] = .ok (.fail why c)) :
    c = 2 ∨ (c = 0 ∧ why = "U doesn't equal T") := by
  rcases (sg9_single_deviator E Hone 0 2 2 _ 2 (honest9 md hd)).1 why c h with h | ⟨h1, h2, _⟩
  · exact Or.inl h
  · exact Or.inr ⟨h1, h2⟩

example : round9Go E Hone true 0 2 2 [g9 1 3 5, ⟨2, 1, [9, 5, 1, 3, 0]⟩, g9 3 1 1] =
    .ok (.fail "NewECPoint(Uj)" 2) :=
  ((sg9_single_deviator E Hone 0 2 2 _ 2 (honest9 _ rfl)).2 ⟨2, 1, [9, 5, 1, 3, 0]⟩ (by simp) rfl
    (by decide +kernel)).2.1 ⟨[5, 1, 3, 0], by decide +kernel, by decide +kernel, by decide +kernel⟩

/-- the hypothesis of `sg9_no_panic` -/
example : ∀ p ∈ [g9 1 3 5, g9 2 5 3], p.decommitment.length = 5 := by decide +kernel

/-- **the five-part hypothesis is needed**: a three-part de-commitment `[blind, 1, 0]` opens the commitment `1`
(under this hash) to two values; the round indexes `values[3]` — both trees -/
theorem sg9_short_opening_panics_witness :
    round9 E Hone true 0 (2, 0) (2, 0) [g9 1 3 5, ⟨2, 1, [9, 1, 0]⟩] = .panic "index-out-of-range" ∧
    round9 E Hone false 0 (2, 0) (2, 0) [g9 1 3 5, ⟨2, 1, [9, 1, 0]⟩] = .panic "index-out-of-range" ∧
    Short Hone ⟨2, 1, [9, 1, 0]⟩ :=
  ⟨by decide +kernel, by decide +kernel, [1, 0], by decide +kernel, by decide +kernel⟩

/-- … and an empty de-commitment crashes inside `DeCommit` (nil hash compared) -/
theorem sg9_empty_decommitment_panics_witness :
    round9 E Hone true 0 (2, 0) (2, 0) [⟨1, 1, []⟩] = .panic "nil-hash-cmp" := by decide +kernel

/-- a longer opening (six parts, five values) is let through by the `!ok && len(values) != 4` guard: the extra
value is ignored (`ValidateBasic` rejects such a message before it is stored) -/
example : round9 E Hone true 0 (2, 0) (2, 0) [⟨1, 1, [9, 3, 0, 3, 0, 7]⟩] = .ok (.pass ()) := by decide +kernel

/-- the party's own point off the curve: an error without culprit -/
example : round9 E Hone true 0 (2, 1) (2, 0) [g9 1 3 5] = .err "own-point-not-on-curve" := by decide +kernel

end examples

end TssVerif.C05e
