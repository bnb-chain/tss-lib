import TssVerif.Core.Zk
import TssVerif.Lemmas.C11
import TssVerif.Lemmas.C10Mod
import TssVerif.Lemmas.C10PaillierKey
import TssVerif.Lemmas.ZkVerify
import TssVerif.Props.C14
/-! # C11 — decision logic of the zero-knowledge verifiers

For every hash `H` and all inputs: acceptance (`= .ok true`) by a verifier of the current tree (`Zk.cur`)
implies every guard and every verification equation, written as congruences. Cryptographic soundness
against arbitrary provers is statistical and is *not* stated; what is stated besides the decision logic are
the exact algebraic extraction steps on which the soundness arguments rest.

Conventions. `a ≡ b [ZMOD m]` is `a % m = b % m`. Go's `Exp(x, y, m)` with `y < 0` goes through `ModInverse`;
where an exponent read from the proof may be negative in the model (`Int`), the equation is stated multiplied
through: with `y⁺ = y.toNat`, `y⁻ = (−y).toNat` the value `r = Exp(x, y, m)` satisfies `r · x^{y⁻} ≡ x^{y⁺}`. -/
set_option autoImplicit false
namespace TssVerif.C11
open TssVerif TssVerif.Zk TssVerif.C11L TssVerif.Paillier

/-! ## Alice's range proof -/

/-- acceptance of `(*RangeProofAlice).Verify` implies every guard and both equations -/
theorem range_accept_implies (H : HashFn) (q : Nat) (n ntilde h1 h2 c : Int) (pf : RangeProof)
    (h : rangeVerify cur H q n ntilde h1 h2 c pf = .ok true) :
    let e := rangeChallenge H q n c pf.z pf.u pf.w
    0 < n ∧ 0 < ntilde ∧
    (0 ≤ pf.z ∧ pf.z < ntilde) ∧ (0 ≤ pf.u ∧ pf.u < n * n) ∧ (0 ≤ pf.w ∧ pf.w < ntilde) ∧
    (0 ≤ pf.s ∧ pf.s < n) ∧
    Int.gcd pf.z ntilde = 1 ∧ Int.gcd pf.u (n * n) = 1 ∧ Int.gcd pf.w ntilde = 1 ∧
    (q : Int) ≤ pf.s1 ∧ pf.s1 ≤ (q : Int) ^ 3 ∧ (q : Int) ≤ pf.s2 ∧
    pf.s ≠ 1 ∧ pf.z ≠ 1 ∧ pf.s1 ≠ pf.s2 ∧ Int.gcd c (n * n) = 1 ∧
    pf.u * c ^ e ≡ (n + 1) ^ pf.s1.toNat * pf.s ^ n.toNat [ZMOD n * n] ∧
    pf.w * pf.z ^ e ≡ h1 ^ pf.s1.toNat * h2 ^ pf.s2.toNat [ZMOD ntilde] := by
  intro e
  obtain ⟨hz, hu, hw, hs, gz, gu, gw, s1lo, s2lo, sne, zne, s12, s1hi, gc, cE, hcE, sN, hsN, gS1, hgS1, equ,
    a1, ha1, a2, ha2, zE, hzE, eqw⟩ := (rangeVerify_eq_true_iff H q n ntilde h1 h2 c pf).1 h
  have hn : 0 < n := by omega
  have hnt : 0 < ntilde := by omega
  have hq0 : (0 : Int) ≤ q := Int.natCast_nonneg q
  have hM2 : (((n * n).natAbs : Nat) : Int) = n * n := natAbs_mul_self_cast n
  have hMt : ((ntilde.natAbs : Nat) : Int) = ntilde := natAbs_cast_of_pos hnt
  refine ⟨hn, hnt, hz, hu, hw, hs, gz, gu, gw, s1lo, ?_, s2lo, sne, zne, s12, gc, ?_, ?_⟩
  · have : ((q * q * q : Nat) : Int) = (q : Int) ^ 3 := by push_cast; ring
    rw [← this]; exact s1hi
  · have e1 := goExp_modEq_negNat hcE
    have e2 := goExp_modEq_nonneg (le_of_lt hn) hsN
    have e3 := goExp_modEq_nonneg (le_trans hq0 s1lo) hgS1
    have e4 := natCast_mulmod3 gS1 sN cE (n * n).natAbs
    rw [← equ] at e4
    rw [hM2] at e1 e2 e3 e4
    exact mul_through e4 e1 e3 e2
  · have e1 := goExp_modEq_negNat hzE
    have e2 := goExp_modEq_nonneg (le_trans hq0 s2lo) ha2
    have e3 := goExp_modEq_nonneg (le_trans hq0 s1lo) ha1
    have e4 := natCast_mulmod3 a1 a2 zE ntilde.natAbs
    rw [← eqw] at e4
    rw [hMt] at e1 e2 e3 e4
    exact mul_through e4 e1 e3 e2

/-! ## Bob's proofs -/
section bob
variable {P : Type} (C : Curve P)

/-- acceptance of `(*ProofBob).Verify` (`xu = none`) and of `(*ProofBobWC).Verify` (`xu = some (X, U)`) implies
every interval, unit and range guard and the equations of steps 5, 6, 7 of the Go verifier (GG18Spec Figs. 10 & 11) -/
theorem bob_accept_implies (H : HashFn) (sess : Bytes) (n ntilde h1 h2 c1 c2 : Int) (pf : BobProof)
    (xu : Option (ECPoint × ECPoint))
    (h : bobVerify C H cur sess n ntilde h1 h2 c1 c2 pf xu = .ok true) :
    let q : Int := C.q
    let e := bobChallenge C H sess n c1 c2 xu pf
    0 < n ∧ 0 < ntilde ∧
    (0 ≤ pf.z ∧ pf.z < ntilde) ∧ (0 ≤ pf.zPrm ∧ pf.zPrm < ntilde) ∧ (0 ≤ pf.t ∧ pf.t < ntilde) ∧
    (0 ≤ pf.v ∧ pf.v < n * n) ∧ (0 ≤ pf.w ∧ pf.w < ntilde) ∧ (0 ≤ pf.s ∧ pf.s < n) ∧
    Int.gcd pf.z ntilde = 1 ∧ Int.gcd pf.zPrm ntilde = 1 ∧ Int.gcd pf.t ntilde = 1 ∧
    Int.gcd pf.v (n * n) = 1 ∧ Int.gcd pf.w ntilde = 1 ∧
    pf.s ≠ 0 ∧ Int.gcd pf.s n = 1 ∧ pf.v ≠ 0 ∧ Int.gcd pf.v n = 1 ∧
    q ≤ pf.s1 ∧ pf.s1 ≤ q ^ 3 ∧ q ≤ pf.s2 ∧ q ≤ pf.t1 ∧ pf.t1 ≤ q ^ 7 ∧ q ≤ pf.t2 ∧
    h1 ^ pf.s1.toNat * h2 ^ pf.s2.toNat ≡ pf.z ^ e * pf.zPrm [ZMOD ntilde] ∧
    h1 ^ pf.t1.toNat * h2 ^ pf.t2.toNat ≡ pf.t ^ e * pf.w [ZMOD ntilde] ∧
    c1 ^ pf.s1.toNat * pf.s ^ n.toNat * (n + 1) ^ pf.t1.toNat ≡ c2 ^ e * pf.v [ZMOD n * n] := by
  intro q e
  obtain ⟨⟨a1, a2, a3, a4, a5, a6, a7, a8, a9, a10, a11, a12, a13, a14, a15, a16, a17, a18, a19, a20, a21⟩, -, ht⟩ :=
    (bobVerify_eq_true_iff C H cur sess n ntilde h1 h2 c1 c2 pf xu).1 h
  have a20 : pf.s1 ≤ (C.q : Int) ^ 3 := by rw [show (C.q : Int) ^ 3 = C.q * C.q * C.q by ring]; exact a20
  have a21 : pf.t1 ≤ (C.q : Int) ^ 7 := by
    rw [show (C.q : Int) ^ 7 = C.q * C.q * C.q * (C.q * C.q * C.q) * C.q by ring]; exact a21
  have hn : 0 < n := by omega
  have hnt : 0 < ntilde := by omega
  have hq0 : (0 : Int) ≤ C.q := Int.natCast_nonneg _
  have hM2 : (((n * n).natAbs : Nat) : Int) = n * n := natAbs_mul_self_cast n
  have hMt : ((ntilde.natAbs : Nat) : Int) = ntilde := natAbs_cast_of_pos hnt
  have hMt0 : ntilde.natAbs ≠ 0 := by omega
  have hM20 : (n * n).natAbs ≠ 0 := by
    have : 0 < n * n := Int.mul_pos hn hn
    omega
  refine ⟨hn, hnt, a1, a2, a3, a4, a5, a6, a7, a8, a9, a10, a11, a12, a13, a14, a15, a16, a20, a17, a18, a21, a19, ?_⟩
  unfold bobTail at ht
  simp only [Outcome.guard_false_eq_true, Outcome.bind_eq_ok, expP_eq_ok, bne_iff_ne, ne_eq, not_not, beq_iff_eq, Outcome.ok.injEq] at ht
  obtain ⟨x1, hx1, x2, hx2, x3, hx3, eq5, y1, hy1, y2, hy2, y3, hy3, eq6, z1, hz1, z2, hz2, z3, hz3, z4, hz4, eq7⟩ := ht
  -- steps 5 and 6 are two-factor checks modulo `Ñ`, step 7 is a three-factor check modulo `N²`
  have c5 := exp_mul_exp_modEq hMt0 (le_trans hq0 a16) (le_trans hq0 a17) hx1 hx2 hx3 eq5
  have c6 := exp_mul_exp_modEq hMt0 (le_trans hq0 a18) (le_trans hq0 a19) hy1 hy2 hy3 eq6
  rw [hMt] at c5 c6
  refine ⟨c5, c6, ?_⟩
  have e1 := goExp_modEq_nonneg (le_trans hq0 a16) hz1
  have e2 := goExp_modEq_nonneg (le_of_lt hn) hz2
  have e3 := goExp_modEq_nonneg (le_trans hq0 a18) hz3
  have e5 := goExp_modEq_nonneg (Int.natCast_nonneg _) hz4
  have e4 := modEq_of_mulmod3_eq hM20 eq7
  rw [hM2] at e1 e2 e3 e4 e5
  rw [Int.toNat_natCast] at e5
  exact (((e1.mul e2).mul e3).symm.trans e4).trans (e5.mul_right _)

/-- the with-check variant: `(s1 mod q)·G = e·X + U`, both as outcomes of the Go-level point API and in the group -/
theorem bobWC_accept_implies_point (hC : C.Lawful) (H : HashFn) (sess : Bytes) (n ntilde h1 h2 c1 c2 : Int)
    (pf : BobProof) (X U : ECPoint)
    (h : bobVerify C H cur sess n ntilde h1 h2 c1 c2 pf (some (X, U)) = .ok true) :
    let e := bobChallenge C H sess n c1 c2 (some (X, U)) pf
    let s1q := (pf.s1 % (C.q : Int)).toNat
    s1q ≠ 0 ∧ e ≠ 0 ∧
    (∃ g xe, C.ecBaseMult (s1q : Int) = .ok g ∧ C.ecScalarMult X (e : Int) = .ok xe ∧ C.ecAdd xe U = .ok g) ∧
    ∃ pX pU, C.lift X = some pX ∧ C.lift U = some pU ∧ C.smul s1q C.base = C.add (C.smul e pX) pU := by
  intro e s1q
  obtain ⟨-, ⟨hse, g, xe, hg, hxe, hadd⟩, -⟩ :=
    (bobVerify_eq_true_iff C H cur sess n ntilde h1 h2 c1 c2 pf (some (X, U))).1 h
  obtain ⟨hs, he⟩ := hse rfl
  exact ⟨hs, he, ⟨g, xe, hg, hxe, hadd⟩, point_relation hC hg hxe hadd⟩

end bob

/-! ## Schnorr proofs -/
section schnorr
variable {P : Type} (C : Curve P)

/-- acceptance of `(*ZKProof).Verify`: `t ≢ 0`, `c ≠ 0` and the group equation `t·G = α + c·X` -/
theorem schnorr_accept_implies (hC : C.Lawful) (H : HashFn) (sess : Bytes) (X alpha : ECPoint) (t : Nat)
    (h : schnorrVerify C H cur sess X alpha t = .ok true) :
    let c := schnorrChallenge C H sess X alpha
    t % C.q ≠ 0 ∧ c ≠ 0 ∧
    ∃ pX pA, C.lift X = some pX ∧ C.lift alpha = some pA ∧
      C.smul t C.base = C.add pA (C.smul c pX) := by
  intro c
  obtain ⟨ht, hc, tG, xc, htG, hxc, hadd⟩ := (schnorrVerify_eq_true_iff C H sess X alpha t).1 h
  obtain ⟨pX, hX, hxc'⟩ := ecScalarMult_nat_ok hxc
  obtain ⟨pA, hA, hsum⟩ := ecAdd_ok_right hC hxc' hadd
  exact ⟨ht, hc, pX, pA, hX, hA, hC.toAffine_inj _ _ ((ecBaseMult_nat_ok htG).trans hsum.symm)⟩

/-- acceptance of `(*ZKVProof).Verify`: `α` on the curve, `t, u ≢ 0`, `c ≠ 0` and `t·R + u·G = α + c·V` -/
theorem schnorrV_accept_implies (hC : C.Lawful) (H : HashFn) (sess : Bytes) (V R alpha : ECPoint) (t u : Nat)
    (h : schnorrVVerify C H cur sess V R alpha t u = .ok true) :
    let c := schnorrVChallenge C H sess V R alpha
    C.ecIsOnCurve alpha = true ∧ t % C.q ≠ 0 ∧ u % C.q ≠ 0 ∧ c ≠ 0 ∧
    ∃ pV pR pA, C.lift V = some pV ∧ C.lift R = some pR ∧ C.lift alpha = some pA ∧
      C.add (C.smul t pR) (C.smul u C.base) = C.add pA (C.smul c pV) := by
  intro c
  obtain ⟨hon, ht, hu, hc, tR, uG, w, vc, htR, huG, hadd1, hvc, hadd2⟩ :=
    (schnorrVVerify_eq_true_iff C H sess V R alpha t u).1 h
  obtain ⟨pR, hR, htR'⟩ := ecScalarMult_nat_ok htR
  obtain ⟨pV, hV, hvc'⟩ := ecScalarMult_nat_ok hvc
  have hs1 := ecAdd_ok_both hC htR' (ecBaseMult_nat_ok huG) hadd1
  obtain ⟨pA, hA, hs2⟩ := ecAdd_ok_right hC hvc' hadd2
  exact ⟨hon, ht, hu, hc, pV, pR, pA, hV, hR, hA, hC.toAffine_inj _ _ (hs1.trans hs2.symm)⟩

end schnorr

/-! ## Paillier-Blum modulus proof -/

/-- acceptance of `(*ProofMod).Verify`: `N` positive, odd, composite (for `ProbablyPrime`), `W` a unit in `(0, N)`
whose Jacobi symbol is not `1`, all `X_i, Z_i` in `(0, N)`, `A`, `B` of exactly 81 bits, and for each of the 80 challenges
`Y_i` of the hash chain: `Z_i^N ≡ Y_i` and `X_i^4 ≡ (−1)^{a_i} W^{b_i} Y_i (mod N)` -/
theorem mod_accept_implies (H : HashFn) (sess : Bytes) (w : Int) (xs : List Int) (a b : Int) (zs : List Int) (n : Int)
    (h : modVerify cur H sess w xs a b zs n = .ok true) :
    0 < n ∧ n % 2 = 1 ∧ isProbablyPrime n.toNat = false ∧
    (∃ j, goJacobi w n.toNat = .ok j ∧ j ≠ 1) ∧
    (0 < w ∧ w < n) ∧ Int.gcd w n = 1 ∧
    (∀ z ∈ zs, 0 < z ∧ z < n) ∧ (∀ x ∈ xs, 0 < x ∧ x < n) ∧
    bitLen a.natAbs = 81 ∧ bitLen b.natAbs = 81 ∧
    ∃ ys, modYs H sess w n 80 [] = .ok ys ∧ ys.length = 80 ∧ ∀ i, i < 80 →
      (zs.getD i 0) ^ n.toNat ≡ ys.getD i 0 [ZMOD n] ∧
      (xs.getD i 0) ^ 4 ≡
        (-1) ^ (a.natAbs.testBit i).toNat * w ^ (b.natAbs.testBit i).toNat * ys.getD i 0 [ZMOD n] := by
  obtain ⟨⟨hn, hodd⟩, -, j, hj, hj1, hw, hg, hzs, hxs, -, ha, hb, ys, hys, ⟨-, hpp⟩, hall⟩ :=
    (modVerify_eq_true_iff H sess w xs a b zs n).1 h
  have hn0 : n.toNat ≠ 0 := by omega
  have hnc : ((n.toNat : Nat) : Int) = n := Int.toNat_of_nonneg (le_of_lt hn)
  refine ⟨hn, by omega, hpp, ⟨j, hj, hj1⟩, hw, ?_, hzs, hxs, ha, hb, ys, hys, ?_, fun i hi => ?_⟩
  · rw [Int.gcd_eq_natAbs]
    have e1 : w.natAbs = w.toNat := by omega
    have e2 : n.natAbs = n.toNat := by omega
    rw [e1, e2]; exact hg
  · simpa using modYs_length H sess w n 80 [] ys hys
  · obtain ⟨h1, h2⟩ := hall i hi
    rw [modPow_spec] at h1 h2
    constructor
    · have e := natpow_mod_cast (getD_nonneg (fun x hx => (hzs x hx).1.le) i) n.toNat hn
      rw [h1] at e
      exact e.symm
    · have e := natpow_mod_cast (getD_nonneg (fun x hx => (hxs x hx).1.le) i) 4 hn
      rw [h2] at e
      exact e.symm.trans
        (mod_rhs_modEq hn w (le_of_lt hw.1) (ys.getD i 0) (a.natAbs.testBit i) (b.natAbs.testBit i))

/-! ## no-small-factor proof -/

/-- acceptance of `(*ProofFac).Verify`: `N0, NCap > 0`, `0 ≤ z1, z2 < q³·⌊√N0⌋` and the three equations.
The exponents `w1, w2, σ, v` are arbitrary integers in the model (the honest `v` may be negative), so the equations
are stated multiplied through by the negative parts (`y⁺ = y.toNat`, `y⁻ = (−y).toNat`); a negative exponent
is only accepted when `t` is a unit modulo `NCap`. `fac_accept_implies_nonneg` is the plain form. -/
theorem fac_accept_implies (H : HashFn) (q : Nat) (sess : Bytes) (n0 ncap s t : Int) (pf : FacProof)
    (h : facVerify cur H q sess n0 ncap s t pf = .ok true) :
    let e := facChallenge H q sess n0 ncap s t pf
    let bound : Int := (q : Int) ^ 3 * isqrt n0.toNat
    0 < n0 ∧ 0 < ncap ∧ (0 ≤ pf.z1 ∧ pf.z1 < bound) ∧ (0 ≤ pf.z2 ∧ pf.z2 < bound) ∧
    ((pf.w1 < 0 ∨ pf.w2 < 0 ∨ pf.sigma < 0 ∨ pf.v < 0) → Int.gcd t ncap = 1) ∧
    s ^ pf.z1.toNat * t ^ pf.w1.toNat ≡ pf.A * pf.P ^ e * t ^ (-pf.w1).toNat [ZMOD ncap] ∧
    s ^ pf.z2.toNat * t ^ pf.w2.toNat ≡ pf.B * pf.Q ^ e * t ^ (-pf.w2).toNat [ZMOD ncap] ∧
    pf.Q ^ pf.z1.toNat * t ^ pf.v.toNat * (t ^ (-pf.sigma).toNat) ^ e ≡
      pf.T * (s ^ n0.toNat * t ^ pf.sigma.toNat) ^ e * t ^ (-pf.v).toNat [ZMOD ncap] := by
  intro e bound
  obtain ⟨hn0, hnc, hz1, hz2, -, x1, hx1, x2, hx2, x3, hx3, eq1, y1, hy1, y2, hy2, y3, hy3, eq2,
    r1, hr1, r2, hr2, r3, hr3, r4, hr4, r5, hr5, eq3⟩ := (facVerify_eq_true_iff H q sess n0 ncap s t pf).1 h
  have hM : ((ncap.natAbs : Nat) : Int) = ncap := natAbs_cast_of_pos hnc
  have hM0 : ncap.natAbs ≠ 0 := by omega
  have hb : ((q * q * q * isqrt n0.toNat : Nat) : Int) = bound := by
    show _ = (q : Int) ^ 3 * _; push_cast; ring
  rw [hb] at hz1 hz2
  -- a negative exponent is only accepted for a unit `t`; then the three checks, each as a congruence
  have hu := fun {y : Int} {r : Nat} (hr : goExp t y ncap.natAbs = some r) => (goExp_modEq hr).2.2.2
  have c1 := fac_check12 hM0 hz1.1 hx1 hx2 hx3 eq1
  have c2 := fac_check12 hM0 hz2.1 hy1 hy2 hy3 eq2
  have c3 := fac_check3 hM0 hn0.le hz1.1 hr1 hr2 hr3 hr4 hr5 eq3
  rw [hM] at c1 c2 c3
  refine ⟨hn0, hnc, hz1, hz2, ?_, c1, c2, c3⟩
  rintro (h0 | h0 | h0 | h0)
  · exact hM ▸ hu hx2 h0
  · exact hM ▸ hu hy2 h0
  · exact hM ▸ hu hr2 h0
  · exact hM ▸ hu hr4 h0

/-- the three equations in plain form when no exponent is negative -/
theorem fac_accept_implies_nonneg (H : HashFn) (q : Nat) (sess : Bytes) (n0 ncap s t : Int) (pf : FacProof)
    (h : facVerify cur H q sess n0 ncap s t pf = .ok true)
    (hw1 : 0 ≤ pf.w1) (hw2 : 0 ≤ pf.w2) (hsg : 0 ≤ pf.sigma) (hv : 0 ≤ pf.v) :
    let e := facChallenge H q sess n0 ncap s t pf
    s ^ pf.z1.toNat * t ^ pf.w1.toNat ≡ pf.A * pf.P ^ e [ZMOD ncap] ∧
    s ^ pf.z2.toNat * t ^ pf.w2.toNat ≡ pf.B * pf.Q ^ e [ZMOD ncap] ∧
    pf.Q ^ pf.z1.toNat * t ^ pf.v.toNat ≡ pf.T * (s ^ n0.toNat * t ^ pf.sigma.toNat) ^ e [ZMOD ncap] := by
  intro e
  obtain ⟨-, -, -, -, -, e1, e2, e3⟩ := fac_accept_implies H q sess n0 ncap s t pf h
  have h1 : (-pf.w1).toNat = 0 := by omega
  have h2 : (-pf.w2).toNat = 0 := by omega
  have h3 : (-pf.sigma).toNat = 0 := by omega
  have h4 : (-pf.v).toNat = 0 := by omega
  rw [h1, pow_zero, mul_one] at e1
  rw [h2, pow_zero, mul_one] at e2
  rw [h3, h4, pow_zero, one_pow, mul_one, mul_one] at e3
  exact ⟨e1, e2, e3⟩

/-! ## discrete-log proof over the auxiliary modulus -/

/-- acceptance of `(*dlnproof.Proof).Verify`: `N > 0`, `h1, h2, α_i, t_i` all `> 1` modulo `N`, `h1 ≢ h2`, and for each of
the 128 challenge bits `c_i`: `h1^{t_i} ≡ α_i · h2^{c_i} (mod N)`. (`t_i` is an `Int` in the model; a negative one goes
through `ModInverse`, so the equation carries the factor `h1^{t_i⁻}`, which is `1` for `t_i ≥ 0`.) -/
theorem dln_accept_implies (H : HashFn) (alpha t : List Int) (h1 h2 n : Int)
    (h : dlnVerify H alpha t h1 h2 n = .ok true) :
    let c := dlnChallenge H h1 h2 n alpha
    0 < n ∧ 1 < h1 % n ∧ 1 < h2 % n ∧ h1 % n ≠ h2 % n ∧ (∀ a ∈ alpha, 1 < a % n) ∧ (∀ x ∈ t, 1 < x % n) ∧
    ∀ i, i < 128 →
      (t.getD i 0 < 0 → Int.gcd h1 n = 1) ∧
      h1 ^ (t.getD i 0).toNat ≡
        alpha.getD i 0 * h2 ^ (c.testBit i).toNat * h1 ^ (-(t.getD i 0)).toNat [ZMOD n] := by
  intro c
  obtain ⟨hn, hh1, hh2, hne, ht, ha, h⟩ := (dlnVerify_eq_true_iff H).1 h
  refine ⟨hn, hh1, hh2, hne, ha, ht, fun i hi => ?_⟩
  obtain ⟨r, hr, hl⟩ := dlnStep_eq_true_iff.1 (h i hi)
  have hM : ((n.toNat : Nat) : Int) = n := Int.toNat_of_nonneg (le_of_lt hn)
  have hM0 : n.toNat ≠ 0 := by omega
  obtain ⟨-, -, gl, ul⟩ := goExp_modEq hl
  have er := goExp_modEq_nonneg (by split <;> omega) hr
  have el := toNat_emod_cast (alpha.getD i 0 * (r : Int)) hM0
  rw [hM] at gl ul er el
  refine ⟨ul, ?_⟩
  have hbit : (if (dlnChallenge H h1 h2 n alpha).testBit i = true then (1 : Int) else 0).toNat = (c.testBit i).toNat := by
    show _ = ((dlnChallenge H h1 h2 n alpha).testBit i).toNat
    cases (dlnChallenge H h1 h2 n alpha).testBit i <;> rfl
  rw [hbit] at er
  exact gl.symm.trans ((el.trans (er.mul_left _)).mul_right _)

/-- plain form when the responses are non-negative (as every value read from the wire is) -/
theorem dln_accept_implies_nonneg (H : HashFn) (alpha t : List Int) (h1 h2 n : Int)
    (h : dlnVerify H alpha t h1 h2 n = .ok true) (ht : ∀ x ∈ t, 0 ≤ x) :
    ∀ i, i < 128 →
      h1 ^ (t.getD i 0).toNat ≡ alpha.getD i 0 * h2 ^ ((dlnChallenge H h1 h2 n alpha).testBit i).toNat [ZMOD n] := by
  intro i hi
  have := ((dln_accept_implies H alpha t h1 h2 n h).2.2.2.2.2.2 i hi).2
  have h0 : (-(t.getD i 0)).toNat = 0 := by have := getD_nonneg ht i; omega
  rwa [h0, pow_zero, mul_one] at this

/-! ## exact extraction steps -/
section extraction
variable {P : Type} (C : Curve P)

/-- **special soundness**: two accepting Schnorr transcripts `(α, c, t)`, `(α, c', t')` with the same commitment and
different challenges determine the discrete logarithm of `X`: `X = ((t − t')·(c − c')⁻¹ mod q)·G`.
`hX` (the point lies in the subgroup of order `q`) cannot be dropped on a curve with cofactor: there
`(c − c')·X = (t − t')·G` leaves the small-order component of `X` undetermined whenever it is killed by `c − c'`. -/
theorem schnorr_special_sound (hC : C.Lawful) {pX pA : P} {t t' c c' : Nat}
    (hX : C.smul C.q pX = C.zero) (hc : c < C.q) (hc' : c' < C.q) (hne : c ≠ c')
    (e1 : C.smul t C.base = C.add pA (C.smul c pX)) (e2 : C.smul t' C.base = C.add pA (C.smul c' pX)) :
    pX = C.smul ((((t : ZMod C.q) - t') * ((c : ZMod C.q) - c')⁻¹).val) C.base := by
  let _ := hC.groupLaws.addCommGroup
  rw [hC.smul_eq_nsmul] at hX e1 e2 ⊢
  rw [hC.smul_eq_nsmul] at e1 e2
  have hg : C.q • C.base = (0 : P) := by
    have := hC.smul_q_base
    rwa [hC.smul_eq_nsmul] at this
  exact special_sound_group hC.q_prime hg hX hc hc' hne e1 e2

/-- the same, starting from two accepting runs of `schnorrVerify` (any two hashes and sessions) on the same `X`, `α` -/
theorem schnorr_two_transcripts (hC : C.Lawful) (H H' : HashFn) (sess sess' : Bytes) (X alpha : ECPoint) (t t' : Nat)
    (h : schnorrVerify C H cur sess X alpha t = .ok true)
    (h' : schnorrVerify C H' cur sess' X alpha t' = .ok true)
    (hne : schnorrChallenge C H sess X alpha ≠ schnorrChallenge C H' sess' X alpha)
    (hord : ∀ pX, C.lift X = some pX → C.smul C.q pX = C.zero) :
    ∃ pX, C.lift X = some pX ∧
      pX = C.smul ((((t : ZMod C.q) - t') *
        ((schnorrChallenge C H sess X alpha : ZMod C.q) - schnorrChallenge C H' sess' X alpha)⁻¹).val) C.base := by
  obtain ⟨-, -, pX, pA, hX, hA, e1⟩ := schnorr_accept_implies C hC H sess X alpha t h
  obtain ⟨-, -, pX', pA', hX', hA', e2⟩ := schnorr_accept_implies C hC H' sess' X alpha t' h'
  rw [hX] at hX'; cases hX'
  rw [hA] at hA'; cases hA'
  have lt : ∀ (H : HashFn) (s : Bytes), schnorrChallenge C H s X alpha < C.q := fun H s =>
    Nat.mod_lt _ hC.q_pos
  exact ⟨pX, hX, schnorr_special_sound C hC (hord pX hX) (lt H sess) (lt H' sess') hne e1 e2⟩

end extraction

/-- **both challenge bits at one index**: from `h1^t ≡ α` and `h1^{t'} ≡ α·h2 (mod N)` follows `h1^{t'} ≡ h1^t · h2`,
and for a unit `α` and `t ≤ t'`: `h2 ≡ h1^{t'−t}` — `h2` lies in the subgroup generated by `h1` -/
theorem dln_both_bits_extract {n h1 h2 a : Int} {t t' : Nat}
    (e0 : h1 ^ t ≡ a [ZMOD n]) (e1 : h1 ^ t' ≡ a * h2 [ZMOD n]) :
    h1 ^ t' ≡ h1 ^ t * h2 [ZMOD n] ∧ (t ≤ t' → Int.gcd a n = 1 → h2 ≡ h1 ^ (t' - t) [ZMOD n]) := by
  refine ⟨e1.trans (e0.mul_right h2).symm, fun htt hg => ?_⟩
  have hp : h1 ^ t' = h1 ^ t * h1 ^ (t' - t) := by rw [← pow_add]; congr 1; omega
  have h3 : a * h1 ^ (t' - t) ≡ a * h2 [ZMOD n] := by
    rw [hp] at e1
    exact (e0.mul_right _).symm.trans e1
  have hd : n ∣ a * (h2 - h1 ^ (t' - t)) := by
    have := Int.modEq_iff_dvd.1 h3
    rwa [← mul_sub] at this
  have hco : IsCoprime n a := by
    rw [Int.isCoprime_iff_gcd_eq_one, Int.gcd_comm]; exact hg
  exact (Int.modEq_iff_dvd.2 (hco.dvd_of_dvd_mul_left hd)).symm

/-! ## range bounds: what the interval checks reject -/

/-- `s1 ≤ q³` bounds the plaintext: if `s1 = e·m + α` over the integers with `e ≥ 1`, `α ≥ 0` then `m ≤ q³` -/
theorem range_accept_bounds_plaintext (H : HashFn) (q : Nat) (n ntilde h1 h2 c : Int) (pf : RangeProof)
    (h : rangeVerify cur H q n ntilde h1 h2 c pf = .ok true) {e m α : Int}
    (hs : pf.s1 = e * m + α) (hα : 0 ≤ α) (he : 1 ≤ e) : m ≤ (q : Int) ^ 3 := by
  have hs1 := (range_accept_implies H q n ntilde h1 h2 c pf h).2.2.2.2.2.2.2.2.2.2.1
  exact le_of_mul_add_le hs hα he hs1 (by positivity)

/-- **a plaintext beyond `q³` is rejected**: the proof that `ProveRangeAlice` (any hash `H`, any coins) builds for
`m > q³` is accepted by no verifier call (any hash `H'`, any public inputs) for the same `q`, unless the prover's own
challenge was `0` -/
theorem range_rejects_large_plaintext (H H' : HashFn) (q n c ntilde h1 h2 m r alpha beta gamma rho : Nat)
    (pf : RangeProof) (hp : rangeProve H q n c ntilde h1 h2 m r alpha beta gamma rho = .ok pf)
    (hm : q ^ 3 < m) (he : 1 ≤ rangeChallenge H q n c pf.z pf.u pf.w)
    (n' ntilde' h1' h2' c' : Int) : rangeVerify cur H' q n' ntilde' h1' h2' c' pf ≠ .ok true := by
  intro h
  -- the conjunct `pf.s1 ≤ q ^ 3`
  have hs1 := (range_accept_implies H' q n' ntilde' h1' h2' c' pf h).2.2.2.2.2.2.2.2.2.2.1
  unfold rangeProve at hp
  injection hp with hp
  subst hp
  dsimp only at hs1 he
  have := lt_response (α := alpha) hm he
  push_cast at this hs1
  omega

section bobrej
variable {P : Type} (C : Curve P)

/-- **a multiplier beyond `q³` is rejected**: the proof `ProveBob`/`ProveBobWC` builds for `x > q³` is accepted by no
verifier call on the same curve, unless the prover's own challenge was `0` -/
theorem bob_rejects_large_multiplier (H H' : HashFn) (sess sess' : Bytes) (n ntilde h1 h2 c1 c2 x y r : Nat)
    (X : Option ECPoint) (k : BobCoins) (pf : BobProof) (u : Option ECPoint)
    (hp : bobProve C H sess n ntilde h1 h2 c1 c2 x y r X k = .ok (pf, u))
    (hx : C.q ^ 3 < x) (he : 1 ≤ bobChallenge C H sess n c1 c2 (proverXU X u) pf)
    (n' ntilde' h1' h2' c1' c2' : Int) (xu' : Option (ECPoint × ECPoint)) :
    bobVerify C H' cur sess' n' ntilde' h1' h2' c1' c2' pf xu' ≠ .ok true := by
  intro h
  -- the conjunct `pf.s1 ≤ q ^ 3`
  have hs1 := (bob_accept_implies C H' sess' n' ntilde' h1' h2' c1' c2' pf xu' h).2.2.2.2.2.2.2.2.2.2.2.2.2.2.2.2.2.2.1
  rw [(bobProve_s1_t1 C H sess n ntilde h1 h2 c1 c2 x y r X k pf u hp).1] at hs1
  have := lt_response (α := k.alpha) hx he
  push_cast at this hs1
  omega

/-- **a mask beyond `q⁷` is rejected** -/
theorem bob_rejects_large_mask (H H' : HashFn) (sess sess' : Bytes) (n ntilde h1 h2 c1 c2 x y r : Nat)
    (X : Option ECPoint) (k : BobCoins) (pf : BobProof) (u : Option ECPoint)
    (hp : bobProve C H sess n ntilde h1 h2 c1 c2 x y r X k = .ok (pf, u))
    (hy : C.q ^ 7 < y) (he : 1 ≤ bobChallenge C H sess n c1 c2 (proverXU X u) pf)
    (n' ntilde' h1' h2' c1' c2' : Int) (xu' : Option (ECPoint × ECPoint)) :
    bobVerify C H' cur sess' n' ntilde' h1' h2' c1' c2' pf xu' ≠ .ok true := by
  intro h
  -- the conjunct `pf.t1 ≤ q ^ 7`
  have ht1 := (bob_accept_implies C H' sess' n' ntilde' h1' h2' c1' c2' pf xu' h).2.2.2.2.2.2.2.2.2.2.2.2.2.2.2.2.2.2.2.2.2.1
  rw [(bobProve_s1_t1 C H sess n ntilde h1 h2 c1 c2 x y r X k pf u hp).2] at ht1
  have := lt_response (α := k.gamma) hy he
  push_cast at this ht1
  omega

end bobrej

/-- **meaning of the `facproof` bound**: acceptance gives `z1, z2 < q³·⌊√N0⌋` (`isqrt` is the model of `big.Int.Sqrt`).
For an honest response `z = e·p + α` (`α ≥ 0` the mask) this bounds `e·p`, hence `p < q³·⌊√N0⌋` as soon as `e ≥ 1`, and
`p < q²·√N0` for a typical challenge `e ≈ q`. So the check only excludes a factor more than about `q²` above `√N0`,
equivalently a cofactor more than `q²` below it: with `|q| = 256` a factor just above `√N0 / 2^512` can pass, and the
ratio of two passing factors can be as large as `q⁴`. This slack is inherent in the proof system as published (the
interval is `√N0 · 2^{ℓ+ε}` with `ℓ = |q|`, `ε = 2|q|`, which the code writes as `q³·√N0`); it is not a defect of
the code. -/
theorem fac_bound_meaning (H : HashFn) (q : Nat) (sess : Bytes) (n0 ncap s t : Int) (pf : FacProof)
    (h : facVerify cur H q sess n0 ncap s t pf = .ok true) :
    let bound : Int := (q : Int) ^ 3 * isqrt n0.toNat
    pf.z1 < bound ∧ pf.z2 < bound ∧
    (∀ e p α : Int, pf.z1 = e * p + α → 0 ≤ α → e * p < bound ∧ (1 ≤ e → p < bound)) ∧
    (∀ e p α : Int, pf.z2 = e * p + α → 0 ≤ α → e * p < bound ∧ (1 ≤ e → p < bound)) := by
  intro bound
  obtain ⟨-, -, ⟨hz10, hz1⟩, ⟨hz20, hz2⟩, -⟩ := fac_accept_implies H q sess n0 ncap s t pf h
  have key : ∀ z e p α : Int, z < bound → 0 ≤ z → z = e * p + α → 0 ≤ α →
      e * p < bound ∧ (1 ≤ e → p < bound) := by
    intro z e p α hz hz0 hs hα
    refine ⟨by omega, fun he => ?_⟩
    have := le_of_mul_add_le hs hα he (le_refl z) hz0
    omega
  exact ⟨hz1, hz2, fun e p α => key _ e p α hz1 hz10, fun e p α => key _ e p α hz2 hz20⟩

/-! ## the Paillier key proof (`paillier.Proof`) -/

/-- acceptance of `Proof.Verify`: the modulus is positive, no prime below 1000 divides it, the proof has 13 entries
and `y_i^N ≡ x_i (mod N)` for the 13 values `x_i` of `GenerateXs` (an `N`-th root of 13 hash-derived units exists only
if `gcd(N, φ(N)) = 1`, up to probability; that statistical step is not stated) -/
theorem paillierProof_accept_implies (cfg : ProofCfg) (H : HashFn) (pf : List Int) (pkN k : Int) (pub : ECPoint)
    (h : proofVerify cfg H pf pkN k pub = .ok true) :
    0 < pkN ∧ (∀ p : Nat, p.Prime → p < 1000 → ¬ (p : Int) ∣ pkN) ∧ pf.length = 13 ∧
    ∃ xs, generateXs H 13 k pkN pub = some xs ∧
      ∀ i, i < 13 → (pf.getD i 0) ^ pkN.toNat ≡ xs.getD i 0 [ZMOD pkN] := by
  obtain ⟨hsp, xs, hxs, hlen, h⟩ := (proofVerify_eq_true_iff cfg H pf pkN k pub).1 h
  have hpos : 0 < pkN := generateXs_some_pos (by decide) hxs
  refine ⟨hpos, fun p hp hlt hd => ?_, hlen, xs, hxs, fun i hi => ?_⟩
  · rw [List.any_eq_false] at hsp
    exact hsp p ((mem_smallPrimes_iff p).2 ⟨hp, hlt⟩) (by rw [beq_iff_eq]; exact Int.emod_eq_zero_of_dvd hd)
  · obtain ⟨y, hy, hxy⟩ := h i hi
    have e := goExp_modEq_nonneg (le_of_lt hpos) hy
    rw [natAbs_cast_of_pos hpos, ← hxy] at e
    exact e.symm.trans (Int.mod_modEq _ _)

/-- `smallPrimes` is exactly the set of primes below 1000 -/
theorem smallPrimes_spec (p : Nat) : p ∈ smallPrimes ↔ p.Prime ∧ p < 1000 := mem_smallPrimes_iff p

/-! ## Paillier operations refuse values outside their domain -/

/-- re-export of `C14.guards`: `Encrypt`, `HomoMult`, `HomoAdd`, `Decrypt` report an error exactly for out-of-range
(or, for `Decrypt`, non-unit) input; none of them wraps a value modulo `N` or `N²` -/
theorem paillier_guards (n : Nat) (sk : Paillier.PrivateKey) (m c c1 c2 : Int) (x : Nat) :
    ((∃ t, Paillier.encryptWith n m x = .err t) ↔ (m < 0 ∨ m ≥ n)) ∧
    ((∃ t, Paillier.homoMult n m c1 = .err t) ↔ (m < 0 ∨ m ≥ n ∨ c1 < 0 ∨ c1 ≥ (n * n : Nat))) ∧
    ((∃ t, Paillier.homoAdd n c1 c2 = .err t) ↔
      (c1 < 0 ∨ c1 ≥ (n * n : Nat) ∨ c2 < 0 ∨ c2 ≥ (n * n : Nat))) ∧
    ((∃ t, Paillier.decrypt sk c = .err t) ↔
      (c < 0 ∨ c ≥ (sk.n * sk.n : Nat) ∨ Nat.gcd c.toNat (sk.n * sk.n) > 1)) :=
  C14.guards n sk m c c1 c2 x

/-! ## the hypotheses are satisfiable: every verifier accepts some proof

Each `example` runs the model's prover on toy numbers with a trivial hash and the kernel evaluates the verifier to
`.ok true` (`decide`). Moduli: `N = 899 = 29·31`, `Ñ = 77 = 7·11` with `h1 = 2`, `h2 = 4`, curve order `q = 5`. -/

/-- a trivial "hash": every digest is the byte `3` (the theorems hold for every `H`) -/
def H0 : HashFn := fun _ => [3]
/-- a second one, to obtain a different challenge -/
def H1 : HashFn := fun _ => [4]
theorem fact5 : Fact (Nat.Prime 5) := ⟨by norm_num⟩
attribute [local instance] fact5
/-- the lawful toy curve `ℤ/5` in the exponent representation (`Lemmas/CurveLaw.lean`) -/
def C5 : Curve (ZMod 5) := @zmodCurve 5 fact5

theorem C5_lawful : C5.Lawful := @zmodCurve_lawful 5 fact5

/-- Alice's range proof for the plaintext `2` encrypted as `105075 = Enc(2; 2)` -/
example : ((rangeProve H0 5 899 105075 77 2 4 2 2 10 3 5 6).bind fun pf =>
    rangeVerify cur H0 5 899 77 2 4 105075 pf) = .ok true := by decide

/-- Bob's proof without and with the point check: `c2 = c1^2 · Enc(4; 2)`, `X = 2·G` -/
example : ((bobProve C5 H0 [] 899 77 2 4 105075 798099 2 4 2 none ⟨10, 3, 4, 5, 6, 3, 20⟩).bind fun (pf, _) =>
    bobVerify C5 H0 cur [] 899 77 2 4 105075 798099 pf none) = .ok true := by decide

example : ((bobProve C5 H0 [] 899 77 2 4 105075 798099 2 4 2 (some (2, 0)) ⟨10, 3, 4, 5, 6, 3, 20⟩).bind fun (pf, u) =>
    bobVerify C5 H0 cur [] 899 77 2 4 105075 798099 pf (u.map fun U => ((2, 0), U))) = .ok true := by decide

set_option maxRecDepth 100000 in
/-- the Paillier-Blum proof for `N = 77 = 7·11` with the non-residue `W = 2` -/
example : ((modProve H0 [] 77 7 11 2).bind fun (w, xs, a, b, zs) =>
    modVerify cur H0 [] w (xs.map Int.ofNat) a b (zs.map Int.ofNat) 77) = .ok true :=
  C10L.mod_complete_77'

/-- the no-small-factor proof for `N0 = 77`, `NCap = 899`, `s = 4`, `t = 2` (the response `v` is `−63`) -/
example : ((facProve H0 5 [] 77 899 4 2 7 11 ⟨10, 11, 3, 4, 5, 6, 7, 8⟩).bind fun pf =>
    facVerify cur H0 5 [] 77 899 4 2 pf) = .ok true := by decide

set_option maxRecDepth 100000 in
/-- the discrete-log proof for `h2 = 16 = h1^2`, `h1 = 4` modulo `77` -/
example : ((dlnProve H0 4 16 2 3 5 77 (List.replicate 128 2)).bind fun (al, t) =>
    dlnVerify H0 (al.map Int.ofNat) (t.map Int.ofNat) 4 16 77) = .ok true :=
  C10L.dln_complete_aux H0 4 16 2 3 5 77 (List.replicate 128 2) (by decide) (by simp [dlnIterations]) (by decide)
    (by decide) (by decide +kernel)

/-- Schnorr for `X = 2·G` and Schnorr-V for `V = 1·R + 1·G`, `R = 2·G` -/
example : ((schnorrProve C5 H0 [] 2 (2, 0) 3).bind fun (al, t) =>
    schnorrVerify C5 H0 cur [] (2, 0) al t) = .ok true := by decide

example : ((schnorrVProve C5 H0 [] (3, 0) (2, 0) 1 1 1 1).bind fun (al, t, u) =>
    schnorrVVerify C5 H0 cur [] (3, 0) (2, 0) al t u) = .ok true := by decide

/-- `1009·1013` has no prime factor below 1000 (from the primality of the two factors, so that the run of
`proofVerify` below does not evaluate the trial-division table) -/
theorem no_small_factor_1009_1013 :
    smallPrimes.any (fun prm => ((1009 * 1013 : Int)) % (prm : Int) == 0) = false := by
  have h := C10L.smallPrimes_any_false (n := 1009 * 1013) fun p hp hlt hd => by
    rcases (Nat.Prime.dvd_mul hp).1 hd with h | h
    · have := (Nat.prime_dvd_prime_iff_eq hp (by norm_num : Nat.Prime 1009)).1 h; omega
    · have := (Nat.prime_dvd_prime_iff_eq hp (by norm_num : Nat.Prime 1013)).1 h; omega
  exact_mod_cast h

set_option maxRecDepth 100000 in
/-- `paillier.Proof` for `N = 1009·1013`: every `x_i` is `3`, its `N`-th root is `1008729` -/
example : proofVerify ⟨true⟩ H0 (List.replicate 13 1008729) (1009 * 1013) 1 (1, 2) = .ok true := by
  unfold proofVerify
  rw [no_small_factor_1009_1013]
  decide

/-! ### … and the extraction and rejection lemmas apply -/

theorem C5_torsion : ∀ pX : ZMod 5, C5.smul C5.q pX = C5.zero := by decide

/-- two accepting Schnorr transcripts for `X = 2·G` with the same commitment `α = 3·G` and challenges `3 ≠ 4`
(responses `4` and `1`): the extracted scalar `(4 − 1)·(3 − 4)⁻¹ mod 5` is `2` -/
example : ∃ pX, C5.lift (2, 0) = some pX ∧ pX = C5.smul 2 C5.base := by
  have := schnorr_two_transcripts C5 C5_lawful H0 H1 [] [] (2, 0) (3, 0) 4 1
    (by decide) (by decide) (by decide) (fun pX _ => C5_torsion pX)
  have c0 : schnorrChallenge C5 H0 [] (2, 0) (3, 0) = 3 := by decide
  have c1 : schnorrChallenge C5 H1 [] (2, 0) (3, 0) = 4 := by decide
  have hinv : (((3 : Nat) : ZMod 5) - ((4 : Nat) : ZMod 5))⁻¹ = 4 := inv_eq_of_mul_eq_one_right (by decide)
  have h : ((((4 : Nat) : ZMod 5) - ((1 : Nat) : ZMod 5)) * 4).val = 2 := by decide
  rw [c0, c1] at this
  change ∃ pX, _ ∧ pX = C5.smul (((((4 : Nat) : ZMod 5) - ((1 : Nat) : ZMod 5)) *
    (((3 : Nat) : ZMod 5) - ((4 : Nat) : ZMod 5))⁻¹).val) C5.base at this
  rwa [hinv, h] at this

example : (16 : Int) ≡ 4 ^ (4 - 2) [ZMOD 77] :=
  (dln_both_bits_extract (n := 77) (h1 := 4) (h2 := 16) (a := 16) (t := 2) (t' := 4) (by decide) (by decide)).2
    (by decide) (by decide)

/-- `m = 126 > 5³`: the prover's challenge is `3 ≥ 1`, the proof is rejected -/
example : ∀ pf, rangeProve H0 5 899 105075 77 2 4 126 2 10 3 5 6 = .ok pf →
    rangeVerify cur H0 5 899 77 2 4 105075 pf ≠ .ok true := fun pf hp =>
  range_rejects_large_plaintext H0 H0 5 899 105075 77 2 4 126 2 10 3 5 6 pf hp (by decide)
    (by cases hp; decide) _ _ _ _ _

example : ∀ pf u, bobProve C5 H0 [] 899 77 2 4 105075 798099 126 4 2 none ⟨10, 3, 4, 5, 6, 3, 20⟩ = .ok (pf, u) →
    bobVerify C5 H0 cur [] 899 77 2 4 105075 798099 pf none ≠ .ok true := fun pf u hp =>
  bob_rejects_large_multiplier C5 H0 H0 [] [] 899 77 2 4 105075 798099 126 4 2 none _ pf u hp (by decide)
    (by cases hp; decide) _ _ _ _ _ _ _

example : ∀ pf u, bobProve C5 H0 [] 899 77 2 4 105075 798099 2 78126 2 none ⟨10, 3, 4, 5, 6, 3, 20⟩ = .ok (pf, u) →
    bobVerify C5 H0 cur [] 899 77 2 4 105075 798099 pf none ≠ .ok true := fun pf u hp =>
  bob_rejects_large_mask C5 H0 H0 [] [] 899 77 2 4 105075 798099 2 78126 2 none _ pf u hp (by decide)
    (by cases hp; decide) _ _ _ _ _ _ _

end TssVerif.C11
