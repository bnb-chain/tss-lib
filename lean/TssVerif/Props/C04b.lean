import TssVerif.Core.Engine2
import TssVerif.Lemmas.Engine2
import TssVerif.Lemmas.Engine2Hist
import TssVerif.Lemmas.Engine2System
import TssVerif.Lemmas.Engine2Order
import TssVerif.Lemmas.Engine2Live
/-! # C04b — the hand-over discipline of resharing at the level of the round engine
(`tss/party.go` `BaseStart`/`BaseUpdate` driving `ecdsa/resharing`, `eddsa/resharing`)

"… no old share is erased, and no new member emits key material, until every new member has verified its shares
and acknowledged; if the run stops anywhere before that, every old member's key data is still intact."

Conventions. `Core/Engine2.lean` is the model of the two-committee engine (tied to the running code by the
harness after every delivery of whole resharing runs). `tbl : List RSpec` is *any* per-role round table;
`P.old` / `P.new` are the tables of the two roles of protocol `P`, `tblOf P c` is `P.new` for `c = true` and
`P.old` for `c = false`; `IsLib P` says `P` is `eddsaResharing` or `ecdsaResharing`.
One party is driven by events `Ev.start pre` (the local `Start`; `pre` is the library's "a message was stored
before `Start`" flag, arbitrary here) and `Ev.deliver m` (the transport hands over *any* message: early, duplicate,
wrong flag, unknown type, any sender index, before or after `Start`); `run tbl evs p` folds the events,
`hist evs` is the list of messages delivered, `Deliv ms ty j fl` = "a message of type `ty` from index `j` with
broadcast flag `fl` is among `ms`".
`finalAck P` is the last message type of `P` (`DGRound4Message` = 5 for EdDSA, `DGRound4Message2` = 7 for ECDSA): the
acknowledgement a new member broadcasts to both committees after it has verified its shares. The final round
(round 5) of an old member erases its share and signals `end`, that of a new member saves the new key data and
signals `end`; so `ended = 1` ⟺ "has erased" resp. "has saved" (`ended_iff_final_round`).
The closed system `Reach2 P nOld nNew strict s` (`Lemmas/Engine2System.lean`): `nOld` old-role and `nNew` new-role
parties; any member may be started at any time; the network may deliver to any member a message of a type that the
member `(c, j)` (committee `c`, index `j`) has in its emission log, with the flag the tables prescribe
(`flagOf2`), any number of times, in any order, also before the recipient's `Start`. `s.logOld i` / `s.logNew i`
are ghost fields recording what has been delivered to old / new member `i`. -/
set_option autoImplicit false
namespace TssVerif.C04b
open TssVerif TssVerif.Engine2 TssVerif.E2L

/-- **Each round's messages are sent exactly once, in table order; `end` once per final round started.**
After any sequence of events whatsoever the emission log is *exactly* the canonical log of the rounds started
(`emitsUpTo`: a `once` type once, a `perNew` type `nNew` times, a `perNewOther` type `nNew - 1` times per round)
and `ended` is the number of final rounds among them. -/
theorem emits_once_in_order2 (tbl : List RSpec) (nOld nNew : Nat) (isNew : Bool) (self : Nat) (evs : List Ev) :
    (run tbl evs (fresh nOld nNew isNew self)).rnd ≤ tbl.length ∧
    (run tbl evs (fresh nOld nNew isNew self)).out = emitsUpTo tbl nNew (run tbl evs (fresh nOld nNew isNew self)).rnd ∧
    (run tbl evs (fresh nOld nNew isNew self)).ended = endsUpTo tbl (run tbl evs (fresh nOld nNew isNew self)).rnd := by
  have h := canon_run (tbl := tbl) evs (canon_fresh tbl nOld nNew isNew self)
  rw [Canon, run_nNew] at h
  exact h

/-- **A round advances only when its requirements are met.** Whenever the update loop advances, every old index
`j < nOld` is marked ok or has every message the current round needs from old members stored with the required
flag (and the round does need something from them), and likewise every new index `j < nNew`. -/
theorem advance_requires2 (tbl : List RSpec) (p p' : Party) (hs : step tbl p = some p') :
    ∃ r, tbl[p.rnd - 1]? = some r ∧
      (∀ j, j < p.nOld → p.okOld j = true ∨ (r.final = false ∧ r.needsOld ≠ [] ∧ sat r.needsOld p.store j = true)) ∧
      (∀ j, j < p.nNew → p.okNew j = true ∨ (r.final = false ∧ r.needsNew ≠ [] ∧ sat r.needsNew p.store j = true)) ∧
      ((p'.rnd = p.rnd + 1 ∧ p'.done = false) ∨ (p'.rnd = p.rnd ∧ p'.done = true ∧ p.rnd = tbl.length)) :=
  advance_requires tbl p p' hs

/-- **After every `Update` the party is at the furthest round its store allows**: no further productive step is
possible and the scan of the current round is already recorded. -/
theorem update_fixpoint2 (tbl : List RSpec) (m : Msg) (p : Party) :
    step tbl (deliver tbl m p) = none ∧ rest tbl (deliver tbl m p) = deliver tbl m p :=
  settled_deliver tbl m p

/-- the same after a `Start` that found stored messages (`pre = true`) -/
theorem start_fixpoint2 (tbl : List RSpec) (p : Party) (h0 : p.rnd = 0) :
    step tbl (start tbl true p) = none ∧ rest tbl (start tbl true p) = start tbl true p :=
  settled_start_true (settled_of_not_started (Or.inl h0))

/-- a `Start` that found nothing stored (`pre = false`) scans once and does not run the loop: an old member of the
resharing protocols then sits in round 1 although it could advance (it does on the first delivery) -/
example : (step eddsaResharing.old (start eddsaResharing.old false (fresh 2 2 false 0))).isSome = true ∧
    (start eddsaResharing.old false (fresh 2 2 false 0)).rnd = 1 ∧
    (deliver eddsaResharing.old ⟨0, 0, ⟨true, 0⟩⟩ (start eddsaResharing.old false (fresh 2 2 false 0))).rnd = 2 := by decide

/-! Order and multiplicity of deliveries.

`Good tbl self m`: `m` carries the flag every round of `tbl` that needs its type (from either committee) requires,
and it is not for a slot the party's own `Start` writes (own index *and* a type the party stores itself). -/

/-- **Local confluence**: two good messages for different slots may be delivered in either order, in any state. -/
theorem local_confluence2 (tbl : List RSpec) (a b : Msg) (p : Party)
    (ha : Good tbl p.self a) (hb : Good tbl p.self b) (hne : ¬ (a.ty = b.ty ∧ a.frm = b.frm)) :
    deliver tbl a (deliver tbl b p) = deliver tbl b (deliver tbl a p) :=
  deliver_comm tbl a b p ha hb hne

/-- **A duplicate delivery changes nothing.** -/
theorem duplicates_idempotent2 (tbl : List RSpec) (a : Msg) (p : Party) (ha : Good tbl p.self a) :
    deliver tbl a (deliver tbl a p) = deliver tbl a p :=
  deliver_dup tbl a p ha

/-- **Schedule independence**: any permutation of a slot-consistent list of good messages leads to the same state. -/
theorem schedule_independent2 (tbl : List RSpec) (ms ms' : List Msg) (p : Party) (hp : ms.Perm ms')
    (hg : GoodList tbl p.self ms) (hc : SlotConsistent ms) :
    delivers tbl ms p = delivers tbl ms' p :=
  delivers_perm tbl hp p hg hc

/-- **… up to duplicates**: the final state depends only on the *set* of messages delivered. -/
theorem schedule_independent_up_to_duplicates2 (tbl : List RSpec) (ms ms' : List Msg) (p : Party)
    (hset : ∀ m, m ∈ ms ↔ m ∈ ms') (hg : GoodList tbl p.self ms) (hc : SlotConsistent ms) :
    delivers tbl ms p = delivers tbl ms' p :=
  delivers_same_set tbl ms ms' p hset hg hc

/-- **Messages that arrive before `Start` are not lost**: delivering good messages to an un-started party and then
starting it (with the flag "something was stored" as the library computes it) gives the same state as starting it
first (nothing stored) and delivering afterwards. -/
theorem prestart_equals_poststart2 (tbl : List RSpec) (nOld nNew : Nat) (isNew : Bool) (self : Nat) (ms : List Msg)
    (hg : GoodList tbl self ms) :
    start tbl (!ms.isEmpty) (delivers tbl ms (fresh nOld nNew isNew self)) =
      delivers tbl ms (start tbl false (fresh nOld nNew isNew self)) :=
  start_delivers tbl ms (fresh nOld nNew isNew self) rfl hg

/-- `end` has been signalled once ⟺ the final round (round 5: erase resp. save) has been started; never twice -/
theorem ended_iff_final_round (P : Proto) (hP : IsLib P) (nOld nNew : Nat) (isNew : Bool) (self : Nat) (evs : List Ev) :
    let p := run (tblOf P isNew) evs (fresh nOld nNew isNew self)
    (p.ended = 1 ↔ p.rnd = 5) ∧ p.ended ≤ 1 :=
  (ended_of_ackFacts (ackFacts_of_isLib hP) isNew (canon_run evs (canon_fresh _ nOld nNew isNew self))).symm

/-- **An old member erases its share only after the final acknowledgement of EVERY new member has been delivered
to it**, with the broadcast flag — whatever else was delivered, in whatever order, before or after `Start`. -/
theorem old_final_needs_all_acks (P : Proto) (hP : IsLib P) (nOld nNew self : Nat) (evs : List Ev)
    (he : (run P.old evs (fresh nOld nNew false self)).ended = 1) :
    ∀ j, j < nNew → Deliv (hist evs) (finalAck P) j true := by
  intro j hj
  exact old_final_acks (ackFacts_of_isLib hP) (canon_run evs (canon_fresh _ _ _ _ _)) (hist_run P.old _ _ _ _ evs) he j
    (by rw [run_nNew]; exact hj)

/-- **A new member saves the new key only after the final acknowledgement of every OTHER new member has been
delivered to it** (its own acknowledgement sits in its own slot / its own flag is set by its round-4 `Start`). -/
theorem new_final_needs_all_acks (P : Proto) (hP : IsLib P) (nOld nNew self : Nat) (evs : List Ev)
    (he : (run P.new evs (fresh nOld nNew true self)).ended = 1) :
    ∀ j, j < nNew → j ≠ self → Deliv (hist evs) (finalAck P) j true := by
  intro j hj hne
  exact new_final_acks (ackFacts_of_isLib hP) (canon_run evs (canon_fresh _ _ _ _ _)) (hist_run P.new _ _ _ _ evs) he j
    (by rw [run_nNew]; exact hj) (by rw [run_self]; exact hne)

/-- … and it has emitted its own: the final acknowledgement is in the emission log from round 4 on -/
theorem new_final_has_acked (P : Proto) (hP : IsLib P) (nOld nNew self : Nat) (evs : List Ev) :
    finalAck P ∈ (run P.new evs (fresh nOld nNew true self)).out ↔ 4 ≤ (run P.new evs (fresh nOld nNew true self)).rnd :=
  ack_in_out_iff (ackFacts_of_isLib hP) (canon_run evs (canon_fresh _ _ _ _ _))

/-- **A new member acknowledges only after the share (point-to-point) and the de-commitment (broadcast) of every
old member have been delivered to it.** -/
theorem new_ack_needs_all_shares (P : Proto) (hP : IsLib P) (nOld nNew self : Nat) (evs : List Ev)
    (hack : finalAck P ∈ (run P.new evs (fresh nOld nNew true self)).out) :
    ∀ j, j < nOld → Deliv (hist evs) (shareTy P) j false ∧ Deliv (hist evs) (decomTy P) j true := by
  intro j hj
  have F := ackFacts_of_isLib hP
  have h4 := (ack_in_out_iff F (canon_run evs (canon_fresh _ _ _ _ _))).mp hack
  exact new_ack_round_shares F (hist_run P.new _ _ _ _ evs) h4 j (by rw [run_nOld]; exact hj)

/-- **No old share is erased until every new member has verified its shares and acknowledged.** In every reachable
state, if some old member has started its final round (`ended = 1`: share erased), then EVERY new member has emitted
its final acknowledgement. -/
theorem erase_after_all_acks (P : Proto) (hP : IsLib P) (nOld nNew : Nat) (strict : Bool) (s : Sys2)
    (hr : Reach2 P nOld nNew strict s) (i : Nat) (he : (s.old i).ended = 1) :
    ∀ j, j < nNew → finalAck P ∈ (s.new j).out :=
  erase_after_all_acks_inv (ackFacts_of_isLib hP) (reach2_inv hr) he

/-- **No new member saves (emits) key material until every new member has acknowledged.** -/
theorem save_after_all_acks (P : Proto) (hP : IsLib P) (nOld nNew : Nat) (strict : Bool) (s : Sys2)
    (hr : Reach2 P nOld nNew strict s) (i : Nat) (he : (s.new i).ended = 1) :
    ∀ j, j < nNew → finalAck P ∈ (s.new j).out :=
  save_after_all_acks_inv (ackFacts_of_isLib hP) (reach2_inv hr) he

/-- **A new member acknowledges only after it has received — from every old member, who did send them — its share
and the de-commitment**: the acknowledgement is in its emission log only if it has started round 4, and then a
share message (point-to-point) and a de-commitment message (broadcast) from EVERY old index were delivered to it
before, and every old member has these types in its own emission log. -/
theorem ack_after_shares (P : Proto) (hP : IsLib P) (nOld nNew : Nat) (strict : Bool) (s : Sys2)
    (hr : Reach2 P nOld nNew strict s) (i : Nat) (hack : finalAck P ∈ (s.new i).out) :
    4 ≤ (s.new i).rnd ∧ ∀ j, j < nOld →
      Deliv (s.logNew i) (shareTy P) j false ∧ Deliv (s.logNew i) (decomTy P) j true ∧
      shareTy P ∈ (s.old j).out ∧ decomTy P ∈ (s.old j).out :=
  ack_after_shares_inv (ackFacts_of_isLib hP) (reach2_inv hr) hack

/-- **If the run stops anywhere before that, every old member's key data is still intact.** Every prefix of a run is
a reachable state: in every reachable state in which some new member has NOT yet emitted its final
acknowledgement, no old member has started its final round — nothing has been erased. -/
theorem cut_leaves_old_intact (P : Proto) (hP : IsLib P) (nOld nNew : Nat) (strict : Bool) (s : Sys2)
    (hr : Reach2 P nOld nNew strict s) (j : Nat) (hj : j < nNew) (hno : finalAck P ∉ (s.new j).out) :
    ∀ i, (s.old i).ended = 0 ∧ (s.old i).rnd < 5 := fun i =>
  have F := ackFacts_of_isLib hP
  have hinv := reach2_inv hr
  not_ended_of_ne F false (hinv false i).canon fun he => hno (erase_after_all_acks_inv F hinv he j hj)

/-- … and in such a state no new member has saved key material either -/
theorem cut_no_key_material (P : Proto) (hP : IsLib P) (nOld nNew : Nat) (strict : Bool) (s : Sys2)
    (hr : Reach2 P nOld nNew strict s) (j : Nat) (hj : j < nNew) (hno : finalAck P ∉ (s.new j).out) :
    ∀ i, (s.new i).ended = 0 ∧ (s.new i).rnd < 5 := fun i =>
  have F := ackFacts_of_isLib hP
  have hinv := reach2_inv hr
  not_ended_of_ne F true (hinv true i).canon fun he => hno (save_after_all_acks_inv F hinv he j hj)

/-- **No quiescent state short of the end.** Closed system of `nOld ≥ 1` old and `nNew ≥ 1` new members in which
`Start` runs the advance loop whenever a message was stored before it (`strict = true`, as the library does).
In every reachable state, if every member of both committees has been started and every emitted message has
reached every member (other than its sender) whose table needs its type, then every member of both committees has
started the final round and has signalled `end` exactly once. -/
theorem no_deadlock2 (P : Proto) (hP : IsLib P) (nOld nNew : Nat) (hO : 0 < nOld) (hN : 0 < nNew) (s : Sys2)
    (hreach : Reach2 P nOld nNew true s) (hst : AllStarted nOld nNew s) (hq : Quiescent2 P nOld nNew s) :
    (∀ i, i < nOld → (s.old i).rnd = 5 ∧ (s.old i).ended = 1) ∧
    (∀ i, i < nNew → (s.new i).rnd = 5 ∧ (s.new i).ended = 1) := by
  have F := liveFacts_of_isLib hP
  have h := no_deadlock2_gen F hO hN hreach hst hq
  have h5 : P.old.length = 5 := (ackFacts_of_isLib hP).lenOld
  rw [h5] at h
  exact ⟨fun i hi => h false i hi, fun i hi => h true i hi⟩

/-- the same for any protocol whose tables meet `LiveFacts` (one final round in last position in both tables, equal
lengths, every non-preset requirement supplied by the committee it is on in the same round or earlier, channel
discipline, and the two wake-up conditions) -/
theorem no_deadlock2_any (P : Proto) (F : LiveFacts P) (nOld nNew : Nat) (hO : 0 < nOld) (hN : 0 < nNew) (s : Sys2)
    (hreach : Reach2 P nOld nNew true s) (hst : AllStarted nOld nNew s) (hq : Quiescent2 P nOld nNew s) :
    ∀ c i, i < csize nOld nNew c → (s.party c i).rnd = P.old.length ∧ (s.party c i).ended = 1 :=
  no_deadlock2_gen F hO hN hreach hst hq

example : finalAck eddsaResharing = 5 ∧ typeName eddsaResharing 5 = "DGRound4Message" ∧
    finalAck ecdsaResharing = 7 ∧ typeName ecdsaResharing 7 = "DGRound4Message2" := by decide
example : shareTy eddsaResharing = 3 ∧ decomTy eddsaResharing = 4 ∧ shareTy ecdsaResharing = 4 ∧
    decomTy ecdsaResharing = 5 := by decide
/-- the flags the tables prescribe: only the shares (and the ECDSA `DGRound4Message1`) are point-to-point -/
example : (List.range 6).map (flagOf2 eddsaResharing) = [true, true, true, false, true, true] ∧
    (List.range 8).map (flagOf2 ecdsaResharing) = [true, true, true, true, false, true, false, true] := by decide

/-- both library protocols have the table facts the proofs use -/
example : ∀ P, IsLib P → AckFacts P ∧ LiveFacts P := fun _ h => ⟨ackFacts_of_isLib h, liveFacts_of_isLib h⟩

def bc (ty j : Nat) : Msg := ⟨ty, j, ⟨true, 0⟩⟩
def pp (ty j : Nat) : Msg := ⟨ty, j, ⟨false, 0⟩⟩

/-- an old member of a 2+2 EdDSA resharing: a complete honest run … -/
example :
    let p := run eddsaResharing.old
      [.start false, .deliver (bc 2 0), .deliver (bc 2 1), .deliver (bc 5 0), .deliver (bc 5 1)] (fresh 2 2 false 0)
    p.rnd = 5 ∧ p.ended = 1 ∧ p.done = true ∧ p.out = [1, 3, 3, 4] := by decide
/-- … one acknowledgement missing, or on the wrong channel kind: round 4, nothing erased -/
example :
    let p := run eddsaResharing.old [.start false, .deliver (bc 2 0), .deliver (bc 2 1), .deliver (bc 5 0)] (fresh 2 2 false 0)
    p.rnd = 4 ∧ p.ended = 0 ∧ waitingFor p = ["n1"] := by decide
example :
    let p := run eddsaResharing.old
      [.start false, .deliver (bc 2 0), .deliver (bc 2 1), .deliver (bc 5 0), .deliver (pp 5 1)] (fresh 2 2 false 0)
    p.rnd = 4 ∧ p.ended = 0 ∧ waitingFor p = ["n1"] := by decide
/-- a wrong-flag copy may overwrite the slot after the flag was set: the store at the end need not hold the
acknowledgement any more, the history does (this is why `old_final_needs_all_acks` speaks about `hist`) -/
example :
    let p := run eddsaResharing.old
      [.start false, .deliver (bc 2 0), .deliver (bc 2 1), .deliver (bc 5 0), .deliver (pp 5 0), .deliver (bc 5 1)]
      (fresh 2 2 false 0)
    p.ended = 1 ∧ p.store 5 0 = some ⟨false, 0⟩ := by decide
/-- a new member (ECDSA, 2+2): everything early and before `Start`, in a scrambled order -/
example :
    let p := run ecdsaResharing.new
      [.deliver (bc 7 1), .deliver (pp 6 1), .deliver (bc 5 0), .deliver (pp 4 1), .deliver (bc 2 1), .deliver (bc 1 1),
       .deliver (bc 5 1), .deliver (pp 4 0), .deliver (bc 1 0), .start true] (fresh 2 2 true 0)
    p.rnd = 5 ∧ p.ended = 1 ∧ p.out = [3, 2, 6, 7] := by decide
example : emitsUpTo ecdsaResharing.new 3 5 = [3, 2, 6, 6, 7] ∧ emitsUpTo eddsaResharing.old 3 5 = [1, 3, 3, 3, 4] ∧
    endsUpTo eddsaResharing.old 5 = 1 ∧ endsUpTo eddsaResharing.old 4 = 0 := by decide

/-- genuine messages are `Good` -/
example : GoodList eddsaResharing.new 0 [bc 1 0, bc 1 1, pp 3 0, bc 4 0, bc 5 1] := by
  unfold GoodList Good; decide
/-- … a member's own acknowledgement coming back is not (`Start` writes that slot) -/
example : ¬ Good eddsaResharing.new 0 (bc 5 0) := by
  unfold Good; decide

/-- all deliveries of type `ty` from every member of committee `c` to every member of the new (`toNew`) or old committee
(2+2 members) -/
def allTo (toNew c : Bool) (ty : Nat) : List Act :=
  [0, 1].flatMap fun j => [0, 1].map fun i => if toNew then Act.toNew i c j ty 0 else Act.toOld i c j ty 0

/-- a complete honest schedule of a 2+2 resharing -/
def honest (P : Proto) : List Act :=
  [.startOld 0 false, .startOld 1 false, .startNew 0 false, .startNew 1 false] ++
  (if P.types.length = 5 then
    allTo true false 1 ++ allTo false true 2 ++ allTo true false 3 ++ allTo true false 4 ++ allTo false true 5 ++
    allTo true true 5
  else
    allTo true false 1 ++ allTo true true 2 ++ allTo false true 3 ++ allTo true false 4 ++ allTo true false 5 ++
    allTo true true 6 ++ allTo false true 7 ++ allTo true true 7)

/-- where the honest schedule ends, each protocol evaluated once: everybody has started, nothing is left to deliver,
everybody has ended and every new member has acknowledged -/
theorem honest_eddsa_end :
    let s := exec eddsaResharing 2 2 true (honest eddsaResharing)
    allStartedB 2 2 s = true ∧ quiescentB eddsaResharing 2 2 s = true ∧
    ((s.old 0).ended = 1 ∧ (s.old 1).ended = 1 ∧ (s.new 0).ended = 1 ∧ (s.new 1).ended = 1 ∧
      5 ∈ (s.new 0).out ∧ 5 ∈ (s.new 1).out) := by decide +kernel

theorem honest_ecdsa_end :
    let s := exec ecdsaResharing 2 2 true (honest ecdsaResharing)
    allStartedB 2 2 s = true ∧ quiescentB ecdsaResharing 2 2 s = true ∧
    ((s.old 0).ended = 1 ∧ (s.old 1).ended = 1 ∧ (s.new 0).ended = 1 ∧ (s.new 1).ended = 1 ∧
      7 ∈ (s.new 0).out ∧ 7 ∈ (s.new 1).out) := by decide +kernel

/-- the state an honest run ends in is reachable, everybody has started, it is quiescent — and everybody has ended
(so `no_deadlock2`, `erase_after_all_acks`, `save_after_all_acks` are not vacuous) -/
example : Reach2 eddsaResharing 2 2 true (exec eddsaResharing 2 2 true (honest eddsaResharing)) := reach2_exec _ _ _ _ _
set_option maxRecDepth 100000 in
example : AllStarted 2 2 (exec eddsaResharing 2 2 true (honest eddsaResharing)) ∧
    Quiescent2 eddsaResharing 2 2 (exec eddsaResharing 2 2 true (honest eddsaResharing)) :=
  ⟨allStartedB_spec honest_eddsa_end.1, quiescentB_spec honest_eddsa_end.2.1⟩
set_option maxRecDepth 100000 in
example : let s := exec eddsaResharing 2 2 true (honest eddsaResharing)
    (s.old 0).ended = 1 ∧ (s.old 1).ended = 1 ∧ (s.new 0).ended = 1 ∧ (s.new 1).ended = 1 ∧
    5 ∈ (s.new 0).out ∧ 5 ∈ (s.new 1).out := honest_eddsa_end.2.2
set_option maxRecDepth 100000 in
example : AllStarted 2 2 (exec ecdsaResharing 2 2 true (honest ecdsaResharing)) ∧
    Quiescent2 ecdsaResharing 2 2 (exec ecdsaResharing 2 2 true (honest ecdsaResharing)) :=
  ⟨allStartedB_spec honest_ecdsa_end.1, quiescentB_spec honest_ecdsa_end.2.1⟩
set_option maxRecDepth 100000 in
example : let s := exec ecdsaResharing 2 2 true (honest ecdsaResharing)
    (s.old 0).ended = 1 ∧ (s.old 1).ended = 1 ∧ (s.new 0).ended = 1 ∧ (s.new 1).ended = 1 ∧
    7 ∈ (s.new 0).out ∧ 7 ∈ (s.new 1).out := honest_ecdsa_end.2.2

/-- a cut: the run stops after new member 0 has acknowledged to everybody and before new member 1 has received its
shares from old member 1 — new member 1 has not acknowledged, and (as `cut_leaves_old_intact` says) no old member
has erased, although old member 0 already holds the acknowledgement of new member 0 -/
def cutRun : List Act :=
  [.startOld 0 false, .startOld 1 false, .startNew 0 false, .startNew 1 false] ++
  allTo true false 1 ++ allTo false true 2 ++
  [.toNew 0 false 0 3 0, .toNew 0 false 0 4 0, .toNew 0 false 1 3 0, .toNew 0 false 1 4 0,
   .toNew 1 false 0 3 0, .toNew 1 false 0 4 0,
   .toOld 0 true 0 5 0, .toOld 1 true 0 5 0, .toNew 1 true 0 5 0]

set_option maxRecDepth 100000 in
example : let s := exec eddsaResharing 2 2 true cutRun
    5 ∈ (s.new 0).out ∧ 5 ∉ (s.new 1).out ∧ (s.new 1).rnd = 3 ∧
    (s.old 0).rnd = 4 ∧ (s.old 0).ended = 0 ∧ (s.old 1).ended = 0 ∧ (s.new 0).ended = 0 ∧
    ((s.old 0).store 5 0).isSome = true ∧ waitingFor (s.old 0) = ["n1"] := by decide +kernel

/- The executable model's string-level trace of the old-member run above (`runTrace` parses strings with
well-founded `String` functions the kernel does not evaluate, so `decide` does not apply; the `run`/`exec` examples
above evaluate the same model functions without the string layer):
`#eval runTrace eddsaResharing false 2 2 0 ["S", "D:DGRound2Message:0:b", "D:DGRound2Message:1:b", "D:DGRound4Message:0:b", "D:DGRound4Message:1:b"]`
gives `some ["1//DGRound1Message/0", "2/n1//0", "4/n0,n1/DGRound3Message1,DGRound3Message1,DGRound3Message2/0", "4/n1//0", "done///1"]`. -/

end TssVerif.C04b
