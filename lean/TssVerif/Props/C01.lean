import TssVerif.Lemmas.AlgLagrange
import TssVerif.Lemmas.AlgEcdsa
import TssVerif.Lemmas.AlgSign
import TssVerif.Lemmas.AlgToy
import Mathlib.Tactic.NormNum.Prime
/-! # C01 — threshold ECDSA signing yields one valid, canonical signature

"Threshold ECDSA signing yields one valid, canonical signature under the group key: S in the lower half,
R and S fixed-width, Signature = R||S, the echoed message equals the digest (left-padded when a full
length is requested). A digest not below the curve order is refused."

Layers (all on every `Curve.Lawful` record, any number of signers, integers of any size):
1. `lagrange_weights_sum`, `weight_isSome`, `weight_none_of_collision`: the additive re-sharing
   `w_i` of `PrepareForSigning` (`Sign.weight`) sums to the secret and is defined exactly on ids that are
   distinct modulo `q`.
2. `sigma_sum`, `sign_algebra`: the MtA share relations give `Σθ = kγ`, `Σσ = kx`, `Σs = k(m + r x)`.
3. `ecdsaFromTranscript_point`, `transcript_is_finalize`: what every signer computes from the broadcast
   transcript is `finalize` at `R = k⁻¹·G`.
4. `ecdsa_verify_of_algebra`: `(r, s)` with `s = k(m + r x)`, `r = x(k⁻¹G)` verifies under `x·G`.
5. `finalize_sound` (EVERY input), `finalize_echo`, `finalize_fullLen_too_small_panics`,
   `finalize_complete` (low-S flip keeps validity), `finalize_outcomes`.
6. `threshold_sign_valid`: 2–5 chained: the honest transcript yields `.ok d` with all the properties.

`digest_refused` (round 1 refuses `m ≥ q`) is an engine fact; there is no `Sign.round1Guard` in Core, so
it is not stated here. -/
set_option autoImplicit false
set_option linter.style.haveILetI false
namespace TssVerif.C01
open TssVerif Sign AlgL Polynomial

/-! ## 1. Lagrange weights (`PrepareForSigning`) -/

/-- **The signing weights sum to the secret.** `q` prime, `f` the sharing polynomial of degree below the
number of signers, signer ids pairwise distinct modulo `q`, signer `i` holds `xs[i] ≡ f(ks[i])`.
If every `Sign.weight` call returned a value (`ws[i]`), then `Σ ws[i] ≡ f(0) (mod q)`. -/
theorem lagrange_weights_sum {q : ℕ} [Fact q.Prime] (ks xs ws : List ℕ) (f : (ZMod q)[X])
    (hdeg : f.degree < ks.length)
    (hnd : (ks.map (· % q)).Nodup)
    (hx : ∀ i < ks.length, (xs.getD i 0 : ZMod q) = f.eval (ks.getD i 0 : ZMod q))
    (hw : ∀ i < ks.length, weight q ks i (xs.getD i 0) = some (ws.getD i 0)) :
    ∑ i ∈ Finset.range ks.length, (ws.getD i 0 : ZMod q) = f.eval 0 :=
  weights_sum ks xs ws f hdeg (injOn_of_nodup ks hnd) hx hw

/-- the same with the sum of the list `ws`, as a congruence of naturals -/
theorem lagrange_weights_sum_list {q : ℕ} [Fact q.Prime] (ks xs ws : List ℕ) (f : (ZMod q)[X])
    (hlen : ws.length = ks.length)
    (hdeg : f.degree < ks.length)
    (hnd : (ks.map (· % q)).Nodup)
    (hx : ∀ i < ks.length, (xs.getD i 0 : ZMod q) = f.eval (ks.getD i 0 : ZMod q))
    (hw : ∀ i < ks.length, weight q ks i (xs.getD i 0) = some (ws.getD i 0)) :
    ((ws.sum : ℕ) : ZMod q) = f.eval 0 ∧ ws.sum % q = (f.eval 0).val := by
  have h := lagrange_weights_sum ks xs ws f hdeg hnd hx hw
  rw [sum_range_getD_eq_list_sum ws _ hlen] at h
  exact ⟨h, by rw [← h, ZMod.val_natCast]⟩

/-- **The weight computation never meets a nil inverse** on ids pairwise distinct modulo `q`. -/
theorem weight_isSome {q : ℕ} [Fact q.Prime] (ks : List ℕ) (hnd : (ks.map (· % q)).Nodup)
    (i : ℕ) (hi : i < ks.length) (xi : ℕ) : ∃ w, weight q ks i xi = some w :=
  weight_isSome_of_nodup ks hnd hi xi

/-- … and it does (Go: nil dereference in `modQ.Mul`) as soon as another signer's id is congruent to
`ks[i]` modulo `q` — also when the two ids differ as integers, which the `Cmp` guard of
`PrepareForSigning` does not see. -/
theorem weight_none_of_collision {q : ℕ} [Fact q.Prime] (ks : List ℕ) (i j xi : ℕ)
    (hj : j < ks.length) (hji : j ≠ i) (h : ks.getD j 0 % q = ks.getD i 0 % q) :
    weight q ks i xi = none :=
  AlgL.weight_none_of_collision ks i j xi hj hji ((ZMod.natCast_eq_natCast_iff' _ _ _).2 h)

/-! ## 2. the share algebra -/

/-- `Σ_i (k_i·w_i + Σ_{j≠i}(α_ij + β_ji)) = (Σk_i)(Σw_j)` given the MtA relation
`α_ij + β_ij = k_i·w_j` for `i ≠ j` -/
theorem sigma_sum {q : ℕ} {ι : Type} [DecidableEq ι] (s : Finset ι)
    (k w : ι → ZMod q) (α β : ι → ι → ZMod q)
    (h : ∀ i ∈ s, ∀ j ∈ s, i ≠ j → α i j + β i j = k i * w j) :
    ∑ i ∈ s, (k i * w i + ∑ j ∈ s.erase i, (α i j + β j i)) = (∑ i ∈ s, k i) * (∑ j ∈ s, w j) :=
  AlgL.sigma_sum s k w α β h

/-- **from the protocol's share relations to the ECDSA equation**: with `θ_i`, `σ_i`, `s_i` computed as
in rounds 3 and 5 and `Σw_i = x`, one has `Σθ_i = kγ`, `Σσ_i = kx`, `Σs_i = k(m + r x)`
(`k = Σk_i`, `γ = Σγ_i`). -/
theorem sign_algebra {q : ℕ} {ι : Type} [DecidableEq ι] (s : Finset ι)
    (k γ w θ σ sh : ι → ZMod q) (α β μ ν : ι → ι → ZMod q) (m r x : ZMod q)
    (hαβ : ∀ i ∈ s, ∀ j ∈ s, i ≠ j → α i j + β i j = k i * γ j)
    (hμν : ∀ i ∈ s, ∀ j ∈ s, i ≠ j → μ i j + ν i j = k i * w j)
    (hθ : ∀ i ∈ s, θ i = k i * γ i + ∑ j ∈ s.erase i, (α i j + β j i))
    (hσ : ∀ i ∈ s, σ i = k i * w i + ∑ j ∈ s.erase i, (μ i j + ν j i))
    (hs : ∀ i ∈ s, sh i = m * k i + r * σ i)
    (hw : ∑ i ∈ s, w i = x) :
    ∑ i ∈ s, θ i = (∑ i ∈ s, k i) * (∑ i ∈ s, γ i) ∧
    ∑ i ∈ s, σ i = (∑ i ∈ s, k i) * x ∧
    ∑ i ∈ s, sh i = (∑ i ∈ s, k i) * (m + r * x) :=
  AlgL.sign_algebra s k γ w θ σ sh α β μ ν m r x hαβ hμν hθ hσ hs hw

/-! ## 3. the transcript function -/

variable {P : Type} {C : Curve P}

/-- `(Σθ)⁻¹·(ΣΓ_j) = k⁻¹·G` when `Σθ ≡ kγ` and `ΣΓ_j = γ·G` (`kinv` any inverse of `k` mod `q`;
`ti` the value `ModInverse` returned for `Σθ`) -/
theorem ecdsaFromTranscript_point (hC : C.Lawful) (θ k γ kinv ti : ℕ)
    (hθ : θ ≡ k * γ [MOD C.q]) (hk : k * kinv ≡ 1 [MOD C.q])
    (hti : modInverse (((θ % C.q : ℕ)) : Int) C.q = some ti) :
    C.smul ti (C.smul γ C.base) = C.smul kinv C.base := by
  haveI : Fact C.q.Prime := ⟨hC.q_prime⟩
  rw [← hC.smul_mul, hC.smul_base_eq_iff_cast]
  have e0 : (θ : ZMod C.q) * (ti : ZMod C.q) = 1 := by
    have h1 := (modInverse_specV hti).1
    have := (ZMod.intCast_eq_intCast_iff' _ _ C.q).2 h1
    push_cast at this
    exact this
  have e1 : (k : ZMod C.q) * γ * ti = 1 := by
    rw [cast_of_modEq hθ] at e0
    simpa using e0
  have e2 : (k : ZMod C.q) * kinv = 1 := by simpa using cast_of_modEq hk
  push_cast
  linear_combination (kinv : ZMod C.q) * e1 - (ti : ZMod C.q) * γ * e2

/-- **what every signer computes from the transcript is `finalize` at `R = k⁻¹·G`**, `s = Σs_j mod q`.
`hG`/`hγ`: adding the broadcast `Γ_j` succeeded and gave `γ·G` (see `gamma_sum` for when it does). -/
theorem transcript_is_finalize (hC : C.Lawful) (pub : ECPoint) (thetas ss : List ℕ)
    (g0 : ECPoint) (gs : List ECPoint) (m fullLen : ℕ) (sumG R : ECPoint) (k γ kinv : ℕ)
    (hG : gs.foldlM (fun acc g => C.ecAdd acc g) g0 = .ok sumG)
    (hγ : C.toAffine (C.smul γ C.base) = some sumG)
    (hθ : thetas.sum ≡ k * γ [MOD C.q]) (hk : k * kinv ≡ 1 [MOD C.q]) (hγ0 : γ % C.q ≠ 0)
    (hR : C.toAffine (C.smul kinv C.base) = some R) :
    ecdsaFromTranscript C pub thetas (g0 :: gs) ss m fullLen =
      ecdsaFinalize C pub R.1 R.2 (ss.sum % C.q) m fullLen := by
  obtain ⟨ti, hti⟩ := theta_inverse_isSome hC.q_prime thetas.sum k γ kinv hθ hk hγ0
  have hpt := ecdsaFromTranscript_point hC thetas.sum k γ kinv ti hθ hk hti
  unfold ecdsaFromTranscript
  simp only [foldl_add_eq_sum, Nat.zero_add]
  rw [hti]
  simp only
  rw [hG]
  simp only
  have : C.ecScalarMult sumG (ti : Int) = .ok R := by
    rw [Curve.ecScalarMult_of_lift (hC.lift_of_toAffine hγ), hpt, hR]
  rw [this]

/-- adding the points `Γ_j = γ_j·G` (`gs`, after the first one `g0 = γ_0·G`) gives `(Σγ_j)·G`, provided
no partial sum is a point without affine coordinates -/
theorem gamma_sum (hC : C.Lawful) (γ0 : ℕ) (γs : List ℕ) (g0 : ECPoint) (gs : List ECPoint)
    (h0 : C.toAffine (C.smul γ0 C.base) = some g0)
    (hgs : List.Forall₂ (fun γ g => C.toAffine (C.smul γ C.base) = some g) γs gs)
    (hpart : ∀ n, 1 ≤ n → n ≤ γs.length → C.toAffine (C.smul (γ0 + (γs.take n).sum) C.base) ≠ none) :
    ∃ r, gs.foldlM (fun acc g => C.ecAdd acc g) g0 = .ok r ∧
      C.toAffine (C.smul (γ0 + γs.sum) C.base) = some r :=
  ecAdd_fold_base hC γs gs γ0 g0 hgs h0 hpart

/-! ## 4. ECDSA correctness -/

/-- **`(r, s)` with `R = k⁻¹·G`, `r = x(R) mod q ≠ 0`, `s ≡ k(m + r·x)`, `0 < s < q` verifies under the
public key `x·G`** (the model verifier, every lawful curve). Only multiples of `G` occur, so the order
of other points plays no role; `x ≢ 0` is not needed beyond `x·G` having affine coordinates (`hpub`). -/
theorem ecdsa_verify_of_algebra (hC : C.Lawful) (x k kinv m r s Rx Ry : ℕ) (pub : ECPoint)
    (hpub : C.toAffine (C.smul x C.base) = some pub)
    (hk : k * kinv ≡ 1 [MOD C.q])
    (hR : C.toAffine (C.smul kinv C.base) = some (Rx, Ry))
    (hr : r = Rx % C.q) (hr0 : r ≠ 0)
    (hs : s ≡ k * (m + r * x) [MOD C.q]) (hs0 : 0 < s) (hsq : s < C.q) :
    ecdsaVerify C pub m r s = true := by
  haveI : Fact C.q.Prime := ⟨hC.q_prime⟩
  rw [ecdsaVerify_iff]
  have hs0' : s ≠ 0 := by omega
  obtain ⟨w, hw, _, hwc⟩ := modInverse_nat_of_lawful hC hs0' hsq
  refine ⟨hr0, hs0', by rw [hr]; exact Nat.mod_lt _ hC.q_pos, hsq, w, C.smul x C.base, Rx, Ry, hw,
    hC.lift_of_toAffine hpub, ?_, hr.symm⟩
  rw [← hR]
  congr 1
  rw [← hC.smul_mul, ← hC.smul_add, hC.smul_base_eq_iff_cast]
  have hsne : (s : ZMod C.q) ≠ 0 := natCast_ne_zero_of_pos_lt hs0' hsq
  have hs' : (s : ZMod C.q) = k * (m + r * x) := by simpa using cast_of_modEq hs
  have hk' : (k : ZMod C.q) * kinv = 1 := by simpa using cast_of_modEq hk
  push_cast [ZMod.natCast_mod]
  rw [hwc]
  have : (kinv : ZMod C.q) = ((m : ZMod C.q) + r * x) * (s : ZMod C.q)⁻¹ := by
    rw [eq_mul_inv_iff_mul_eq₀ hsne, hs']
    linear_combination ((m : ZMod C.q) + r * x) * hk'
  rw [this]
  ring

/-- the same with `k⁻¹` as `ModInverse` returns it -/
theorem ecdsa_verify_of_algebra_modInverse (hC : C.Lawful) (x k kinv m r s Rx Ry : ℕ) (pub : ECPoint)
    (hpub : C.toAffine (C.smul x C.base) = some pub)
    (hk : modInverse (k : Int) C.q = some kinv)
    (hR : C.toAffine (C.smul kinv C.base) = some (Rx, Ry))
    (hr : r = Rx % C.q) (hr0 : r ≠ 0)
    (hs : s ≡ k * (m + r * x) [MOD C.q]) (hs0 : 0 < s) (hsq : s < C.q) :
    ecdsaVerify C pub m r s = true := by
  refine ecdsa_verify_of_algebra hC x k kinv m r s Rx Ry pub hpub ?_ hR hr hr0 hs hs0 hsq
  have h1 := (modInverse_specV hk).1
  have hq1 : (1 : Int) % (C.q : Int) = 1 := Int.emod_eq_of_lt (by decide) (by exact_mod_cast hC.one_lt_q)
  unfold Nat.ModEq
  rw [Nat.mod_eq_of_lt (a := 1) hC.one_lt_q]
  have : ((k * kinv % C.q : ℕ) : Int) = 1 := by
    rw [hq1] at h1
    exact_mod_cast h1
  exact_mod_cast this

/-! ## 5. `finalize` -/

/-- **Soundness of `finalize`, for EVERY input** (honest or not) and every curve record with
`q < 2^256`: whatever it outputs is a signature that the verifier accepts on the echoed message, with
`S` in the lower half, `R`, `S` of 32 bytes each, `Signature = R ‖ S`, recovery id below 4. -/
theorem finalize_sound (C : Curve P) (hq : C.q < 2 ^ 256) (pub : ECPoint) (rx ry sumS m fullLen : ℕ)
    (d : SigData) (h : ecdsaFinalize C pub rx ry sumS m fullLen = .ok d) :
    ecdsaVerify C pub (hashToInt C.q d.m) rx (bytesToNat d.s) = true ∧
    d.signature = d.r ++ d.s ∧ d.r.length = 32 ∧ d.s.length = 32 ∧
    bytesToNat d.r = rx ∧ 0 < rx ∧ rx < C.q ∧
    0 < bytesToNat d.s ∧ bytesToNat d.s ≤ C.q / 2 ∧
    (bytesToNat d.s = sumS ∨ bytesToNat d.s = C.q - sumS) ∧ d.recid < 4 := by
  obtain ⟨_, hv, rfl⟩ := (ecdsaFinalize_eq_ok_iff C pub rx ry sumS m fullLen d).1 h
  simp only
  have hlow := lowS_lt_two_pow (q := C.q) (s := sumS) hq
  obtain ⟨hr0, hs0, hrq, _, _⟩ := (ecdsaVerify_iff C pub _ rx _).1 hv
  have hrx : rx < 2 ^ 256 := by omega
  rw [(padLeft32_natToBytesBE hlow).2, (padLeft32_natToBytesBE hrx).2]
  refine ⟨hv, trivial, (padLeft32_natToBytesBE hrx).1, (padLeft32_natToBytesBE hlow).1, rfl,
    by omega, hrq, by omega, lowS_le_half _ _, ?_, recidOf_lt _ _ _ _⟩
  unfold lowS; split <;> simp

/-- **The echoed message equals the digest**: its minimal big-endian bytes when no length is requested,
left-padded to exactly `fullLen` otherwise; in both cases its value is `m`. -/
theorem finalize_echo (C : Curve P) (pub : ECPoint) (rx ry sumS m fullLen : ℕ)
    (d : SigData) (h : ecdsaFinalize C pub rx ry sumS m fullLen = .ok d) :
    (fullLen = 0 → d.m = natToBytesBE m) ∧
    (fullLen ≠ 0 → d.m = padLeft fullLen (natToBytesBE m) ∧ d.m.length = fullLen ∧
      (natToBytesBE m).length ≤ fullLen) ∧
    bytesToNat d.m = m := by
  obtain ⟨hfl, _, rfl⟩ := (ecdsaFinalize_eq_ok_iff C pub rx ry sumS m fullLen d).1 h
  exact ⟨fun h0 => by rw [h0, padLeft_zero],
    fun h0 => ⟨rfl, padLeft_length_of_le (hfl.resolve_left h0), hfl.resolve_left h0⟩,
    by rw [bytesToNat_padLeft, C16L.bytesToNat_natToBytesBE]⟩

/-- recorded behaviour (Go `FillBytes` panic): a requested length that is non-zero and smaller than the
byte length of the digest crashes `finalize` -/
theorem finalize_fullLen_too_small_panics (C : Curve P) (pub : ECPoint) (rx ry sumS m fullLen : ℕ)
    (h0 : fullLen ≠ 0) (hlt : fullLen < (natToBytesBE m).length) :
    ecdsaFinalize C pub rx ry sumS m fullLen = .panic "fill-bytes" := by
  rw [ecdsaFinalize_eq, echo_eq, if_pos ⟨h0, hlt⟩]

/-- the three outcomes of `finalize`: the `FillBytes` crash (exactly when `0 < fullLen < len(m)`),
the error "signature verification failed", or a signature -/
theorem finalize_outcomes (C : Curve P) (pub : ECPoint) (rx ry sumS m fullLen : ℕ) :
    (ecdsaFinalize C pub rx ry sumS m fullLen = .panic "fill-bytes" ∧
        fullLen ≠ 0 ∧ fullLen < (natToBytesBE m).length) ∨
    (ecdsaFinalize C pub rx ry sumS m fullLen = .err "signature verification failed" ∧
        (fullLen = 0 ∨ (natToBytesBE m).length ≤ fullLen)) ∨
    (∃ d, ecdsaFinalize C pub rx ry sumS m fullLen = .ok d ∧
        (fullLen = 0 ∨ (natToBytesBE m).length ≤ fullLen)) := by
  by_cases hp : fullLen ≠ 0 ∧ fullLen < (natToBytesBE m).length
  · exact Or.inl ⟨finalize_fullLen_too_small_panics C pub rx ry sumS m fullLen hp.1 hp.2, hp⟩
  · have hfl : fullLen = 0 ∨ (natToBytesBE m).length ≤ fullLen := by omega
    by_cases hv : ecdsaVerify C pub (hashToInt C.q (padLeft fullLen (natToBytesBE m))) rx (lowS C.q sumS) = true
    · exact Or.inr (Or.inr ⟨_, (ecdsaFinalize_eq_ok_iff C pub rx ry sumS m fullLen _).2 ⟨hfl, hv, rfl⟩, hfl⟩)
    · refine Or.inr (Or.inl ⟨?_, hfl⟩)
      rw [ecdsaFinalize_eq, echo_eq, if_neg hp]
      simp only [hv]
      rfl

/-- the flip itself: `(r, s)` valid ⟹ `(r, q − s)` valid -/
theorem low_s_flip_valid (hC : C.Lawful) (hord : ∀ p, C.smul C.q p = C.zero) (hneg : NegX C)
    (pub : ECPoint) (m r s : ℕ) (h : ecdsaVerify C pub m r s = true) :
    ecdsaVerify C pub m r (C.q - s) = true := by
  haveI : Fact C.q.Prime := ⟨hC.q_prime⟩
  rw [ecdsaVerify_iff] at h ⊢
  obtain ⟨hr0, hs0, hrq, hsq, w, pk, x, y, hw, hpk, haff, hx⟩ := h
  have hs0' : C.q - s ≠ 0 := by omega
  have hsq' : C.q - s < C.q := by omega
  obtain ⟨w', hw', _, hwc'⟩ := modInverse_nat_of_lawful hC hs0' hsq'
  have hwc : (w : ZMod C.q) = (s : ZMod C.q)⁻¹ := by
    have := modInverse_cast hw
    rwa [Int.cast_natCast] at this
  have hww : (w' : ZMod C.q) = -(w : ZMod C.q) := by
    rw [hwc', hwc, Nat.cast_sub (le_of_lt hsq), ZMod.natCast_self, zero_sub, inv_neg]
  -- with `w' = −w` the two scalars of each point add up to `0 (mod q)`
  have hsum : ∀ a : ℕ, (a * w % C.q + a * w' % C.q) % C.q = 0 := fun a => by
    rw [← natCast_eq_zero_iff_mod]
    push_cast [ZMod.natCast_mod]
    rw [hww]; ring
  obtain ⟨y', hy'⟩ := hneg _ x y haff
  refine ⟨hr0, hs0', hrq, hsq', w', pk, x, y', hw', hpk, ?_, hx⟩
  rw [← hy', smul_eq_neg_smul hC hC.smul_q_base (hsum (m % C.q)), smul_eq_neg_smul hC (hord pk) (hsum r),
    neg_add_neg hC]

/-- **Completeness of `finalize`** on a lawful curve all of whose points are killed by `q` and where
negation keeps the x-coordinate (`NegX`): if `(rx, sumS)` verifies on the echoed bytes, `finalize`
returns a signature — the low-S flip `s ↦ q − s` keeps validity. (The echoed bytes are
`padLeft fullLen (natToBytesBE m)`, which is `natToBytesBE m` for `fullLen = 0`.) -/
theorem finalize_complete (hC : C.Lawful) (hord : ∀ p, C.smul C.q p = C.zero) (hneg : NegX C)
    (pub : ECPoint) (rx ry sumS m fullLen : ℕ)
    (hfl : fullLen = 0 ∨ (natToBytesBE m).length ≤ fullLen)
    (hv : ecdsaVerify C pub (hashToInt C.q (padLeft fullLen (natToBytesBE m))) rx sumS = true) :
    ∃ d, ecdsaFinalize C pub rx ry sumS m fullLen = .ok d := by
  refine ⟨_, (ecdsaFinalize_eq_ok_iff C pub rx ry sumS m fullLen _).2 ⟨hfl, ?_, rfl⟩⟩
  unfold lowS
  split
  · exact low_s_flip_valid hC hord hneg pub _ rx sumS hv
  · exact hv

/-- the part of completeness that needs nothing of the curve: `sumS` already in the lower half -/
theorem finalize_complete_lowS (C : Curve P) (pub : ECPoint) (rx ry sumS m fullLen : ℕ)
    (hfl : fullLen = 0 ∨ (natToBytesBE m).length ≤ fullLen) (hlow : sumS ≤ C.q / 2)
    (hv : ecdsaVerify C pub (hashToInt C.q (padLeft fullLen (natToBytesBE m))) rx sumS = true) :
    ∃ d, ecdsaFinalize C pub rx ry sumS m fullLen = .ok d := by
  refine ⟨_, (ecdsaFinalize_eq_ok_iff C pub rx ry sumS m fullLen _).2 ⟨hfl, ?_, rfl⟩⟩
  rw [show lowS C.q sumS = sumS by unfold lowS; rw [if_neg (by omega)]]
  exact hv

/-! ## 6. end to end -/

/-- **Threshold signing yields one valid canonical signature.** Key `x`, public key `x·G`;
`k = Σk_i`, `γ = Σγ_i` with `k` invertible, `γ ≢ 0`; broadcast `θ_j` with `Σθ_j ≡ kγ`; the `Γ_j` add up to
`γ·G`; `R = k⁻¹·G = (Rx, Ry)` with `0 < Rx < q` (needed: the code uses `Rx` unreduced
as `r` and the verifier rejects `r ≥ q` and `r = 0`); broadcast `s_j` with `Σs_j ≡ k(m + Rx·x)`,
`Σs_j ≢ 0`; the requested length fits, and the echoed bytes are not longer than the order
(`8·len ≤ bitLen q`, otherwise Go's `hashToInt` truncates them). Then every signer's computation
returns `.ok d`, and `d` has all the properties of `finalize_sound` and echoes `m`. -/
theorem threshold_sign_valid (hC : C.Lawful) (hord : ∀ p, C.smul C.q p = C.zero) (hneg : NegX C)
    (hq : C.q < 2 ^ 256)
    (x k γ kinv m Rx Ry : ℕ) (pub sumG g0 : ECPoint) (gs : List ECPoint) (thetas ss : List ℕ)
    (fullLen : ℕ)
    (hpub : C.toAffine (C.smul x C.base) = some pub)
    (hk : k * kinv ≡ 1 [MOD C.q]) (hγ0 : γ % C.q ≠ 0)
    (hθ : thetas.sum ≡ k * γ [MOD C.q])
    (hG : gs.foldlM (fun acc g => C.ecAdd acc g) g0 = .ok sumG)
    (hγ : C.toAffine (C.smul γ C.base) = some sumG)
    (hR : C.toAffine (C.smul kinv C.base) = some (Rx, Ry)) (hRx0 : Rx ≠ 0) (hRxq : Rx < C.q)
    (hss : ss.sum ≡ k * (m + Rx * x) [MOD C.q]) (hs0 : ss.sum % C.q ≠ 0)
    (hfl : fullLen = 0 ∨ (natToBytesBE m).length ≤ fullLen)
    (hbits : (padLeft fullLen (natToBytesBE m)).length * 8 ≤ bitLen C.q) :
    ∃ d, ecdsaFromTranscript C pub thetas (g0 :: gs) ss m fullLen = .ok d ∧
      ecdsaVerify C pub m Rx (bytesToNat d.s) = true ∧
      d.signature = d.r ++ d.s ∧ d.r.length = 32 ∧ d.s.length = 32 ∧
      bytesToNat d.r = Rx ∧ 0 < bytesToNat d.s ∧ bytesToNat d.s ≤ C.q / 2 ∧
      (bytesToNat d.s = ss.sum % C.q ∨ bytesToNat d.s = C.q - ss.sum % C.q) ∧
      d.recid < 4 ∧ bytesToNat d.m = m ∧
      (fullLen = 0 → d.m = natToBytesBE m) ∧ (fullLen ≠ 0 → d.m.length = fullLen) := by
  have hdig : hashToInt C.q (padLeft fullLen (natToBytesBE m)) = m := by
    rw [hashToInt_of_short _ _ hbits, bytesToNat_padLeft, C16L.bytesToNat_natToBytesBE]
  rw [transcript_is_finalize hC pub thetas ss g0 gs m fullLen sumG (Rx, Ry) k γ kinv hG hγ hθ hk hγ0 hR]
  have hv : ecdsaVerify C pub m Rx (ss.sum % C.q) = true :=
    ecdsa_verify_of_algebra hC x k kinv m Rx (ss.sum % C.q) Rx Ry pub hpub hk hR
      (Nat.mod_eq_of_lt hRxq).symm hRx0 ((Nat.mod_modEq _ _).trans hss) (by omega)
      (Nat.mod_lt _ hC.q_pos)
  obtain ⟨d, hd⟩ := finalize_complete hC hord hneg pub Rx Ry (ss.sum % C.q) m fullLen hfl
    (by rw [hdig]; exact hv)
  obtain ⟨h1, h2, h3, h4, h5, _, _, h8, h9, h10, h11⟩ := finalize_sound C hq pub Rx Ry _ m fullLen d hd
  obtain ⟨e1, e2, e3⟩ := finalize_echo C pub Rx Ry _ m fullLen d hd
  have hdm : d.m = padLeft fullLen (natToBytesBE m) := by
    by_cases h0 : fullLen = 0
    · rw [e1 h0, h0, padLeft_zero]
    · exact (e2 h0).1
  rw [hdm, hdig] at h1
  exact ⟨d, hd, h1, h2, h3, h4, h5, h8, h9, h10, h11, e3, e1, fun h0 => (e2 h0).2.1⟩

/-! ## Non-vacuity: a 2-of-3 signature over the proved-lawful toy curves of order 251

`f = 5 + 7X` (key `x = 5`), ids `1, 2, 3`; signers `1` and `3` hold `12`, `26`; weights `18`, `238`.
`k = 17 + 40`, `γ = 9 + 33`, `k⁻¹ = 229`. On `zmodCurveX` (negation-symmetric affine view) `R = (22, 1)`,
`s_1 + s_2 = 109 + 64 = 173 > 125`: the low-S flip is exercised. `251` has 8 bits, so one digest byte is
not truncated by `hashToInt`. -/
section examples

instance fact251 : Fact (Nat.Prime 251) := ⟨by norm_num⟩

abbrev X := zmodCurveX 251
abbrev E := zmodCurve 251

example : X.Lawful ∧ (∀ p, X.smul X.q p = X.zero) ∧ NegX X :=
  ⟨zmodCurveX_lawful 251, zmodCurveX_order 251, zmodCurveX_negX 251⟩

/-- weights of signers `1`, `3` (run of the model), they exist by the theorem, and sum to `f(0) = 5` -/
example : weight 251 [1, 3] 0 12 = some 18 ∧ weight 251 [1, 3] 1 26 = some 238 := by decide
example : ∃ w, weight 251 [1, 3] 1 26 = some w := weight_isSome [1, 3] (by decide) 1 (by decide) 26
example : ((([18, 238] : List ℕ).sum : ℕ) : ZMod 251) = (Vss.polyZ 251 [5, 7]).eval 0 :=
  (lagrange_weights_sum_list [1, 3] [12, 26] [18, 238] (Vss.polyZ 251 [5, 7]) rfl
    (lt_of_lt_of_le (Vss.polyZ_degree_lt _) (by simp)) (by decide)
    (by
      intro i hi
      have hi' : i < 2 := hi
      have := Vss.polyZ_eval_natCast (q := 251) [5, 7] ([1, 3].getD i 0)
      rw [this]
      interval_cases i <;> rfl)
    (by decide)).1
/-- ids `1` and `252` are different integers, congruent modulo `251`: nil inverse -/
example : weight 251 [1, 252] 0 12 = none :=
  weight_none_of_collision [1, 252] 0 1 12 (by decide) (by decide) (by decide)

/-- the share algebra on the concrete MtA values (`α_12 = 100, β_12 = 210, α_21 = 77, β_21 = 32`, …) -/
example :
    let k : Fin 2 → ZMod 251 := ![17, 40]
    let γ : Fin 2 → ZMod 251 := ![9, 33]
    (∑ i, (![34, 101] : Fin 2 → ZMod 251) i) = (∑ i, k i) * (∑ i, γ i) ∧
    (∑ i, (![76, 209] : Fin 2 → ZMod 251) i) = (∑ i, k i) * 5 ∧
    (∑ i, (![109, 64] : Fin 2 → ZMod 251) i) = (∑ i, k i) * (100 + 22 * 5) :=
  sign_algebra Finset.univ ![17, 40] ![9, 33] ![18, 238] ![34, 101] ![76, 209] ![109, 64]
    ![![0, 100], ![77, 0]] ![![0, 210], ![32, 0]] ![![0, 3], ![200, 0]] ![![0, 27], ![18, 0]] 100 22 5
    (by decide) (by decide) (by decide) (by decide) (by decide) (by decide)

/-- the whole chain through `threshold_sign_valid`, hypotheses discharged by evaluation -/
example : ∃ d, ecdsaFromTranscript X (5, 0) [34, 101] [(9, 0), (33, 0)] [109, 64] 100 0 = .ok d ∧
    ecdsaVerify X (5, 0) 100 22 (bytesToNat d.s) = true ∧ bytesToNat d.s ≤ 125 ∧ bytesToNat d.m = 100 := by
  obtain ⟨d, h1, h2, _, _, _, _, _, h8, _, _, h11, _⟩ :=
    threshold_sign_valid (C := X) (zmodCurveX_lawful 251) (zmodCurveX_order 251) (zmodCurveX_negX 251)
      (by decide) 5 57 42 229 100 22 1 (5, 0) (42, 0) (9, 0) [(33, 0)] [34, 101] [109, 64] 0
      (by decide) (by decide) (by decide) (by decide) (by decide) (by decide) (by decide) (by decide)
      (by decide) (by decide) (by decide) (Or.inl rfl) (by decide +kernel)
  exact ⟨d, h1, h2, h8, h11⟩

/-- and the model run agrees: `S = 251 − 173 = 78`, `R = 22`, recovery id `1 xor 1 = 0` -/
example : ecdsaFromTranscript X (5, 0) [34, 101] [(9, 0), (33, 0)] [109, 64] 100 0 =
    .ok ⟨padLeft 32 [22], padLeft 32 [78], padLeft 32 [22] ++ padLeft 32 [78], 0, [100]⟩ := by
  decide +kernel

/-- `finalize_sound` applies to it -/
example : ecdsaVerify X (5, 0) (hashToInt 251 [100]) 22 78 = true := by decide

/-- a requested length equal to the order size (1 byte here) echoes the digest in that width … -/
example : ∃ d, ecdsaFinalize X (5, 0) 22 1 173 100 1 = .ok d ∧ d.m = [100] :=
  ⟨⟨padLeft 32 [22], padLeft 32 [78], padLeft 32 [22] ++ padLeft 32 [78], 0, [100]⟩,
    by decide +kernel, rfl⟩
/-- … recorded behaviour: a requested length beyond the order size makes the verifier (Go `hashToInt`
keeps the LEFTMOST order-size bytes, here the padding) see another digest, and the honest signature
is refused — this is why `threshold_sign_valid` assumes `8·len ≤ bitLen q` -/
example : ecdsaFinalize X (5, 0) 22 1 173 100 4 = .err "signature verification failed" := by
  decide +kernel
example : hashToInt 251 (padLeft 4 (natToBytesBE 100)) = 0 := by decide +kernel
/-- … and a too small one crashes (`FillBytes`) -/
example : ecdsaFinalize X (5, 0) 22 1 173 1000 1 = .panic "fill-bytes" :=
  finalize_fullLen_too_small_panics X _ _ _ _ 1000 1 (by decide) (by decide +kernel)

/-- on `zmodCurve` (no `NegX`): same key and nonce, `R = (229, 0)`, `Σs = 28 + 155 = 183` -/
example : ecdsaVerify E (5, 0) 100 229 183 = true :=
  ecdsa_verify_of_algebra (C := E) (zmodCurve_lawful 251) 5 57 229 100 229 183 229 0 (5, 0)
    (by decide) (by decide) (by decide) (by decide) (by decide) (by decide) (by decide) (by decide)

end examples

end TssVerif.C01
