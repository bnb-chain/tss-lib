import TssVerif.Lemmas.C05
import TssVerif.Props.C01
import TssVerif.Props.C03
import TssVerif.Props.C10
import TssVerif.Props.C15
import TssVerif.Props.C16
/-! # C05 — one deviating participant: no bad output, and blame falls on the deviator only

"If one participant deviates from the protocol (sends any altered field in any message, replays another
participant's messages as its own, …), no honest participant ever outputs a signature that fails
verification, a key share inconsistent with the group key, or key data that differs from another honest
participant's. Every error an honest participant reports names no participant other than the deviating
one (or, where the protocol cannot attribute, nobody/itself), and whenever the altered value is covered by
a commitment, share check or zero-knowledge proof the reporting participant names exactly the deviating
one."

The objects are the round-level check models of `Core/Blame.lean`: `kgCheckPeer` / `kgRound3` (EdDSA key
generation round 3, `eddsa/keygen/round_3.go`: ALL failing peers are reported) and `sgCheckPeer` /
`sgRound3` (EdDSA signing round 3, `eddsa/signing/round_3.go`: the FIRST failing peer is reported). The
harness re-judges real tampered runs with the same functions.

Everything holds for every hash function `H`, every curve record `C` (with `C.Lawful` where the group is
used), every value of every field; there is no bound on the number of peers, the threshold or any integer.
Hypotheses that recur:

* `hcof : C.toAffine C.zero = none → ∀ p, C.smul C.q p = C.zero` — on a curve whose identity has no affine
  form every point is killed by `q` (cofactor 1; vacuous on edwards25519);
* `hnz : C.toAffine C.zero = none → cof % C.q ≠ 0 ∧ cofInv % C.q ≠ 0` — on such a curve the two
  cofactor-clearing scalars are prime to `q` (vacuous on edwards25519, where `cof = 8`, `cofInv = 8⁻¹ mod l`
  anyway). It is needed: `kg_clear_scalars_needed_witness`;
* `p.decommitment ≠ []` — guaranteed by `ValidateBasic` in Go.

How the sentences of the property are covered:
* "names no participant other than the deviating one": `kg_culprits_subset_peers`, `kg_never_names_self`,
  `kg_culprit_iff` (exactly the peers whose own messages fail a check), `kg_honest_peer_passes` +
  `single_deviator_blame` (honest peers never fail); `sg_error_names_first_failing_peer`,
  `sg_honest_peer_passes`, `sg_single_deviator_blame`;
* "covered by a commitment, share check or zero-knowledge proof ⇒ names exactly the deviating one":
  `kg_covered_alteration_blamed`, `single_deviator_blamed_exactly`; `sg_covered_alteration_blamed`,
  `sg_error_always_blamed` (D1 repair), `sg_single_deviator_blamed_exactly`;
* "the call returns": `kg_no_panic`, `kg_returns`, `sg_returns`, against the witnesses of the old tree
  (`kg_old_panics_witness` K8, `sg_old_nil_panics_witness` K9, `sg_old_unblamed_witness` D1);
* "no bad output": `kg_accept_consistent`, `kg_accept_on_polynomial`, `no_bad_output_*`. -/
set_option autoImplicit false
namespace TssVerif.C05
open TssVerif Blame C05L C05SgL

variable {P : Type} {C : Curve P}

/-! ## key generation round 3: who can be named -/
section kg
variable (H : HashFn) (zcfg : Zk.Cfg) (vcfg : Vss.VerifyCfg) (lenGuard : Bool)
  (cof cofInv threshold ownId ownShare : Nat) (ssid : Bytes)

/-- **exact form of the culprit list**: the indices of the peers whose check returned `.bad`, in the order
of the peer list (every check did return a verdict), and `xi` is the reduced sum of the shares -/
theorem kg_result (peers : List KgPeer) (res : KgResult)
    (h : kgRound3 C H zcfg vcfg lenGuard cof cofInv threshold ownId ownShare ssid peers = .ok res) :
    (∀ p ∈ peers, ∃ v, kgCheckPeer C H zcfg vcfg lenGuard cof cofInv threshold ownId ssid p = .ok v) ∧
    res.culprits = C05SgL.named (·.idx) badKg
      (kgCheckPeer C H zcfg vcfg lenGuard cof cofInv threshold ownId ssid) peers ∧
    res.xi = (ownShare + (peers.map (·.share)).sum) % C.q :=
  kgRound3_ok C H zcfg vcfg lenGuard cof cofInv threshold ownId ownShare ssid peers res h

/-- **an error never names anybody who did not send the checked messages**; the list of names is a
sub-list of the peer indices (peer order is preserved) and has no duplicates when these are distinct -/
theorem kg_culprits_subset_peers (peers : List KgPeer) (res : KgResult)
    (h : kgRound3 C H zcfg vcfg lenGuard cof cofInv threshold ownId ownShare ssid peers = .ok res) :
    (∀ c ∈ res.culprits, ∃ p ∈ peers, p.idx = c) ∧
    res.culprits.Sublist (peers.map (·.idx)) ∧
    ((peers.map (·.idx)).Nodup → res.culprits.Nodup) := by
  obtain ⟨_, hc, _⟩ := kg_result H zcfg vcfg lenGuard cof cofInv threshold ownId ownShare ssid peers res h
  have hsub : res.culprits.Sublist (peers.map (·.idx)) := by
    rw [hc]; exact C05SgL.named_sublist _ _ _ _
  refine ⟨?_, hsub, fun hnd => hnd.sublist hsub⟩
  intro c hcm
  obtain ⟨p, hp, rfl⟩ := List.mem_map.1 (hsub.subset hcm)
  exact ⟨p, hp, rfl⟩

/-- in particular the party never names itself (its own index is not among the peers') -/
theorem kg_never_names_self (peers : List KgPeer) (res : KgResult) (self : Nat)
    (hself : ∀ p ∈ peers, p.idx ≠ self)
    (h : kgRound3 C H zcfg vcfg lenGuard cof cofInv threshold ownId ownShare ssid peers = .ok res) :
    self ∉ res.culprits := by
  intro hm
  obtain ⟨p, hp, he⟩ :=
    (kg_culprits_subset_peers H zcfg vcfg lenGuard cof cofInv threshold ownId ownShare ssid peers res h).1 self hm
  exact hself p hp he

/-! ## exactly the failing peers are named -/

theorem kg_culprit_iff (peers : List KgPeer) (res : KgResult)
    (h : kgRound3 C H zcfg vcfg lenGuard cof cofInv threshold ownId ownShare ssid peers = .ok res) (c : Nat) :
    c ∈ res.culprits ↔ ∃ p ∈ peers, p.idx = c ∧
      ∃ why, kgCheckPeer C H zcfg vcfg lenGuard cof cofInv threshold ownId ssid p = .ok (.bad why) := by
  obtain ⟨_, hc, _⟩ := kg_result H zcfg vcfg lenGuard cof cofInv threshold ownId ownShare ssid peers res h
  simp only [hc, C05SgL.mem_named, ok_badKg_iff]

/-! ## an alteration covered by the commitment, the Schnorr proof or the share check is blamed -/

/-- the de-commitment does not open the commitment of round 1 (any altered commitment, blinding factor or
committed coordinate — by `no_bad_output_binding` anything else is a hash collision) -/
theorem kg_bad_decommit_blamed (p : KgPeer)
    (h : decommitWith H p.commitment (p.decommitment.map Int.ofNat) = .ok none) :
    kgCheckPeer C H zcfg vcfg lenGuard cof cofInv threshold ownId ssid p =
      .ok (.bad "de-commitment verify failed") := by
  rw [kgCheckPeer_eq, h]
  rfl

/-- the points decode but the Schnorr verifier rejects (altered `alpha`, `t`, first commitment point, or a
proof made for another index or session: the context is `ssid ‖ bytes(p.idx)`) -/
theorem kg_bad_schnorr_blamed (p : KgPeer) (flat : List Int) (pts : List ECPoint) (v0 : ECPoint)
    (rest : List ECPoint) (al : ECPoint)
    (hd : decommitWith H p.commitment (p.decommitment.map Int.ofNat) = .ok (some flat))
    (hu : C.unflatten (flat.map Int.toNat) = some pts)
    (hm : pts.mapM (clear C cof cofInv) = .ok (v0 :: rest))
    (hl : lenGuard = true → (v0 :: rest).length = threshold + 1)
    (ha : C.ecNew p.alpha.1 p.alpha.2 = some al)
    (hs : Zk.schnorrVerify C H zcfg (contextJ ssid p.idx) v0 al p.t = .ok false) :
    kgCheckPeer C H zcfg vcfg lenGuard cof cofInv threshold ownId ssid p =
      .ok (.bad "failed to prove schnorr proof") := by
  rw [kgCheckPeer_points C H zcfg vcfg lenGuard cof cofInv threshold ownId ssid p flat pts hd hu, hm,
    Outcome.ok_bind, kgTail_cons C H zcfg vcfg lenGuard threshold ownId ssid p hl, ha]
  simp only [hs, Outcome.ok_bind]
  rfl

/-- the Schnorr proof is accepted but the share fails the Feldman check -/
theorem kg_bad_share_blamed (p : KgPeer) (flat : List Int) (pts : List ECPoint) (v0 : ECPoint)
    (rest : List ECPoint) (al : ECPoint)
    (hd : decommitWith H p.commitment (p.decommitment.map Int.ofNat) = .ok (some flat))
    (hu : C.unflatten (flat.map Int.toNat) = some pts)
    (hm : pts.mapM (clear C cof cofInv) = .ok (v0 :: rest))
    (hl : lenGuard = true → (v0 :: rest).length = threshold + 1)
    (ha : C.ecNew p.alpha.1 p.alpha.2 = some al)
    (hs : Zk.schnorrVerify C H zcfg (contextJ ssid p.idx) v0 al p.t = .ok true)
    (hv : Vss.verify C vcfg threshold ⟨threshold, ownId, p.share⟩ (v0 :: rest) = .ok false) :
    kgCheckPeer C H zcfg vcfg lenGuard cof cofInv threshold ownId ssid p = .ok (.bad "vss verify failed") := by
  rw [kgCheckPeer_points C H zcfg vcfg lenGuard cof cofInv threshold ownId ssid p flat pts hd hu, hm,
    Outcome.ok_bind, kgTail_cons C H zcfg vcfg lenGuard threshold ownId ssid p hl, ha]
  simp only [hs, hv, Outcome.ok_bind]
  rfl

/-- the other (format) failures: coordinates that are not curve points, a wrong number of points (K8
repair), a proof commitment that is not a curve point -/
theorem kg_bad_format_blamed (p : KgPeer) (flat : List Int)
    (hd : decommitWith H p.commitment (p.decommitment.map Int.ofNat) = .ok (some flat)) :
    (C.unflatten (flat.map Int.toNat) = none →
      kgCheckPeer C H zcfg vcfg lenGuard cof cofInv threshold ownId ssid p = .ok (.bad "unflatten")) ∧
    (∀ pts vs, C.unflatten (flat.map Int.toNat) = some pts → pts.mapM (clear C cof cofInv) = .ok vs →
      lenGuard = true → vs.length ≠ threshold + 1 →
      kgCheckPeer C H zcfg vcfg lenGuard cof cofInv threshold ownId ssid p =
        .ok (.bad "wrong number of commitment points")) ∧
    (∀ pts v0 rest, C.unflatten (flat.map Int.toNat) = some pts →
      pts.mapM (clear C cof cofInv) = .ok (v0 :: rest) →
      (lenGuard = true → (v0 :: rest).length = threshold + 1) → C.ecNew p.alpha.1 p.alpha.2 = none →
      kgCheckPeer C H zcfg vcfg lenGuard cof cofInv threshold ownId ssid p =
        .ok (.bad "failed to unmarshal schnorr proof")) := by
  refine ⟨fun hu => ?_, fun pts vs hu hm hg hl => ?_, fun pts v0 rest hu hm hl ha => ?_⟩
  · rw [kgCheckPeer_eq, hd]
    simp only [Outcome.ok_bind, hu]
  · rw [kgCheckPeer_points C H zcfg vcfg lenGuard cof cofInv threshold ownId ssid p flat pts hd hu, hm]
    exact kgTail_wrong_length C H zcfg vcfg lenGuard threshold ownId ssid p hg hl
  · rw [kgCheckPeer_points C H zcfg vcfg lenGuard cof cofInv threshold ownId ssid p flat pts hd hu, hm,
      Outcome.ok_bind, kgTail_cons C H zcfg vcfg lenGuard threshold ownId ssid p hl, ha]

/-- one of the three covered checks fails on the messages of `p` -/
inductive KgCoveredFailure (C : Curve P) (H : HashFn) (zcfg : Zk.Cfg) (vcfg : Vss.VerifyCfg) (lenGuard : Bool)
    (cof cofInv threshold ownId : Nat) (ssid : Bytes) (p : KgPeer) : Prop
  | decommit (h : decommitWith H p.commitment (p.decommitment.map Int.ofNat) = .ok none)
  | schnorr (flat : List Int) (pts : List ECPoint) (v0 : ECPoint) (rest : List ECPoint) (al : ECPoint)
      (hd : decommitWith H p.commitment (p.decommitment.map Int.ofNat) = .ok (some flat))
      (hu : C.unflatten (flat.map Int.toNat) = some pts)
      (hm : pts.mapM (clear C cof cofInv) = .ok (v0 :: rest))
      (hl : lenGuard = true → (v0 :: rest).length = threshold + 1)
      (ha : C.ecNew p.alpha.1 p.alpha.2 = some al)
      (hs : Zk.schnorrVerify C H zcfg (contextJ ssid p.idx) v0 al p.t = .ok false)
  | share (flat : List Int) (pts : List ECPoint) (v0 : ECPoint) (rest : List ECPoint) (al : ECPoint)
      (hd : decommitWith H p.commitment (p.decommitment.map Int.ofNat) = .ok (some flat))
      (hu : C.unflatten (flat.map Int.toNat) = some pts)
      (hm : pts.mapM (clear C cof cofInv) = .ok (v0 :: rest))
      (hl : lenGuard = true → (v0 :: rest).length = threshold + 1)
      (ha : C.ecNew p.alpha.1 p.alpha.2 = some al)
      (hs : Zk.schnorrVerify C H zcfg (contextJ ssid p.idx) v0 al p.t = .ok true)
      (hv : Vss.verify C vcfg threshold ⟨threshold, ownId, p.share⟩ (v0 :: rest) = .ok false)

/-- **a covered alteration is blamed on its sender**: the check of that peer returns `.bad`, hence (when
the round returns) its index is in the culprit list -/
theorem kg_covered_alteration_blamed (p : KgPeer)
    (hf : KgCoveredFailure C H zcfg vcfg lenGuard cof cofInv threshold ownId ssid p) :
    (∃ why, kgCheckPeer C H zcfg vcfg lenGuard cof cofInv threshold ownId ssid p = .ok (.bad why)) ∧
    ∀ peers res, p ∈ peers →
      kgRound3 C H zcfg vcfg lenGuard cof cofInv threshold ownId ownShare ssid peers = .ok res →
      p.idx ∈ res.culprits := by
  have hbad : ∃ why, kgCheckPeer C H zcfg vcfg lenGuard cof cofInv threshold ownId ssid p = .ok (.bad why) := by
    cases hf with
    | decommit h => exact ⟨_, kg_bad_decommit_blamed H zcfg vcfg lenGuard cof cofInv threshold ownId ssid p h⟩
    | schnorr flat pts v0 rest al hd hu hm hl ha hs =>
      exact ⟨_, kg_bad_schnorr_blamed H zcfg vcfg lenGuard cof cofInv threshold ownId ssid p flat pts v0 rest al
        hd hu hm hl ha hs⟩
    | share flat pts v0 rest al hd hu hm hl ha hs hv =>
      exact ⟨_, kg_bad_share_blamed H zcfg vcfg lenGuard cof cofInv threshold ownId ssid p flat pts v0 rest al
        hd hu hm hl ha hs hv⟩
  refine ⟨hbad, fun peers res hp h => ?_⟩
  exact (kg_culprit_iff H zcfg vcfg lenGuard cof cofInv threshold ownId ownShare ssid peers res h p.idx).2
    ⟨p, hp, rfl, hbad⟩

/-- **exactly the deviator is named**: peer indices distinct, the deviator `d` fails a check, every other
peer passes -/
theorem single_deviator_blamed_exactly (peers : List KgPeer) (res : KgResult) (d : KgPeer)
    (hnd : (peers.map (·.idx)).Nodup) (hd : d ∈ peers)
    (hbad : ∃ why, kgCheckPeer C H zcfg vcfg lenGuard cof cofInv threshold ownId ssid d = .ok (.bad why))
    (hothers : ∀ p ∈ peers, p.idx ≠ d.idx →
      ∃ vs, kgCheckPeer C H zcfg vcfg lenGuard cof cofInv threshold ownId ssid p = .ok (.ok vs))
    (h : kgRound3 C H zcfg vcfg lenGuard cof cofInv threshold ownId ownShare ssid peers = .ok res) :
    res.culprits = [d.idx] := by
  obtain ⟨_, hc, _⟩ := kg_result H zcfg vcfg lenGuard cof cofInv threshold ownId ownShare ssid peers res h
  rw [hc]
  refine C05SgL.named_eq_singleton _ _ _ peers d.idx (fun p hp hne => ?_) hnd d hd rfl
    ((C05SgL.flagged_iff _ _).2 (ok_badKg_iff.2 hbad))
  obtain ⟨vs, hvs⟩ := hothers p hp hne
  rw [hvs]; rfl

/-! ## an honest peer passes; with one deviator nobody else is named -/

/-- **cofactor clearing is the identity on the prime-order subgroup**: `cof·cofInv ≡ 1 (mod q)` and
`q • P = 0` give `clear (affine P) = affine P`. (The affine form of the intermediate `cof • P` exists
automatically.) On edwards25519: `cof = 8`, `cofInv = eightInv` (`C17.cofactor_const`). -/
theorem clear_id_of_order (hC : C.Lawful) {cof cofInv : Nat} (hinv : cof * cofInv ≡ 1 [MOD C.q])
    {pa : P} {a : ECPoint} (hP : C.toAffine pa = some a) (hq : C.smul C.q pa = C.zero) :
    clear C cof cofInv a = .ok a :=
  C05L.clear_id_of_order hC hinv hP hq

/-- so it is the identity on every multiple of the base point -/
theorem clear_id_of_base_multiple (hC : C.Lawful) {cof cofInv : Nat} (hinv : cof * cofInv ≡ 1 [MOD C.q])
    (k : Nat) {a : ECPoint} (hP : C.toAffine (C.smul k C.base) = some a) :
    clear C cof cofInv a = .ok a := by
  refine clear_id_of_order hC hinv hP ?_
  rw [← hC.smul_mul, Nat.mul_comm, hC.smul_mul, hC.smul_q_base, hC.smul_zero_right]

/-- **an honestly generated peer input passes.** Coefficients `a_0 :: as` (`as.length = threshold`),
commitment points `v_c = affine(a_c·G)` (`IsCommitment`: on a curve whose identity has no affine form this
forces `a_c ≢ 0`), de-commitment `r :: flatten vs`, commitment `H`-hash of it, Schnorr proof
`schnorrProve (ssid ‖ bytes(idx)) a_0 v_0 coin` with a good coin, share `evalPoly q coeffs ownId` — under the
side conditions of `C15.vss_share_verifies` (own id and share `≢ 0`, no vanishing partial sum on a curve
without affine identity) and `hclear` (see `clear_id_of_base_multiple`). The prover returns a proof, and the
check accepts with exactly the points `vs`. -/
theorem kg_honest_peer_passes (hC : C.Lawful) (idx rN a0 : Nat) (as : List Nat) (v0 : ECPoint)
    (rest : List ECPoint) (coin : Nat)
    (hcom : Vss.IsCommitment C (a0 :: as) (v0 :: rest)) (hlen : as.length = threshold)
    (hclear : ∀ v ∈ v0 :: rest, clear C cof cofInv v = .ok v)
    (hgood : C10.Schnorr.GoodCoins C H (contextJ ssid idx) (a0 : Int) v0 coin)
    (hid : ownId % C.q ≠ 0) (hs : Vss.evalPoly C.q (a0 :: as) ownId % C.q ≠ 0)
    (hps : C.toAffine C.zero = none → Vss.PartialSumsNonzero C.q (a0 :: as) ownId) :
    ∃ al t, Zk.schnorrProve C H (contextJ ssid idx) (a0 : Int) v0 coin = .ok (al, t) ∧
      kgCheckPeer C H Zk.cur ⟨true⟩ lenGuard cof cofInv threshold ownId ssid
        { idx := idx
          commitment := (commitWith H (rN : Int) ((flatten (v0 :: rest)).map Int.ofNat)).1
          decommitment := rN :: flatten (v0 :: rest)
          alpha := al
          t := t
          share := Vss.evalPoly C.q (a0 :: as) ownId } = .ok (.ok (v0 :: rest)) := by
  have hv0 : C.toAffine (C.smul a0 C.base) = some v0 := by
    cases hcom with | cons h _ => exact h
  obtain ⟨al, t, hp, hal, hsc⟩ := schnorrProve_accepted hC H (contextJ ssid idx) a0 v0 coin hv0 hgood
  refine ⟨al, t, hp, ?_⟩
  have hlen' : (a0 :: as).length = threshold + 1 := by simp [hlen]
  have hver : Vss.verify C ⟨true⟩ threshold ⟨threshold, ownId, Vss.evalPoly C.q (a0 :: as) ownId⟩
      (v0 :: rest) = .ok true :=
    (C15.vss_verify_iff hC (a0 :: as) (v0 :: rest) hcom threshold hlen' ownId _ hid hs hps).2
      (Vss.evalPoly_modEq a0 as ownId).symm
  rw [kgCheckPeer_ok_iff]
  refine ⟨(flatten (v0 :: rest)).map Int.ofNat, v0 :: rest, ?_, ?_, ?_, ?_⟩
  · exact C16.decommit_returns_secrets H (rN : Int) ((flatten (v0 :: rest)).map Int.ofNat)
  · rw [map_toNat_ofNat]
    exact (C17L.unflatten_eq_some_iff C _ _).2 ⟨rfl, hcom.allOnCurve hC⟩
  · exact (mapM_ok_iff _ _ _).2 (List.forall₂_same.2 hclear)
  · exact ⟨fun _ => by rw [← hcom.length_eq]; exact hlen', ⟨v0, rest, al, rfl, hal, hsc⟩, hver⟩

/-- `p` is the input an honest peer with index `p.idx` produces for the party with id `ownId` -/
def HonestKgPeer (C : Curve P) (H : HashFn) (cof cofInv threshold ownId : Nat) (ssid : Bytes)
    (p : KgPeer) : Prop :=
  ∃ (rN a0 : Nat) (as : List Nat) (v0 : ECPoint) (rest : List ECPoint) (coin : Nat),
    Vss.IsCommitment C (a0 :: as) (v0 :: rest) ∧ as.length = threshold ∧
    (∀ v ∈ v0 :: rest, clear C cof cofInv v = .ok v) ∧
    C10.Schnorr.GoodCoins C H (contextJ ssid p.idx) (a0 : Int) v0 coin ∧
    Vss.evalPoly C.q (a0 :: as) ownId % C.q ≠ 0 ∧
    (C.toAffine C.zero = none → Vss.PartialSumsNonzero C.q (a0 :: as) ownId) ∧
    p.commitment = (commitWith H (rN : Int) ((flatten (v0 :: rest)).map Int.ofNat)).1 ∧
    p.decommitment = rN :: flatten (v0 :: rest) ∧
    Zk.schnorrProve C H (contextJ ssid p.idx) (a0 : Int) v0 coin = .ok (p.alpha, p.t) ∧
    p.share = Vss.evalPoly C.q (a0 :: as) ownId

theorem honest_kg_peer_passes (hC : C.Lawful) (hid : ownId % C.q ≠ 0) (p : KgPeer)
    (hp : HonestKgPeer C H cof cofInv threshold ownId ssid p) :
    ∃ vs, kgCheckPeer C H Zk.cur ⟨true⟩ lenGuard cof cofInv threshold ownId ssid p = .ok (.ok vs) := by
  obtain ⟨rN, a0, as, v0, rest, coin, hcom, hlen, hclear, hgood, hs, hps, h1, h2, h3, h4⟩ := hp
  obtain ⟨al, t, hpr, hk⟩ := kg_honest_peer_passes H lenGuard cof cofInv threshold ownId ssid hC p.idx rN a0 as
    v0 rest coin hcom hlen hclear hgood hid hs hps
  rw [h3] at hpr
  injection hpr with hpr
  injection hpr with ha ht
  obtain ⟨i, c, d, al', t', s⟩ := p
  simp only at h1 h2 h4 ha ht hk
  subst h1 h2 h4 ha ht
  exact ⟨_, hk⟩

/-- **with one deviator, nobody else is ever named**: if every peer other than `d` is honest, every name in
the culprit list is `d` -/
theorem single_deviator_blame (hC : C.Lawful) (hid : ownId % C.q ≠ 0) (peers : List KgPeer) (res : KgResult)
    (d : Nat)
    (hhonest : ∀ p ∈ peers, p.idx ≠ d → HonestKgPeer C H cof cofInv threshold ownId ssid p)
    (h : kgRound3 C H Zk.cur ⟨true⟩ lenGuard cof cofInv threshold ownId ownShare ssid peers = .ok res) :
    ∀ c ∈ res.culprits, c = d := by
  intro c hc
  obtain ⟨p, hp, rfl, why, hw⟩ :=
    (kg_culprit_iff H Zk.cur ⟨true⟩ lenGuard cof cofInv threshold ownId ownShare ssid peers res h c).1 hc
  by_contra hne
  obtain ⟨vs, hvs⟩ := honest_kg_peer_passes H lenGuard cof cofInv threshold ownId ssid hC hid p
    (hhonest p hp hne)
  rw [hvs] at hw
  cases hw

/-- the two halves together: distinct indices, all peers but `d` honest, `d`'s messages fail a covered
check ⟹ the culprit list is exactly `[d]` -/
theorem single_deviator_theorem (hC : C.Lawful) (hid : ownId % C.q ≠ 0) (peers : List KgPeer)
    (res : KgResult) (d : KgPeer) (hnd : (peers.map (·.idx)).Nodup) (hd : d ∈ peers)
    (hhonest : ∀ p ∈ peers, p.idx ≠ d.idx → HonestKgPeer C H cof cofInv threshold ownId ssid p)
    (hf : KgCoveredFailure C H Zk.cur ⟨true⟩ lenGuard cof cofInv threshold ownId ssid d)
    (h : kgRound3 C H Zk.cur ⟨true⟩ lenGuard cof cofInv threshold ownId ownShare ssid peers = .ok res) :
    res.culprits = [d.idx] :=
  single_deviator_blamed_exactly H Zk.cur ⟨true⟩ lenGuard cof cofInv threshold ownId ownShare ssid peers res d
    hnd hd (kg_covered_alteration_blamed H Zk.cur ⟨true⟩ lenGuard cof cofInv threshold ownId ownShare ssid d hf).1
    (fun p hp hne => honest_kg_peer_passes H lenGuard cof cofInv threshold ownId ssid hC hid p
      (hhonest p hp hne)) h

/-! ## the round returns -/

/-- **K8 repaired**: on the current tree every per-peer check RETURNS A VERDICT (no crash, no
unattributed error) whatever the peer sent -/
theorem kg_check_returns (hC : C.Lawful)
    (hcof : C.toAffine C.zero = none → ∀ p, C.smul C.q p = C.zero)
    (hnz : C.toAffine C.zero = none → cof % C.q ≠ 0 ∧ cofInv % C.q ≠ 0)
    (p : KgPeer) (hd : p.decommitment ≠ []) :
    ∃ v, kgCheckPeer C H Zk.cur ⟨true⟩ true cof cofInv threshold ownId ssid p = .ok v := by
  rw [kgCheckPeer_eq]
  refine total_bind (decommit_total H _ _ hd) fun o _ => ?_
  cases o with
  | none => exact ⟨_, rfl⟩
  | some flat =>
    dsimp only
    cases hu : C.unflatten (flat.map Int.toNat) with
    | none => exact ⟨_, rfl⟩
    | some pts =>
      refine total_bind (mapM_clear_total hC hcof hnz ((C17L.unflatten_eq_some_iff C _ _).1 hu).2) fun vs hvs => ?_
      have hvon := mapM_clear_onCurve hC hvs
      by_cases hl : vs.length = threshold + 1
      · cases vs with
        | nil => cases hl
        | cons v0 rest =>
          rw [kgTail_cons C H _ _ _ threshold ownId ssid p (fun _ => hl)]
          cases C.ecNew p.alpha.1 p.alpha.2 with
          | none => exact ⟨_, rfl⟩
          | some al =>
            refine total_bind (schnorrVerify_total hC hcof H (contextJ ssid p.idx) v0 al p.t
              (hvon v0 (List.mem_cons_self ..))) fun b _ => ?_
            cases b with
            | false => exact ⟨_, rfl⟩
            | true =>
              refine total_bind (Vss.verify_no_panic hC hcof threshold ⟨threshold, ownId, p.share⟩
                (v0 :: rest) hvon) fun b' _ => ?_
              cases b' <;> exact ⟨_, rfl⟩
      · exact ⟨_, kgTail_wrong_length C H _ _ _ threshold ownId ssid p rfl hl⟩

/-- … so the round returns a result (the hypothesis `kgRound3 … = .ok res` of the theorems above always
holds for exactly one `res`) -/
theorem kg_returns (hC : C.Lawful)
    (hcof : C.toAffine C.zero = none → ∀ p, C.smul C.q p = C.zero)
    (hnz : C.toAffine C.zero = none → cof % C.q ≠ 0 ∧ cofInv % C.q ≠ 0)
    (peers : List KgPeer) (hd : ∀ p ∈ peers, p.decommitment ≠ []) :
    ∃ res, kgRound3 C H Zk.cur ⟨true⟩ true cof cofInv threshold ownId ownShare ssid peers = .ok res := by
  rw [kgRound3_eq]
  obtain ⟨_, _, hr⟩ := namingRound_of_checks_ok _ _ _ _ peers
    fun p hp => kg_check_returns H cof cofInv threshold ownId ssid hC hcof hnz p (hd p hp)
  exact ⟨_, hr⟩

theorem kg_no_panic (hC : C.Lawful)
    (hcof : C.toAffine C.zero = none → ∀ p, C.smul C.q p = C.zero)
    (hnz : C.toAffine C.zero = none → cof % C.q ≠ 0 ∧ cofInv % C.q ≠ 0)
    (peers : List KgPeer) (hd : ∀ p ∈ peers, p.decommitment ≠ []) (tag : String) :
    kgRound3 C H Zk.cur ⟨true⟩ true cof cofInv threshold ownId ownShare ssid peers ≠ .panic tag := by
  obtain ⟨res, hres⟩ := kg_returns H cof cofInv threshold ownId ownShare ssid hC hcof hnz peers hd
  rw [hres]; nofun

end kg

/-! ### witnesses on toy curves (kernel evaluation) -/
section kgWitnesses

instance fact23 : Fact (Nat.Prime 23) := ⟨by decide⟩
/-- toy lawful curve of order 23 whose identity has affine coordinates (like edwards25519) -/
abbrev E := zmodCurve 23
/-- … and one whose identity has none (like secp256k1) -/
abbrev W := zmodCurveW 23
/-- a trivial "hash" with empty digests: every commitment value is `0` -/
def Hnil : HashFn := fun _ => []
/-- a trivial "hash" whose digests are the byte `1`: every challenge is `1` -/
def Hone : HashFn := fun _ => [1]

/-- **K8 as it was** (`lenGuard = false`): a de-commitment `[r]` that opens commitment `0` to NO points makes
the goroutine index `PjVs[0]` out of range; the repaired tree reports the sender -/
theorem kg_old_panics_witness :
    kgCheckPeer E Hnil Zk.old ⟨false⟩ false 8 3 1 2 [] ⟨1, 0, [5], (0, 0), 0, 0⟩ =
      .panic "index-out-of-range" ∧
    kgRound3 E Hnil Zk.old ⟨false⟩ false 8 3 1 2 7 [] [⟨1, 0, [5], (0, 0), 0, 0⟩] =
      .panic "index-out-of-range" ∧
    kgRound3 E Hnil Zk.cur ⟨true⟩ true 8 3 1 2 7 [] [⟨1, 0, [5], (0, 0), 0, 0⟩] = .ok ⟨[1], 7⟩ := by
  decide

/-- the hypothesis `hnz` of `kg_no_panic` is needed: clearing with `cof = q` on a curve whose identity has no
affine form crashes `ScalarMult` (EdDSA is never run on such a curve) -/
theorem kg_clear_scalars_needed_witness :
    kgCheckPeer W Hnil Zk.cur ⟨true⟩ true 23 1 0 2 [] ⟨1, 0, [5, 3, 0], (0, 0), 0, 0⟩ =
      .panic "scalar-mult-identity" := by
  decide

end kgWitnesses

/-! ## no culprit ⟹ the saved share is consistent with the public view -/
section consistent
variable (H : HashFn) (zcfg : Zk.Cfg) (vcfg : Vss.VerifyCfg) (lenGuard : Bool)
  (cof cofInv threshold ownId ownShare : Nat) (ssid : Bytes)

/-- **exact acceptance condition** of the per-peer check: the commitment opens, the coordinates are curve
points, they are cleared to `vs`, `vs` has `threshold + 1` points (K8 repair), the Schnorr proof for `vs[0]`
under `ssid ‖ bytes(idx)` and the Feldman check of the share against `vs` are accepted -/
theorem kg_check_accepts_iff (p : KgPeer) (vs : List ECPoint) :
    kgCheckPeer C H zcfg vcfg lenGuard cof cofInv threshold ownId ssid p = .ok (.ok vs) ↔
      ∃ flat pts, decommitWith H p.commitment (p.decommitment.map Int.ofNat) = .ok (some flat) ∧
        C.unflatten (flat.map Int.toNat) = some pts ∧
        pts.mapM (clear C cof cofInv) = .ok vs ∧
        (lenGuard = true → vs.length = threshold + 1) ∧
        (∃ v0 rest al, vs = v0 :: rest ∧ C.ecNew p.alpha.1 p.alpha.2 = some al ∧
          Zk.schnorrVerify C H zcfg (contextJ ssid p.idx) v0 al p.t = .ok true) ∧
        Vss.verify C vcfg threshold ⟨threshold, ownId, p.share⟩ vs = .ok true := by
  rw [kgCheckPeer_ok_iff]
  constructor
  · rintro ⟨flat, pts, h1, h2, h3, h4⟩
    exact ⟨flat, pts, h1, h2, h3, h4.len, h4.schnorr, h4.share⟩
  · rintro ⟨flat, pts, h1, h2, h3, h4, h5, h6⟩
    exact ⟨flat, pts, h1, h2, h3, ⟨h4, h5, h6⟩⟩

/-- **no culprit ⟹ consistent share.** When the round reports nobody: every peer's check accepted (so every
received share passed `Vss.verify` against that peer's cleared commitment points), the saved share is
`(ownShare + Σ shares) mod q`, and — the party's own share verifying against its own points `ownVs` — the
saved share matches the public share point `BigX_ownId` computed from the combined commitments
(`C03.verify_accept_implies_consistent`): `xi·G = Vc[0] + Σ_c (ownId^c mod q)·Vc[c]`, `Vc = Σ_dealers V`. -/
theorem kg_accept_consistent (hC : C.Lawful) (peers : List KgPeer) (res : KgResult)
    (h : kgRound3 C H zcfg vcfg lenGuard cof cofInv threshold ownId ownShare ssid peers = .ok res)
    (hnil : res.culprits = []) (ownVs : List ECPoint)
    (hown : Vss.verify C vcfg threshold ⟨threshold, ownId, ownShare⟩ ownVs = .ok true) :
    (∀ p ∈ peers, ∃ vs,
      kgCheckPeer C H zcfg vcfg lenGuard cof cofInv threshold ownId ssid p = .ok (.ok vs) ∧
      Vss.verify C vcfg threshold ⟨threshold, ownId, p.share⟩ vs = .ok true) ∧
    res.xi = (ownShare + (peers.map (·.share)).sum) % C.q ∧
    C.smul res.xi C.base =
      AlgL.pubShare C (AlgL.combined C (none :: peers.map some) fun i c =>
        ((kgPointsOf (kgCheckPeer C H zcfg vcfg lenGuard cof cofInv threshold ownId ssid) ownVs i).map
          (AlgL.liftD C)).getD c C.zero) threshold ownId := by
  refine ⟨fun p hp => ?_, (kg_result H zcfg vcfg lenGuard cof cofInv threshold ownId ownShare ssid peers res h).2.2,
    kgRound3_consistent H zcfg vcfg lenGuard cof cofInv threshold ownId ownShare ssid hC peers res h hnil
      ownVs hown⟩
  obtain ⟨vs, hvs⟩ := kgRound3_no_culprits H zcfg vcfg lenGuard cof cofInv threshold ownId ownShare ssid peers
    res h hnil p hp
  obtain ⟨_, _, _, _, _, hacc⟩ :=
    (kgCheckPeer_ok_iff C H zcfg vcfg lenGuard cof cofInv threshold ownId ssid p vs).1 hvs
  exact ⟨vs, hvs, hacc.share⟩

/-- **an accepted share lies on the sender's committed polynomial** (`C15.vss_verify_sound`): if the accepted
points are commitments `a_c·G` to coefficients `as`, then `Σ a_c·ownId^c ≡ share (mod q)`, and neither the
share nor the own id is `0 (mod q)` -/
theorem kg_accept_on_polynomial (hC : C.Lawful) (p : KgPeer) (vs : List ECPoint)
    (h : kgCheckPeer C H zcfg ⟨true⟩ lenGuard cof cofInv threshold ownId ssid p = .ok (.ok vs))
    (as : List Nat) (hcom : Vss.IsCommitment C as vs) :
    as.length = threshold + 1 ∧ ownId % C.q ≠ 0 ∧ p.share % C.q ≠ 0 ∧
      Vss.polyNat as ownId ≡ p.share [MOD C.q] := by
  obtain ⟨_, _, _, _, _, hacc⟩ :=
    (kgCheckPeer_ok_iff C H zcfg ⟨true⟩ lenGuard cof cofInv threshold ownId ssid p vs).1 h
  exact accepted_on_polynomial hC threshold ownId p.share vs hacc.share as hcom

end consistent

/-! ## signing round 3 -/
section sg
variable (H : HashFn) (zcfg : Zk.Cfg) (blameDecommit errFirst : Bool) (cof cofInv : Nat) (ssid : Bytes)

/-- **the error names the first failing peer**: `sgRound3 = .ok (some (i, b))` iff the peer list splits as
`pre ++ p :: post` with every peer of `pre` accepted, `p` rejected with blame flag `b`, and `i = p.idx` -/
theorem sg_error_names_first_failing_peer (peers : List SgPeer) (i : Nat) (b : Bool) :
    sgRound3 C H zcfg blameDecommit errFirst cof cofInv ssid peers = .ok (some (i, b)) ↔
      ∃ pre p post why, peers = pre ++ p :: post ∧
        (∀ p' ∈ pre, ∃ r, sgCheckPeer C H zcfg blameDecommit errFirst cof cofInv ssid p' = .ok (.ok r)) ∧
        sgCheckPeer C H zcfg blameDecommit errFirst cof cofInv ssid p = .ok (.bad why b) ∧ p.idx = i := by
  rw [sgRound3_eq, seqLoop_eq_iff]
  simp only [Outcome.ok.injEq, reduceCtorEq, and_false, exists_false, false_or, exists_const, runs_unit_iff,
    sgStep_go_iff, sgStep_halt_ok_iff, Option.some.injEq, Prod.mk.injEq]
  constructor
  · rintro ⟨pre, p, post, he, hpre, why, b', hw, hi, rfl⟩
    exact ⟨pre, p, post, why, he, hpre, hw, hi.symm⟩
  · rintro ⟨pre, p, post, why, he, hpre, hw, hi⟩
    exact ⟨pre, p, post, he, hpre, why, b, hw, hi.symm, rfl⟩

/-- the round passes iff every peer's check passes -/
theorem sg_pass_iff (peers : List SgPeer) :
    sgRound3 C H zcfg blameDecommit errFirst cof cofInv ssid peers = .ok none ↔
      ∀ p ∈ peers, ∃ r, sgCheckPeer C H zcfg blameDecommit errFirst cof cofInv ssid p = .ok (.ok r) := by
  rw [sgRound3_eq, seqLoop_eq_iff]
  simp only [and_true, exists_const, runs_unit_iff, sgStep_go_iff, sgStep_halt_ok_iff, reduceCtorEq, and_false,
    exists_false, or_false]

/-- in particular the named index is a peer's, never the party's own -/
theorem sg_error_names_a_peer (peers : List SgPeer) (i : Nat) (b : Bool)
    (h : sgRound3 C H zcfg blameDecommit errFirst cof cofInv ssid peers = .ok (some (i, b))) :
    ∃ p ∈ peers, p.idx = i := by
  obtain ⟨pre, p, post, _, rfl, _, _, hi⟩ :=
    (sg_error_names_first_failing_peer H zcfg blameDecommit errFirst cof cofInv ssid peers i b).1 h
  exact ⟨p, by simp, hi⟩

/-- **D1 repaired**: with `blameDecommit` and `errFirst` every reported error carries its culprit -/
theorem sg_error_always_blamed (peers : List SgPeer) (i : Nat) (b : Bool)
    (h : sgRound3 C H zcfg true true cof cofInv ssid peers = .ok (some (i, b))) : b = true := by
  obtain ⟨_, p, _, why, _, _, hbad, _⟩ :=
    (sg_error_names_first_failing_peer H zcfg true true cof cofInv ssid peers i b).1 h
  exact sgCheckPeer_bad_blamed C H zcfg cof cofInv ssid p why b hbad

/-- exact acceptance condition of the signing check -/
theorem sg_check_accepts_iff (p : SgPeer) (rj : ECPoint) :
    sgCheckPeer C H zcfg blameDecommit errFirst cof cofInv ssid p = .ok (.ok rj) ↔
      ∃ x y rj0 al, decommitWith H p.commitment (p.decommitment.map Int.ofNat) = .ok (some [x, y]) ∧
        C.ecNew x.toNat y.toNat = some rj0 ∧ clear C cof cofInv rj0 = .ok rj ∧
        C.ecNew p.alpha.1 p.alpha.2 = some al ∧
        Zk.schnorrVerify C H zcfg (contextJ ssid p.idx) rj al p.t = .ok true :=
  sgCheckPeer_ok_iff C H zcfg blameDecommit errFirst cof cofInv ssid p rj

/-- **a covered alteration is blamed** (signing): a de-commitment that does not open the commitment, or a
nonce point whose Schnorr proof is rejected, gives `.bad` — with the blame flag set on the repaired tree -/
theorem sg_covered_alteration_blamed (p : SgPeer) :
    (decommitWith H p.commitment (p.decommitment.map Int.ofNat) = .ok none →
      sgCheckPeer C H zcfg blameDecommit errFirst cof cofInv ssid p =
        .ok (.bad "de-commitment verify failed" blameDecommit)) ∧
    (∀ x y rj0 rj al, decommitWith H p.commitment (p.decommitment.map Int.ofNat) = .ok (some [x, y]) →
      C.ecNew x.toNat y.toNat = some rj0 → clear C cof cofInv rj0 = .ok rj →
      C.ecNew p.alpha.1 p.alpha.2 = some al →
      Zk.schnorrVerify C H zcfg (contextJ ssid p.idx) rj al p.t = .ok false →
      sgCheckPeer C H zcfg blameDecommit errFirst cof cofInv ssid p = .ok (.bad "failed to prove Rj" true)) := by
  refine ⟨fun hd => by rw [sgCheckPeer_eq, hd]; rfl, fun x y rj0 rj al hd hn hc ha hs => ?_⟩
  rw [sgCheckPeer_coords C H zcfg blameDecommit errFirst cof cofInv ssid p x y hd, hn]
  simp only [sgTail, hc, ha, hs, Outcome.ok_bind]
  rfl

/-- **an honest signer passes**: nonce `ri`, `Rj = affine(ri·G)`, de-commitment `[r, Rj.x, Rj.y]`, Schnorr
proof for `ri` under `ssid ‖ bytes(idx)` with a good coin, `Rj` fixed by cofactor clearing
(`clear_id_of_base_multiple`) -/
theorem sg_honest_peer_passes (hC : C.Lawful) (idx rN ri : Nat) (Rj : ECPoint) (coin : Nat)
    (hR : C.toAffine (C.smul ri C.base) = some Rj)
    (hclear : clear C cof cofInv Rj = .ok Rj)
    (hgood : C10.Schnorr.GoodCoins C H (contextJ ssid idx) (ri : Int) Rj coin) :
    ∃ al t, Zk.schnorrProve C H (contextJ ssid idx) (ri : Int) Rj coin = .ok (al, t) ∧
      sgCheckPeer C H Zk.cur blameDecommit errFirst cof cofInv ssid
        { idx := idx
          commitment := (commitWith H (rN : Int) [(Rj.1 : Int), (Rj.2 : Int)]).1
          decommitment := [rN, Rj.1, Rj.2]
          alpha := al
          t := t } = .ok (.ok Rj) := by
  obtain ⟨al, t, hp, hal, hsc⟩ := schnorrProve_accepted hC H (contextJ ssid idx) ri Rj coin hR hgood
  refine ⟨al, t, hp, ?_⟩
  rw [sgCheckPeer_ok_iff]
  refine ⟨(Rj.1 : Int), (Rj.2 : Int), Rj, al, ?_, ?_, hclear, hal, hsc⟩
  · exact C16.decommit_returns_secrets H (rN : Int) [(Rj.1 : Int), (Rj.2 : Int)]
  · simp only [Int.toNat_natCast]
    exact C17L.ecNew_of_onCurve C (onCurve_of_toAffine hC hR)

/-- **single deviator, signing**: if every peer other than `d` passes, any reported error names `d`; and if
`d`'s check fails (on the repaired tree) the round reports exactly `(d, blamed)` -/
theorem sg_single_deviator_blame (peers : List SgPeer) (d : Nat)
    (hothers : ∀ p ∈ peers, p.idx ≠ d →
      ∃ r, sgCheckPeer C H zcfg blameDecommit errFirst cof cofInv ssid p = .ok (.ok r))
    (i : Nat) (b : Bool)
    (h : sgRound3 C H zcfg blameDecommit errFirst cof cofInv ssid peers = .ok (some (i, b))) : i = d := by
  obtain ⟨pre, p, post, why, rfl, _, hbad, hi⟩ :=
    (sg_error_names_first_failing_peer H zcfg blameDecommit errFirst cof cofInv ssid _ i b).1 h
  by_contra hne
  obtain ⟨r, hr⟩ := hothers p (by simp) (by rw [hi]; exact hne)
  rw [hr] at hbad
  cases hbad

theorem sg_single_deviator_blamed_exactly (peers : List SgPeer) (d : SgPeer)
    (hnd : (peers.map (·.idx)).Nodup) (hd : d ∈ peers)
    (hothers : ∀ p ∈ peers, p.idx ≠ d.idx →
      ∃ r, sgCheckPeer C H zcfg true true cof cofInv ssid p = .ok (.ok r))
    (hbad : ∃ why b, sgCheckPeer C H zcfg true true cof cofInv ssid d = .ok (.bad why b)) :
    sgRound3 C H zcfg true true cof cofInv ssid peers = .ok (some (d.idx, true)) := by
  obtain ⟨pre, post, rfl⟩ := List.append_of_mem hd
  obtain ⟨why, b, hb⟩ := hbad
  have hbt : b = true := sgCheckPeer_bad_blamed C H zcfg cof cofInv ssid d why b hb
  subst hbt
  refine (sg_error_names_first_failing_peer H zcfg true true cof cofInv ssid _ d.idx true).2
    ⟨pre, d, post, why, rfl, ?_, hb, rfl⟩
  exact fun p hp => hothers p (by simp [hp]) (idx_ne_of_nodup (·.idx) hnd p hp)

/-- the signing round returns (no crash, no unattributed error) on the repaired tree -/
theorem sg_returns (hC : C.Lawful)
    (hcof : C.toAffine C.zero = none → ∀ p, C.smul C.q p = C.zero)
    (hnz : C.toAffine C.zero = none → cof % C.q ≠ 0 ∧ cofInv % C.q ≠ 0)
    (peers : List SgPeer) (hd : ∀ p ∈ peers, p.decommitment ≠ []) :
    ∃ o, sgRound3 C H Zk.cur blameDecommit true cof cofInv ssid peers = .ok o := by
  rw [sgRound3_eq]
  refine seqLoop_total _ _ (fun p hp _ => ?_) (fun _ => ⟨_, rfl⟩) ()
  obtain ⟨v, hv⟩ := sgCheckPeer_total H blameDecommit cof cofInv ssid p hC hcof hnz (hd p hp)
  unfold sgStep
  rw [hv]
  cases v <;> exact ⟨_, rfl⟩

end sg

/-! ### witnesses on the toy curve -/
section sgWitnesses

/-- **D1 as it was** (`blameDecommit = false`): a de-commitment that does not open the commitment produced an
error WITHOUT a culprit; the repaired tree names the sender -/
theorem sg_old_unblamed_witness :
    sgRound3 E Hnil Zk.old false false 8 3 [] [⟨1, 1, [5, 3, 0], (0, 0), 0⟩] = .ok (some (1, false)) ∧
    sgRound3 E Hnil Zk.cur true true 8 3 [] [⟨1, 1, [5, 3, 0], (0, 0), 0⟩] = .ok (some (1, true)) := by
  decide

/-- **K9 as it was** (`errFirst = false`): coordinates off the curve made `NewECPoint` return nil and the next
line dereference it; the repaired tree reports the sender -/
theorem sg_old_nil_panics_witness :
    sgCheckPeer E Hnil Zk.old false false 8 3 [] ⟨1, 0, [5, 3, 1], (0, 0), 0⟩ = .panic "nil-Rj" ∧
    sgRound3 E Hnil Zk.old false false 8 3 [] [⟨1, 0, [5, 3, 1], (0, 0), 0⟩] = .panic "nil-Rj" ∧
    sgRound3 E Hnil Zk.cur true true 8 3 [] [⟨1, 0, [5, 3, 1], (0, 0), 0⟩] = .ok (some (1, true)) := by
  decide

/-- the second peer fails, the third would too: the first failing one (index 2) is reported -/
theorem sg_first_failing_witness :
    sgRound3 E Hone Zk.cur true true 8 3 []
      [⟨1, 1, [5, 3, 0], (5, 0), 8⟩, ⟨2, 1, [5, 3, 0], (5, 0), 9⟩, ⟨3, 0, [5, 3, 0], (5, 0), 8⟩] =
      .ok (some (2, true)) := by
  decide

/-- a "hash" that depends on its input (sum of the bytes), so that the context `ssid ‖ bytes(j)` matters -/
def Hsum : HashFn := fun b => [b.foldl (fun a x => a + x) 0]

/-- **replaying another participant's messages as one's own is blamed on the replayer**: peer `1`'s honest
round messages are accepted under index `1` and rejected under index `2` (the Schnorr proof was made for the
context `ssid ‖ bytes(1)`), in key generation and in signing; the round names `2` and only `2` -/
theorem replay_blamed_witness :
    kgRound3 E Hsum Zk.cur ⟨true⟩ true 8 3 1 2 7 []
      [⟨1, 200, [5, 3, 0, 4, 0], (5, 0), 12, 11⟩, ⟨2, 200, [5, 3, 0, 4, 0], (5, 0), 12, 11⟩] = .ok ⟨[2], 6⟩ ∧
    sgRound3 E Hsum Zk.cur true true 8 3 []
      [⟨1, 121, [5, 3, 0], (5, 0), 12⟩, ⟨2, 121, [5, 3, 0], (5, 0), 12⟩] = .ok (some (2, true)) := by
  decide +kernel

end sgWitnesses

/-! ## no bad output (re-exports closing the first sentence of the property) -/
section noBadOutput
open Sign

/-- whatever signature `finalize` emits — on ANY inputs, so also after any deviation — verifies
(`C01.finalize_sound`) -/
theorem no_bad_output_signature (C : Curve P) (hq : C.q < 2 ^ 256) (pub : ECPoint)
    (rx ry sumS m fullLen : Nat) (d : SigData) (h : ecdsaFinalize C pub rx ry sumS m fullLen = .ok d) :
    ecdsaVerify C pub (hashToInt C.q d.m) rx (bytesToNat d.s) = true :=
  (C01.finalize_sound C hq pub rx ry sumS m fullLen d h).1

/-- shares that all passed `Vss.verify` — whatever the dealers sent — sum to a share consistent with the public
share point of the combined commitments (`C03.verify_accept_implies_consistent`) -/
theorem no_bad_output_share {ι : Type} (hC : C.Lawful) (cfg : Vss.VerifyCfg) (ds : List ι) (t k : Nat)
    (sh : ι → Vss.Share) (vss : ι → List ECPoint)
    (hid : ∀ i ∈ ds, (sh i).id = k)
    (hv : ∀ i ∈ ds, Vss.verify C cfg t (sh i) (vss i) = .ok true) :
    C.smul ((ds.map fun i => (sh i).share).sum % C.q) C.base =
      AlgL.pubShare C (AlgL.combined C ds fun i c => ((vss i).map (AlgL.liftD C)).getD c C.zero) t k :=
  (C03.verify_accept_implies_consistent hC cfg ds t k sh vss hid hv).2

/-- a different opening of the same commitment is a collision of the hash (`C16.commit_binding`): this is why
an altered committed value is detected by the de-commitment check -/
theorem no_bad_output_binding (H : HashFn) (c : Nat) {d d' : List Nat}
    (hd : C16.Short (d.map natToBytesBE)) (hd' : C16.Short (d'.map natToBytesBE)) (hne : d ≠ d')
    (h1 : commitVerifyWith H c (d.map fun (n : Nat) => (n : Int)) = .ok true)
    (h2 : commitVerifyWith H c (d'.map fun (n : Nat) => (n : Int)) = .ok true) :
    ∃ a b : Bytes, a ≠ b ∧ bytesToNat (H a) = bytesToNat (H b) :=
  C16.commit_binding H c hd hd' hne h1 h2

/-- in the form the rounds use it: if two de-commitments both pass `DeCommit` against one commitment value,
they are equal or exhibit a collision -/
theorem no_bad_output_decommit_unique (H : HashFn) (c : Nat) (d d' : List Nat)
    (hd : C16.Short (d.map natToBytesBE)) (hd' : C16.Short (d'.map natToBytesBE))
    (flat flat' : List Int)
    (h1 : decommitWith H c (d.map Int.ofNat) = .ok (some flat))
    (h2 : decommitWith H c (d'.map Int.ofNat) = .ok (some flat')) :
    d = d' ∨ ∃ a b : Bytes, a ≠ b ∧ bytesToNat (H a) = bytesToNat (H b) := by
  by_cases hne : d = d'
  · exact Or.inl hne
  · right
    have conv : ∀ (l : List Nat) (f : List Int), decommitWith H c (l.map Int.ofNat) = .ok (some f) →
        commitVerifyWith H c (l.map fun (n : Nat) => (n : Int)) = .ok true := by
      intro l f h
      unfold decommitWith at h
      split at h
      · rename_i hv; exact hv
      · cases h
      · cases h
      · cases h
    exact C16.commit_binding H c hd hd' hne (conv d flat h1) (conv d' flat' h2)

end noBadOutput

/-! ## the hypotheses are satisfiable (toy curve `E = zmodCurve 23`, `cof = 8`, `cofInv = 3`) -/
section examples

/-- `KgCoveredFailure`, de-commitment: with `Hone` every commitment value is `1`; a peer announcing `0` fails to open -/
example : KgCoveredFailure E Hone Zk.cur ⟨true⟩ true 8 3 1 2 [] ⟨1, 0, [5, 3, 0, 4, 0], (5, 0), 8, 11⟩ :=
  .decommit (by decide)

/-- `KgCoveredFailure`, Schnorr: the honest values with `t` altered from `8` to `9` -/
example : KgCoveredFailure E Hone Zk.cur ⟨true⟩ true 8 3 1 2 [] ⟨1, 1, [5, 3, 0, 4, 0], (5, 0), 9, 11⟩ :=
  .schnorr [3, 0, 4, 0] [(3, 0), (4, 0)] (3, 0) [(4, 0)] (5, 0) (by decide) (by decide) (by decide)
    (by decide) (by decide) (by decide)

/-- `KgCoveredFailure`, share: the honest values with the share altered from `11` to `12` -/
example : KgCoveredFailure E Hone Zk.cur ⟨true⟩ true 8 3 1 2 [] ⟨1, 1, [5, 3, 0, 4, 0], (5, 0), 8, 12⟩ :=
  .share [3, 0, 4, 0] [(3, 0), (4, 0)] (3, 0) [(4, 0)] (5, 0) (by decide) (by decide) (by decide)
    (by decide) (by decide) (by decide) (by decide)

/-- `HonestKgPeer`: polynomial `3 + 4X`, `t = 1`, own id `2`, share `f(2) = 11`, blinding `5`, coin `5` -/
example : HonestKgPeer E Hone 8 3 1 2 [] ⟨1, 1, [5, 3, 0, 4, 0], (5, 0), 8, 11⟩ :=
  ⟨5, 3, [4], (3, 0), [(4, 0)], 5, .cons (by decide) (.cons (by decide) .nil), rfl, by decide, by decide,
    by decide, fun h => absurd h (by decide), by decide, rfl, by decide, by decide⟩

/-- … and the check does accept it (kernel evaluation of the model, agreeing with `honest_kg_peer_passes`) -/
example : kgCheckPeer E Hone Zk.cur ⟨true⟩ true 8 3 1 2 [] ⟨1, 1, [5, 3, 0, 4, 0], (5, 0), 8, 11⟩ =
    .ok (.ok [(3, 0), (4, 0)]) := by decide

/-- `clear_id_of_order`: `8·3 ≡ 1 (mod 23)` -/
example : (8 * 3 ≡ 1 [MOD E.q]) := by decide

/-- a round with the honest peer `1` and the deviator `2` (altered share): exactly `[2]` is reported -/
example : kgRound3 E Hone Zk.cur ⟨true⟩ true 8 3 1 2 7 []
    [⟨1, 1, [5, 3, 0, 4, 0], (5, 0), 8, 11⟩, ⟨2, 1, [5, 3, 0, 4, 0], (5, 0), 8, 12⟩] = .ok ⟨[2], 7⟩ := by
  decide

/-- `kg_accept_consistent`: the party's own polynomial `2 + 4X` (`f(2) = 10`), one honest peer, nobody blamed: hypotheses of
`kg_accept_consistent`; the saved share is `(10 + 11) mod 23` -/
example : kgRound3 E Hone Zk.cur ⟨true⟩ true 8 3 1 2 10 [] [⟨1, 1, [5, 3, 0, 4, 0], (5, 0), 8, 11⟩] =
      .ok ⟨[], 21⟩ ∧
    Vss.verify E ⟨true⟩ 1 ⟨1, 2, 10⟩ [(2, 0), (4, 0)] = .ok true := by decide

/-- signing: an honest signer (nonce `3`, coin `5`) passes; hypotheses of `sg_honest_peer_passes` -/
example : E.toAffine (E.smul 3 E.base) = some (3, 0) ∧ clear E 8 3 (3, 0) = .ok (3, 0) ∧
    C10.Schnorr.GoodCoins E Hone (contextJ [] 1) (3 : Int) (3, 0) 5 := by decide

example : sgCheckPeer E Hone Zk.cur true true 8 3 [] ⟨1, 1, [5, 3, 0], (5, 0), 8⟩ = .ok (.ok (3, 0)) := by
  decide

/-- signing: a failing one (altered `t`): `.bad`, blamed -/
example : sgCheckPeer E Hone Zk.cur true true 8 3 [] ⟨2, 1, [5, 3, 0], (5, 0), 9⟩ =
    .ok (.bad "failed to prove Rj" true) := by decide

end examples

end TssVerif.C05
