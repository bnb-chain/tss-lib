import TssVerif.Lemmas.AlgKeygen
import TssVerif.Lemmas.AlgToy
import TssVerif.Props.C01
/-! # C03 — key generation yields a consistent (t, n) sharing

"Key generation yields a consistent (t,n) sharing of one secret whose public key is the sum of all
contributions: every party's share matches its public share point, the public share points lie on one
polynomial of degree t through the public key, and any t+1 shares determine the secret."

Setting (every `Curve.Lawful` record `C`, `q = C.q` prime; any number of dealers and parties, any `t`):
* dealers `ds : List ι`, dealer `i` has coefficients `f i = [u_i, a_{i,1}, …, a_{i,t}]`;
  `F = Σ_i f_i` is `sumPoly q ds f : (ZMod q)[X]`;
* the party with id `k` ends with `share q ds f k = (Σ_i evalPoly q (f i) k) mod q` (round 3);
* commitments `V_i[c]` (points), combined `Vc[c] = Σ_i V_i[c]` (`combined`), and the public share point
  `pubShare C Vc t k = Vc[0] + Σ_{c=1..t} (k^c mod q)·Vc[c]` (`BigXj`, with the running product `zpow`).
Sums of points are `psum C` (a fold with `C.add`); no instance is needed to read the statements. -/
set_option autoImplicit false
set_option linter.style.haveILetI false
namespace TssVerif.C03
open TssVerif AlgL Polynomial

variable {P : Type} {C : Curve P} {ι : Type}

/-- **Every party's share matches its public share point**: `x_k·G = BigX_k`. -/
theorem keygen_share_matches_public (hC : C.Lawful) (ds : List ι) (f : ι → List ℕ) (t : ℕ)
    (hlen : ∀ i ∈ ds, (f i).length = t + 1) (k : ℕ) :
    C.smul (share C.q ds f k) C.base = pubShare C (combined C ds (honestCommit C f)) t k :=
  feldman_sum hC ds (fun i => Vss.evalPoly C.q (f i) k) (honestCommit C f) t k
    (fun i hi => feldman_honest hC (f i) t (hlen i hi) k)

/-- **The public share points lie on `F`, through the public key, and nobody's contribution is dropped**:
`x_k = F(k)`, `BigX_k = F(k)·G`, `F(0)·G = Vc[0] = Σ_i u_i·G`, `F(0) = Σ_i u_i`, `deg F ≤ t`. -/
theorem keygen_public_points_on_polynomial (hC : C.Lawful) (ds : List ι) (f : ι → List ℕ) (t : ℕ)
    (hlen : ∀ i ∈ ds, (f i).length = t + 1) (k : ℕ) :
    share C.q ds f k = ((sumPoly C.q ds f).eval (k : ZMod C.q)).val ∧
    pubShare C (combined C ds (honestCommit C f)) t k =
      C.smul ((sumPoly C.q ds f).eval (k : ZMod C.q)).val C.base ∧
    C.smul ((sumPoly C.q ds f).eval 0).val C.base = combined C ds (honestCommit C f) 0 ∧
    combined C ds (honestCommit C f) 0 = psum C (ds.map fun i => C.smul ((f i).getD 0 0) C.base) ∧
    (sumPoly C.q ds f).eval 0 = (((ds.map fun i => (f i).getD 0 0).sum : ℕ) : ZMod C.q) ∧
    (sumPoly C.q ds f).degree < ((t + 1 : ℕ) : WithBot ℕ) := by
  haveI : Fact C.q.Prime := ⟨hC.q_prime⟩
  have hne : ∀ i ∈ ds, f i ≠ [] := fun i hi h => by
    have := hlen i hi; rw [h] at this; simp at this
  have hsh := share_eq_val (q := C.q) ds f hne k
  refine ⟨hsh, ?_, ?_, rfl, sumPoly_eval_zero ds f, ?_⟩
  · rw [← keygen_share_matches_public hC ds f t hlen k]
    exact congrArg (fun n => C.smul n C.base) hsh
  · show _ = psum C (ds.map fun i => C.smul ((f i).getD 0 0) C.base)
    rw [psum_smul_left hC, hC.smul_base_eq_iff, ← ZMod.natCast_eq_natCast_iff, ZMod.natCast_val,
      ZMod.cast_id', id, sumPoly_eval_zero]
  · exact sumPoly_degree_lt ds f (t + 1) fun i hi => le_of_eq (hlen i hi)

/-- **Any `t+1` (or more) parties determine the secret**: for party ids `ks` pairwise distinct modulo
`q`, at least `t+1` of them, (a) the `PrepareForSigning` weights of their shares sum to
`F(0) = Σu_i (mod q)`, and (b) `ReConstruct` on their shares returns `(Σu_i) mod q`. -/
theorem keygen_any_t1_interpolates {q : ℕ} [Fact q.Prime] (ds : List ι) (f : ι → List ℕ) (t : ℕ)
    (hlen : ∀ i ∈ ds, (f i).length = t + 1)
    (ks : List ℕ) (hn : t + 1 ≤ ks.length) (hnd : (ks.map (· % q)).Nodup) :
    (∀ ws : List ℕ, ws.length = ks.length →
      (∀ i < ks.length, Sign.weight q ks i (share q ds f (ks.getD i 0)) = some (ws.getD i 0)) →
      ws.sum % q = (ds.map fun i => (f i).getD 0 0).sum % q) ∧
    Vss.reconstruct q (ks.map fun k => ⟨t, k, share q ds f k⟩) =
      .ok ((ds.map fun i => (f i).getD 0 0).sum % q) := by
  have hne : ∀ i ∈ ds, f i ≠ [] := fun i hi h => by
    have := hlen i hi; rw [h] at this; simp at this
  have hdeg : (sumPoly q ds f).degree < (ks.length : ℕ) :=
    sumPoly_degree_lt ds f ks.length fun i hi => (le_of_eq (hlen i hi)).trans hn
  have h0 : ((sumPoly q ds f).eval 0).val = (ds.map fun i => (f i).getD 0 0).sum % q := by
    rw [sumPoly_eval_zero, ZMod.val_natCast]
  constructor
  · intro ws hwl hw
    have := (C01.lagrange_weights_sum_list ks (ks.map fun k => share q ds f k) ws (sumPoly q ds f)
      hwl hdeg hnd (fun i hi => by
        rw [getD_map_of_lt ks _ 0 0 hi]
        exact share_cast ds f hne _)
      (fun i hi => by
        rw [getD_map_of_lt ks _ 0 0 hi]; exact hw i hi)).2
    rw [this, h0]
  · rw [← h0]
    apply Vss.reconstruct_eq_eval
    · intro h
      rw [List.map_eq_nil_iff] at h
      rw [h] at hn; simp at hn
    · intro s0 hs0
      obtain ⟨k, _, rfl⟩ := List.mem_map.1 (List.mem_of_mem_head? hs0)
      rw [List.length_map]
      exact Nat.le_of_succ_le hn
    · rw [List.map_map]
      exact hnd
    · rw [List.length_map]; exact hdeg
    · intro sh hsh
      obtain ⟨k, _, rfl⟩ := List.mem_map.1 hsh
      exact share_cast ds f hne k

/-- **Verification alone gives consistency** (arbitrary, possibly dishonest, dealt shares `s i` and
commitment vectors `Vi i` of arbitrary points): if every share satisfies the Feldman equation
`s_i·G = V_i[0] + Σ_{c=1..t}(k^c mod q)·V_i[c]`, then `(Σ_i s_i mod q)·G = BigX_k` computed from the
combined commitments. -/
theorem feldman_accept_implies_consistent (hC : C.Lawful) (ds : List ι) (s : ι → ℕ) (Vi : ι → ℕ → P)
    (t k : ℕ) (h : ∀ i ∈ ds, C.smul (s i) C.base = pubShare C (Vi i) t k) :
    C.smul ((ds.map s).sum % C.q) C.base = pubShare C (combined C ds Vi) t k :=
  feldman_sum hC ds s Vi t k h

/-- the same from the verifier of the code: if `Vss.verify` accepted every received share (all for my
id `k`), against the received coordinate lists `vss i`, then my summed share matches the public share
point of the combined commitments, the `V_i[c]` being the points those coordinates denote -/
theorem verify_accept_implies_consistent (hC : C.Lawful) (cfg : Vss.VerifyCfg) (ds : List ι) (t k : ℕ)
    (sh : ι → Vss.Share) (vss : ι → List ECPoint)
    (hid : ∀ i ∈ ds, (sh i).id = k)
    (hv : ∀ i ∈ ds, Vss.verify C cfg t (sh i) (vss i) = .ok true) :
    (∀ i ∈ ds, (vss i).length = t + 1 ∧ ∀ v ∈ vss i, C.ecIsOnCurve v = true) ∧
    C.smul ((ds.map fun i => (sh i).share).sum % C.q) C.base =
      pubShare C (combined C ds fun i c => ((vss i).map (liftD C)).getD c C.zero) t k := by
  have key : ∀ i ∈ ds, ((vss i).length = t + 1 ∧ ∀ v ∈ vss i, C.ecIsOnCurve v = true) ∧
      C.smul (sh i).share C.base =
        pubShare C (fun c => ((vss i).map (liftD C)).getD c C.zero) t k := by
    intro i hi
    obtain ⟨V, hV, hVl, _, heq⟩ := verify_true_feldman hC cfg t (sh i) (vss i) (hv i hi)
    rw [hid i hi, forall₂_lift_eq_map hV] at heq
    exact ⟨⟨by rw [hV.length_eq, hVl], forall₂_lift_onCurve hV⟩, heq⟩
  exact ⟨fun i hi => (key i hi).1,
    feldman_sum hC ds (fun i => (sh i).share) _ t k (fun i hi => (key i hi).2)⟩

/-- **Any `t+1` public share points interpolate to the combined constant term, whatever the dealers
sent** (a group all of whose points are killed by `q`): with the pure Lagrange coefficients
`λ_j = Sign.weight q ks j 1` of ids distinct modulo `q`, `Σ_j λ_j·BigX_{k_j} = Vc[0]`. Hence the shares
`x_j` that passed verification (`x_j·G = BigX_{k_j}`) interpolate, in the exponent, to the public key. -/
theorem public_shares_interpolate (hC : C.Lawful) (hord : ∀ p, C.smul C.q p = C.zero)
    (V : ℕ → P) (t : ℕ) (ks lam : List ℕ) (hlen : lam.length = ks.length) (ht : t < ks.length)
    (hnd : (ks.map (· % C.q)).Nodup)
    (hlam : ∀ j < ks.length, Sign.weight C.q ks j 1 = some (lam.getD j 0)) :
    psum C ((List.range ks.length).map fun j =>
      C.smul (lam.getD j 0) (pubShare C V t (ks.getD j 0))) = V 0 := by
  haveI : Fact C.q.Prime := ⟨hC.q_prime⟩
  have _ := hlen
  exact pubShare_interpolate hC hord V ks lam
    (lagrange_coeff_modEq ks lam (injOn_of_nodup ks hnd) hlam) t ht

/-! ## Non-vacuity: two dealers, `t = 1`, ids `1, 2, 3`, on the toy curves of order 23

`f_0 = 5 + 7X`, `f_1 = 3 + 2X`, `F = 8 + 9X`: shares `17, 3, 12`; `PK = 8·G`. -/
section examples

instance fact23 : Fact (Nat.Prime 23) := ⟨by decide⟩

abbrev E := zmodCurve 23
abbrev W := zmodCurveW 23

def f2 : ℕ → List ℕ
  | 0 => [5, 7]
  | _ => [3, 2]

example : share 23 [0, 1] f2 1 = 17 ∧ share 23 [0, 1] f2 2 = 3 ∧ share 23 [0, 1] f2 3 = 12 := by decide

/-- share 2 matches its public share point (theorem, then the model run of both sides) -/
example : W.smul (share 23 [0, 1] f2 2) W.base =
    pubShare W (combined W [0, 1] (honestCommit W f2)) 1 2 :=
  keygen_share_matches_public (zmodCurveW_lawful 23) [0, 1] f2 1 (by decide) 2
example : W.smul 3 W.base = 3 ∧ pubShare W (combined W [0, 1] (honestCommit W f2)) 1 2 = 3 := by decide

/-- the public key is `(5 + 3)·G` -/
example : combined W [0, 1] (honestCommit W f2) 0 = W.smul 8 W.base := by decide

/-- parties 1 and 3 interpolate: weights `3·2⁻¹·17`, `1·(−2)⁻¹·12`, and `ReConstruct` -/
example : Sign.weight 23 [1, 3] 0 17 = some 14 ∧ Sign.weight 23 [1, 3] 1 12 = some 17 ∧
    (14 + 17) % 23 = 8 := by decide
example : Vss.reconstruct 23 ([1, 3].map fun k => ⟨1, k, share 23 [0, 1] f2 k⟩) = .ok ((5 + 3) % 23) :=
  (keygen_any_t1_interpolates (q := 23) [0, 1] f2 1 (by decide) [1, 3] (by decide) (by decide)).2
example : ([14, 17] : List ℕ).sum % 23 = ([0, 1].map fun i => (f2 i).getD 0 0).sum % 23 :=
  (keygen_any_t1_interpolates (q := 23) [0, 1] f2 1 (by decide) [1, 3] (by decide) (by decide)).1
    [14, 17] rfl (by decide)

/-- a dishonest dealer 1 commits to `3 + 2X` but sends party 2 the share of `3 + 2X` anyway while
dealer 0 commits to points unrelated to any polynomial it knows: acceptance is all that matters -/
example : W.smul ((([0, 1] : List ℕ).map fun i => if i = 0 then 19 else 7).sum % 23) W.base =
    pubShare W (combined W [0, 1] fun i c => if i = 0 then (if c = 0 then 5 else 7) else
      (if c = 0 then 3 else 2)) 1 2 :=
  feldman_accept_implies_consistent (zmodCurveW_lawful 23) [0, 1] (fun i => if i = 0 then 19 else 7) _ 1 2
    (by decide)

/-- through the verifier of the code -/
example : W.smul ((([0, 1] : List ℕ).map fun i =>
      ((fun i => if i = 0 then (⟨1, 2, 19⟩ : Vss.Share) else ⟨1, 2, 7⟩) i).share).sum % 23) W.base =
    pubShare W (combined W [0, 1] fun i c =>
      (((fun i => if i = 0 then [((5 : ℕ), (0 : ℕ)), (7, 0)] else [(3, 0), (2, 0)]) i).map
        (liftD W)).getD c W.zero) 1 2 :=
  (verify_accept_implies_consistent (zmodCurveW_lawful 23) OpsCrypto.curVss [0, 1] 1 2
    (fun i => if i = 0 then ⟨1, 2, 19⟩ else ⟨1, 2, 7⟩)
    (fun i => if i = 0 then [(5, 0), (7, 0)] else [(3, 0), (2, 0)]) (by decide) (by decide)).2

/-- interpolation in the exponent with arbitrary points `V_0 = 8, V_1 = 9` and ids `1, 3`:
`λ = (13, 11)` -/
example : Sign.weight 23 [1, 3] 0 1 = some 13 ∧ Sign.weight 23 [1, 3] 1 1 = some 11 := by decide
example : psum W ((List.range 2).map fun j =>
    W.smul (([13, 11] : List ℕ).getD j 0) (pubShare W (fun c => if c = 0 then 8 else 9) 1
      (([1, 3] : List ℕ).getD j 0))) = 8 :=
  public_shares_interpolate (zmodCurveW_lawful 23) (zmodCurveW_order 23) _ 1 [1, 3] [13, 11] rfl
    (by decide) (by decide) (by decide)

end examples

end TssVerif.C03
