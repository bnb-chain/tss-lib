import TssVerif.Props.C16
/-! # C16 (continued) — the parts framing is unambiguous; in-range lengths are read exactly;
`DeCommit` releases the secrets only when `Verify` accepts

Property theorems only; they are corollaries of `Props/C16.lean` over the same executable
definitions (`Core/Commit.lean`), so the correspondence operations that tie those definitions to
`crypto/commitments` (`builder_secrets`, `parse_secrets`, `commit_verify`, `decommit`) tie these too. -/
namespace TssVerif.C16
open TssVerif

/-- **unambiguous parts framing**: two part lists that the builder packs into the same element
sequence are the same part list (no re-grouping, no shifted boundary, no dropped or added empty
part); stated for every packing of at least two elements, which is every packing the parser accepts -/
theorem builder_injective {p p' : List (List Int)} {s : List Int}
    (hp : builderSecrets p = .ok s) (hp' : builderSecrets p' = .ok s)
    (h2 : 2 ≤ (p.map fun x => x.length + 1).sum) (h2' : 2 ≤ (p'.map fun x => x.length + 1).sum) :
    p = p' := by
  obtain ⟨a1, a2⟩ := (builder_refuses_iff p).mp ⟨s, hp⟩
  obtain ⟨b1, b2⟩ := (builder_refuses_iff p').mp ⟨s, hp'⟩
  obtain ⟨t, ht, hpar⟩ := builder_roundtrip p a1 a2 h2
  obtain ⟨t', ht', hpar'⟩ := builder_roundtrip p' b1 b2 h2'
  rw [hp] at ht; rw [hp'] at ht'
  cases ht; cases ht'
  rw [hpar] at hpar'
  cases hpar'
  rfl

/-- what the parser returns for a packed sequence is what was packed: a party that parses
`builder.Secrets()` of a peer can never obtain a different part list than the peer built -/
theorem parse_of_packed_unique {p q : List (List Int)} {s : List Int}
    (hp : builderSecrets p = .ok s) (h2 : 2 ≤ (p.map fun x => x.length + 1).sum)
    (hq : parseSecretsCfg curParse s = .ok q) : q = p := by
  obtain ⟨a1, a2⟩ := (builder_refuses_iff p).mp ⟨s, hp⟩
  obtain ⟨t, ht, hpar⟩ := builder_roundtrip p a1 a2 h2
  rw [hp] at ht; cases ht
  rw [hpar] at hq; cases hq; rfl

/-- a length element inside the int64 range is read exactly (the wrap-around of `(*big.Int).Int64()`
can only be reached by an element outside the range, which the current tree refuses) -/
theorem goInt64_exact (v : Int) (h1 : -(2 ^ 63 : Int) ≤ v) (h2 : v < (2 ^ 63 : Int)) : goInt64 v = v :=
  C16L.goInt64_of_range h1 h2

/-- the wrap-around exists in the model as in Go: `2^63` reads as `-2^63` (the K4 input) -/
theorem goInt64_wraps_witness : goInt64 (2 ^ 63) = -(2 ^ 63 : Int) := by decide

/-- `DeCommit` hands out secrets exactly when `Verify` accepts, and then they are the decommitment
without its randomness element -/
theorem decommit_some_iff_verify (H : HashFn) (c : Nat) (d : List Int) (s : List Int) :
    decommitWith H c d = .ok (some s) ↔ (commitVerifyWith H c d = .ok true ∧ s = d.drop 1) := by
  unfold decommitWith
  constructor
  · intro h
    split at h <;> simp_all
  · rintro ⟨h, rfl⟩
    simp [h]

/-- a decommitment that does not hash to the commitment releases nothing -/
theorem decommit_refuses_wrong_opening (H : HashFn) (c : Nat) (d : List Int)
    (h : commitVerifyWith H c d = .ok false) : decommitWith H c d = .ok none := by
  simp [decommitWith, h]

/-- two accepted openings of one commitment that release different secrets exhibit a collision of the
hash (binding, stated on what `DeCommit` returns rather than on `Verify`) -/
theorem decommit_binding (H : HashFn) (c : Nat) {d d' : List Nat} {s s' : List Int}
    (hd : Short (d.map natToBytesBE)) (hd' : Short (d'.map natToBytesBE))
    (h1 : decommitWith H c (d.map fun (n : Nat) => (n : Int)) = .ok (some s))
    (h2 : decommitWith H c (d'.map fun (n : Nat) => (n : Int)) = .ok (some s'))
    (hne : s ≠ s') : ∃ a b : Bytes, a ≠ b ∧ bytesToNat (H a) = bytesToNat (H b) := by
  obtain ⟨v1, e1⟩ := (decommit_some_iff_verify H c _ s).mp h1
  obtain ⟨v2, e2⟩ := (decommit_some_iff_verify H c _ s').mp h2
  have hdd : d ≠ d' := by
    intro heq; subst heq; exact hne (e1.trans e2.symm)
  exact commit_binding H c hd hd' hdd v1 v2

/-! ## hypotheses are satisfiable -/
example : builderSecrets [[7], [], [8, 9]] = .ok [1, 7, 0, 2, 8, 9] ∧
    2 ≤ (([[7], [], [8, 9]] : List (List Int)).map fun x => x.length + 1).sum := by decide

end TssVerif.C16
