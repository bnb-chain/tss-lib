import TssVerif.Lemmas.C05Rs
import TssVerif.Props.C05b
/-! # C05c — one deviating new member in the parameter checks of ECDSA resharing round 4: who is named

The object is `BlameEc.rsRound4Params` (`ecdsa/resharing/round_4_new_step_2.go`, first part): what a new committee
member checks about the Paillier / ring-Pedersen parameters announced by the other new members in
`DGRound2Message1` — sequential structural checks on every stored message (the party's own included: `h1 ≠ h2`,
duplicate detection of `h1`/`h2` across parties; NO size check, unlike key generation round 2), then the
verdicts of three job lists handed to the verifier pool: the Paillier-Blum modulus proofs first, then the first
DLN proofs, then the second DLN proofs. It is the sibling of `round2` treated in `Props/C05b.lean`.

Everything holds for every hash function `H`, every tree configuration `zcfg`, every parser configuration
`pcfg` (the no-panic and totality theorems are stated for the current ones), every session id, both values
of `noMod`, and unboundedly many messages.

* `rs_pass_iff`, `rs_scan_none_spawns_all`, `rs_pass_iff_all`, `rs_scan_none_iff` — the checks pass iff no
  structural check fails (all `h1 ≠ h2`, no value shared by two messages) and all three proofs of every message
  are accepted (no hypothesis is needed: a result `.ok _` already means that every job returned a verdict);
* `rs_culprits_are_senders` — whoever is named sent one of the stored messages;
* `rs_structural_failure_cases`, `rs_structural_equal_blames_sender`, `rs_duplicate_never_names_own`,
  `rs_duplicateCulprits` — `h1 = h2` names the sender; a clash names the OTHER party when one of the two
  clashing messages is the reporting party's own, and nobody otherwise;
* `HonestOthersRs`, `DevJobsReturnRs` — "every new member except `dev` is honest" as far as these checks see it;
  `rs_single_deviator` (errors name nobody but the deviator), `rs_covered_alteration_blamed` (an invalid
  modulus or DLN proof; the error text is the DLN one in all three cases), `rs_equal_blamed`,
  `rs_missing_mod_proof`, `rs_missing_mod_proof_blamed`, `rs_missing_mod_proof_tolerated`,
  `rs_duplicate_with_own_blames_other`, `rs_duplicate_with_third_names_nobody`, `rs_duplicate_general`;
* `rs_no_panic`, `rs_mod_job_never_errs`, `rs_dev_jobs_return`, `rs_returns` — on the current tree the pool
  jobs and the checks always return a verdict (`rs_old_tree_panics_witness`: not on the old tree);
* `rs_no_size_check_witness`, `rs_tiny_moduli_pass_witness` — a 3-bit Paillier modulus and a 3-bit (resp. 10-bit)
  `NTilde` pass here and are refused by key generation round 2. -/
set_option autoImplicit false
namespace TssVerif.C05c
open TssVerif BlameEc C05EcL C06L C05RsL

section rs
variable (H : HashFn) (zcfg : Zk.Cfg) (pcfg : ParseCfg) (noMod : Bool) (ssid : Bytes)

/-- the checks pass iff the loop finds no structural failure and the modulus proof and both DLN proofs
of every message handed to the pool are accepted. (The side condition "every job returns a verdict" is not
needed, it follows from either side.) -/
theorem rs_pass_iff (own : Nat) (msgs : List RsR2Msg) :
    rsRound4Params H zcfg pcfg noMod own ssid msgs = .ok .pass ↔
      (scanRs own [] msgs).2 = none ∧
      ∀ m ∈ (scanRs own [] msgs).1, modJob H zcfg noMod ssid m = .ok true ∧
        dlnCheck H pcfg m.dln1 m.h1 m.h2 m.nTilde = .ok true ∧
        dlnCheck H pcfg m.dln2 m.h2 m.h1 m.nTilde = .ok true := by
  rw [rs_eq]; exact rsGen_pass_iff _ _ _ own msgs

/-- without a structural failure every stored message is handed to the pool -/
theorem rs_scan_none_spawns_all (own : Nat) (msgs : List RsR2Msg) (h : (scanRs own [] msgs).2 = none) :
    (scanRs own [] msgs).1 = msgs :=
  scanRs_none_spawns_all own msgs [] h

/-- … so: pass ⟺ no structural failure and every stored message (the party's own too) has three valid proofs -/
theorem rs_pass_iff_all (own : Nat) (msgs : List RsR2Msg) :
    rsRound4Params H zcfg pcfg noMod own ssid msgs = .ok .pass ↔
      (scanRs own [] msgs).2 = none ∧
      ∀ m ∈ msgs, modJob H zcfg noMod ssid m = .ok true ∧
        dlnCheck H pcfg m.dln1 m.h1 m.h2 m.nTilde = .ok true ∧
        dlnCheck H pcfg m.dln2 m.h2 m.h1 m.nTilde = .ok true := by
  rw [rs_pass_iff]
  constructor
  · rintro ⟨h1, h2⟩
    exact ⟨h1, by rw [rs_scan_none_spawns_all own msgs h1] at h2; exact h2⟩
  · rintro ⟨h1, h2⟩
    exact ⟨h1, by rw [rs_scan_none_spawns_all own msgs h1]; exact h2⟩

/-- "no structural failure" spelled out: every message has `h1 ≠ h2` and no two messages share a value
(whoever the reporting party is) -/
theorem rs_scan_none_iff (own : Nat) (msgs : List RsR2Msg) :
    (scanRs own [] msgs).2 = none ↔
      (∀ m ∈ msgs, m.h1 ≠ m.h2) ∧
      msgs.Pairwise (fun a b => a.h1 ≠ b.h1 ∧ a.h1 ≠ b.h2 ∧ a.h2 ≠ b.h1 ∧ a.h2 ≠ b.h2) := by
  rw [scanRs_none_iff_aux]
  constructor
  · rintro ⟨h1, h2⟩; exact ⟨fun m hm => (h1 m hm).1, h2⟩
  · rintro ⟨h1, h2⟩; exact ⟨fun m hm => ⟨h1 m hm, by nofun, by nofun⟩, h2⟩

/-- every culprit is the sender of one of the stored messages -/
theorem rs_culprits_are_senders (own : Nat) (msgs : List RsR2Msg) (why : String) (cs : List Nat)
    (h : rsRound4Params H zcfg pcfg noMod own ssid msgs = .ok (.fail why cs)) :
    ∀ c ∈ cs, ∃ m ∈ msgs, m.idx = c := by
  rw [rs_eq] at h; exact rsGen_culprits_are_senders _ _ _ own msgs why cs h

/-- the ways the structural check on one message fails: `h1 = h2` (culprit: the sender), or one of its
values was recorded before with the index `k` (culprits: `duplicateCulprits` of the sender and `k`); `h1` is
looked up first -/
theorem rs_structural_failure_cases (own : Nat) (seen : List (Nat × Nat)) (m : RsR2Msg) (why : String)
    (cs : List Nat) (h : structuralRs own seen m = some (why, cs)) :
    (m.h1 = m.h2 ∧ why = "h1j and h2j were equal for this party" ∧ cs = [m.idx]) ∨
    (m.h1 ≠ m.h2 ∧
      ((why = "this h1j was already used by another party" ∧
          ∃ k, (m.h1, k) ∈ seen ∧ cs = duplicateCulprits own m.idx k) ∨
        (why = "this h2j was already used by another party" ∧
          ∃ k, (m.h2, k) ∈ seen ∧ cs = duplicateCulprits own m.idx k))) :=
  structuralRs_some_cases own seen m why cs h

/-- … conversely `h1 = h2` always fails, naming the sender -/
theorem rs_structural_equal_blames_sender (own : Nat) (seen : List (Nat × Nat)) (m : RsR2Msg)
    (h : m.h1 = m.h2) :
    structuralRs own seen m = some ("h1j and h2j were equal for this party", [m.idx]) := by
  unfold structuralRs; rw [if_pos (by simp [h])]

/-- … and the check passes exactly when `h1 ≠ h2` and neither value was recorded before -/
theorem rs_structural_pass_iff (own : Nat) (seen : List (Nat × Nat)) (m : RsR2Msg) :
    structuralRs own seen m = none ↔
      m.h1 ≠ m.h2 ∧ (∀ p ∈ seen, p.1 ≠ m.h1) ∧ (∀ p ∈ seen, p.1 ≠ m.h2) :=
  structuralRs_none_iff own seen m

/-- a duplicate failure never names the reporting party -/
theorem rs_duplicate_never_names_own (own : Nat) (seen : List (Nat × Nat)) (m : RsR2Msg) (why : String)
    (cs : List Nat) (h : structuralRs own seen m = some (why, cs)) (hne : m.h1 ≠ m.h2) : own ∉ cs := by
  rcases structuralRs_some_cases own seen m why cs h with ⟨he, _⟩ | ⟨_, ⟨_, k, _, hcs⟩ | ⟨_, k, _, hcs⟩⟩
  · exact absurd he hne
  · rw [hcs]; exact dup_not_own own m.idx k
  · rw [hcs]; exact dup_not_own own m.idx k

/-- `duplicateCulprits own j k`: a subset of `{j, k}` that never contains `own`; it is `[k]` when
`j = own ≠ k`, `[j]` when `k = own ≠ j`, and empty otherwise -/
theorem rs_duplicateCulprits (own j k : Nat) :
    (∀ c ∈ duplicateCulprits own j k, c = j ∨ c = k) ∧
    own ∉ duplicateCulprits own j k ∧
    (j = own → k ≠ own → duplicateCulprits own j k = [k]) ∧
    (k = own → j ≠ own → duplicateCulprits own j k = [j]) ∧
    (j ≠ own → k ≠ own → duplicateCulprits own j k = []) ∧
    (j = own → k = own → duplicateCulprits own j k = []) :=
  ⟨dup_subset own j k, dup_not_own own j k, fun hj hk => by subst hj; exact dup_own_left hk,
    fun hk hj => by subst hk; exact dup_own_right hj, fun hj hk => dup_neither hj hk,
    fun hj hk => by subst hj hk; exact dup_both⟩

/-! ### one deviator -/

/-- **every new member other than `dev` is honest**, as far as these checks of the party `own` see it: the
indices of the stored messages are pairwise distinct; every message not from `dev` (so also `own`'s) has
`h1 ≠ h2`, a modulus proof and two DLN proofs that the pool accepts; and no two such messages share a value
`h1`/`h2` -/
structure HonestOthersRs (own dev : Nat) (msgs : List RsR2Msg) : Prop where
  dev_ne_own : dev ≠ own
  idx_distinct : (msgs.map (·.idx)).Nodup
  shape : ∀ m ∈ msgs, m.idx ≠ dev → m.h1 ≠ m.h2
  no_clash : ∀ m ∈ msgs, ∀ m' ∈ msgs, m.idx ≠ dev → m'.idx ≠ dev → m.idx ≠ m'.idx →
    m.h1 ≠ m'.h1 ∧ m.h1 ≠ m'.h2 ∧ m.h2 ≠ m'.h1 ∧ m.h2 ≠ m'.h2
  jobs : ∀ m ∈ msgs, m.idx ≠ dev → modJob H zcfg noMod ssid m = .ok true ∧
    dlnCheck H pcfg m.dln1 m.h1 m.h2 m.nTilde = .ok true ∧
    dlnCheck H pcfg m.dln2 m.h2 m.h1 m.nTilde = .ok true

/-- the three pool jobs on the deviator's message return a verdict (they always do on the current tree:
`rs_dev_jobs_return`) -/
def DevJobsReturnRs (dev : Nat) (msgs : List RsR2Msg) : Prop :=
  ∀ m ∈ msgs, m.idx = dev → (∃ b, modJob H zcfg noMod ssid m = .ok b) ∧
    (∃ b, dlnCheck H pcfg m.dln1 m.h1 m.h2 m.nTilde = .ok b) ∧
    ∃ b, dlnCheck H pcfg m.dln2 m.h2 m.h1 m.nTilde = .ok b

variable {H zcfg pcfg noMod ssid}

theorem HonestOthersRs.oneDev {own dev : Nat} {msgs : List RsR2Msg}
    (h : HonestOthersRs H zcfg pcfg noMod ssid own dev msgs) : OneDevRs own dev msgs :=
  ⟨h.dev_ne_own, h.idx_distinct, h.shape,
    fun m hm m' hm' h1 h2 h3 => C05L.not_or₄ (h.no_clash m hm m' hm' h1 h2 h3)⟩

theorem HonestOthersRs.jobsOk {own dev : Nat} {msgs : List RsR2Msg}
    (h : HonestOthersRs H zcfg pcfg noMod ssid own dev msgs)
    (hj : DevJobsReturnRs H zcfg pcfg noMod ssid dev msgs) :
    JobsOk (modJob H zcfg noMod ssid) (dlnA H pcfg) (dlnB H pcfg) dev msgs := ⟨h.jobs, hj⟩

/-- **errors name nobody but the deviator**: the checks pass, or fail naming at most `dev` -/
theorem rs_single_deviator {own dev : Nat} {msgs : List RsR2Msg}
    (hh : HonestOthersRs H zcfg pcfg noMod ssid own dev msgs)
    (hj : DevJobsReturnRs H zcfg pcfg noMod ssid dev msgs) :
    rsRound4Params H zcfg pcfg noMod own ssid msgs = .ok .pass ∨
      ∃ why cs, rsRound4Params H zcfg pcfg noMod own ssid msgs = .ok (.fail why cs) ∧ ∀ c ∈ cs, c = dev := by
  rw [rs_eq]; exact rsGen_single_deviator hh.oneDev (hh.jobsOk hj)

set_option linter.unusedVariables false in
/-- **an invalid modulus or DLN proof is blamed on its sender**: no structural failure, and one of the
three jobs on the deviator's message says "invalid". The library reports the DLN text for a failed modulus
proof too. (Of `HonestOthersRs` only the field `jobs` is used, and `hdev` not at all: by `jobs` a message with an
invalid proof can only be the deviator's.) -/
theorem rs_covered_alteration_blamed {own dev : Nat} {msgs : List RsR2Msg}
    (hh : HonestOthersRs H zcfg pcfg noMod ssid own dev msgs)
    (hj : DevJobsReturnRs H zcfg pcfg noMod ssid dev msgs)
    (hscan : (scanRs own [] msgs).2 = none) (md : RsR2Msg) (hmd : md ∈ msgs) (hdev : md.idx = dev)
    (hbad : modJob H zcfg noMod ssid md = .ok false ∨
      dlnCheck H pcfg md.dln1 md.h1 md.h2 md.nTilde = .ok false ∨
      dlnCheck H pcfg md.dln2 md.h2 md.h1 md.nTilde = .ok false) :
    rsRound4Params H zcfg pcfg noMod own ssid msgs = .ok (.fail "dln proof verification failed" [dev]) := by
  rw [rs_eq]; exact rsGen_bad_job (hh.jobsOk hj) hscan hmd hbad

/-- `h1 = h2` is blamed on its sender (no hypothesis on the deviator's proofs: they are never handed to the
pool) -/
theorem rs_equal_blamed {own dev : Nat} {msgs : List RsR2Msg}
    (hh : HonestOthersRs H zcfg pcfg noMod ssid own dev msgs)
    (md : RsR2Msg) (hmd : md ∈ msgs) (hdev : md.idx = dev) (hbad : md.h1 = md.h2) :
    rsRound4Params H zcfg pcfg noMod own ssid msgs =
      .ok (.fail "h1j and h2j were equal for this party" [dev]) := by
  rw [rs_eq]; exact rsGen_equal hh.oneDev hh.jobs hmd hdev hbad

/-- a modulus proof that does not decode: the job answers `noMod` -/
theorem rs_missing_mod_proof (H : HashFn) (zcfg : Zk.Cfg) (noMod : Bool) (ssid : Bytes) (m : RsR2Msg)
    (h : modFromBytes m.modProof = none) : modJob H zcfg noMod ssid m = .ok noMod :=
  modJob_undecodable H zcfg noMod ssid m h

/-- … exactly: the modulus job answers `b` iff the proof decodes and the verifier answers `b` under the
context `ssid ‖ bytes(idx)` for the announced Paillier modulus, or it does not decode and `noMod = b` -/
theorem rs_mod_job_iff (H : HashFn) (zcfg : Zk.Cfg) (noMod : Bool) (ssid : Bytes) (m : RsR2Msg) (b : Bool) :
    modJob H zcfg noMod ssid m = .ok b ↔
      (∃ w xs a c zs, modFromBytes m.modProof = some (w, xs, a, c, zs) ∧
        Zk.modVerify zcfg H (Blame.contextJ ssid m.idx) w (xs.map Int.ofNat) a c (zs.map Int.ofNat)
          m.paillierN = .ok b) ∨
      (modFromBytes m.modProof = none ∧ noMod = b) := by
  unfold modJob
  cases hd : modFromBytes m.modProof with
  | none =>
    simp only [reduceCtorEq, false_and, exists_false, true_and, false_or]
    constructor
    · intro h; injection h
    · intro h; rw [h]
  | some t =>
    obtain ⟨w, xs, a, c, zs⟩ := t
    simp

/-- **`noMod = false`**: a missing (undecodable) modulus proof is blamed on its sender -/
theorem rs_missing_mod_proof_blamed {own dev : Nat} {msgs : List RsR2Msg}
    (hh : HonestOthersRs H zcfg pcfg false ssid own dev msgs)
    (hj : DevJobsReturnRs H zcfg pcfg false ssid dev msgs)
    (hscan : (scanRs own [] msgs).2 = none) (md : RsR2Msg) (hmd : md ∈ msgs) (hdev : md.idx = dev)
    (hmiss : modFromBytes md.modProof = none) :
    rsRound4Params H zcfg pcfg false own ssid msgs = .ok (.fail "dln proof verification failed" [dev]) :=
  rs_covered_alteration_blamed hh hj hscan md hmd hdev (Or.inl (modJob_undecodable H zcfg false ssid md hmiss))

/-- **`noMod = true`**: a missing modulus proof does not make the checks fail — if the deviator's two
DLN proofs are accepted, the checks pass (if one is rejected, `rs_covered_alteration_blamed` applies) -/
theorem rs_missing_mod_proof_tolerated {own dev : Nat} {msgs : List RsR2Msg}
    (hh : HonestOthersRs H zcfg pcfg true ssid own dev msgs)
    (hscan : (scanRs own [] msgs).2 = none) (md : RsR2Msg) (hmd : md ∈ msgs) (hdev : md.idx = dev)
    (hmiss : modFromBytes md.modProof = none)
    (h1 : dlnCheck H pcfg md.dln1 md.h1 md.h2 md.nTilde = .ok true)
    (h2 : dlnCheck H pcfg md.dln2 md.h2 md.h1 md.nTilde = .ok true) :
    modJob H zcfg true ssid md = .ok true ∧
      rsRound4Params H zcfg pcfg true own ssid msgs = .ok .pass := by
  have hm := modJob_undecodable H zcfg true ssid md hmiss
  refine ⟨hm, ?_⟩
  rw [rs_pass_iff_all]
  refine ⟨hscan, fun m hx => ?_⟩
  by_cases h : m.idx = dev
  · have : m = md := List.inj_on_of_nodup_map hh.idx_distinct hx hmd (h.trans hdev.symm)
    subst this
    exact ⟨hm, h1, h2⟩
  · exact hh.jobs m hx h

/-- **general form**: the deviator's message (with `h1 ≠ h2`) shares a value with an honest one. Then the
checks fail with a duplicate error whose culprits are `duplicateCulprits` applied to `dev` and the index of an
honest message `other` sharing a value with the deviator's — in the order in which the loop met the two -/
theorem rs_duplicate_general {own dev : Nat} {msgs : List RsR2Msg}
    (hh : HonestOthersRs H zcfg pcfg noMod ssid own dev msgs)
    (hj : DevJobsReturnRs H zcfg pcfg noMod ssid dev msgs)
    (md mx : RsR2Msg) (hmd : md ∈ msgs) (hdev : md.idx = dev) (hsz : md.h1 ≠ md.h2)
    (hmx : mx ∈ msgs) (hx : mx.idx ≠ dev)
    (hc : md.h1 = mx.h1 ∨ md.h1 = mx.h2 ∨ md.h2 = mx.h1 ∨ md.h2 = mx.h2) :
    ∃ why cs other, rsRound4Params H zcfg pcfg noMod own ssid msgs = .ok (.fail why cs) ∧
      (why = "this h1j was already used by another party" ∨
        why = "this h2j was already used by another party") ∧
      other ∈ msgs ∧ other.idx ≠ dev ∧
      (md.h1 = other.h1 ∨ md.h1 = other.h2 ∨ md.h2 = other.h1 ∨ md.h2 = other.h2) ∧
      (cs = duplicateCulprits own dev other.idx ∨ cs = duplicateCulprits own other.idx dev) := by
  rw [rs_eq]; exact rsGen_clash hh.oneDev (hh.jobsOk hj) hmd hdev hsz hmx hx hc

/-- **copying a value of the reporting party is blamed on the copier**, whichever of the two messages is
stored first. `hthird`: the deviator's message shares no value with a third party's (otherwise the lookup may
find that one first, see `rs_duplicate_with_third_names_nobody`) -/
theorem rs_duplicate_with_own_blames_other {own dev : Nat} {msgs : List RsR2Msg}
    (hh : HonestOthersRs H zcfg pcfg noMod ssid own dev msgs)
    (hj : DevJobsReturnRs H zcfg pcfg noMod ssid dev msgs)
    (md mo : RsR2Msg) (hmd : md ∈ msgs) (hdev : md.idx = dev) (hsz : md.h1 ≠ md.h2)
    (hmo : mo ∈ msgs) (hown : mo.idx = own)
    (hc : md.h1 = mo.h1 ∨ md.h1 = mo.h2 ∨ md.h2 = mo.h1 ∨ md.h2 = mo.h2)
    (hthird : ∀ m ∈ msgs, m.idx ≠ dev → m.idx ≠ own →
      md.h1 ≠ m.h1 ∧ md.h1 ≠ m.h2 ∧ md.h2 ≠ m.h1 ∧ md.h2 ≠ m.h2) :
    ∃ why, rsRound4Params H zcfg pcfg noMod own ssid msgs = .ok (.fail why [dev]) ∧
      (why = "this h1j was already used by another party" ∨
        why = "this h2j was already used by another party") := by
  rw [rs_eq]
  exact rsGen_clash_with_own hh.oneDev (hh.jobsOk hj) hmd hdev hsz hmo hown hc
    (fun m hm h1 h2 => C05L.not_or₄ (hthird m hm h1 h2))

/-- **copying a value of a third party names nobody** — whether the third party's message is stored
before or after the deviator's. `hnown`: the deviator's message shares no value with the reporting party's -/
theorem rs_duplicate_with_third_names_nobody {own dev : Nat} {msgs : List RsR2Msg}
    (hh : HonestOthersRs H zcfg pcfg noMod ssid own dev msgs)
    (hj : DevJobsReturnRs H zcfg pcfg noMod ssid dev msgs)
    (md mt : RsR2Msg) (hmd : md ∈ msgs) (hdev : md.idx = dev) (hsz : md.h1 ≠ md.h2)
    (hmt : mt ∈ msgs) (ht : mt.idx ≠ dev)
    (hc : md.h1 = mt.h1 ∨ md.h1 = mt.h2 ∨ md.h2 = mt.h1 ∨ md.h2 = mt.h2)
    (hnown : ∀ m ∈ msgs, m.idx = own → md.h1 ≠ m.h1 ∧ md.h1 ≠ m.h2 ∧ md.h2 ≠ m.h1 ∧ md.h2 ≠ m.h2) :
    ∃ why, rsRound4Params H zcfg pcfg noMod own ssid msgs = .ok (.fail why []) ∧
      (why = "this h1j was already used by another party" ∨
        why = "this h2j was already used by another party") := by
  rw [rs_eq]
  exact rsGen_clash_with_third hh.oneDev (hh.jobsOk hj) hmd hdev hsz hmt ht hc
    (fun m hm h1 => C05L.not_or₄ (hnown m hm h1))

/-- **the parameter checks never crash** on the current tree, whatever is stored -/
theorem rs_no_panic (H : HashFn) (noMod : Bool) (own : Nat) (ssid : Bytes) (msgs : List RsR2Msg)
    (tag : String) : rsRound4Params H Zk.cur Ops16.curParse noMod own ssid msgs ≠ .panic tag := by
  rw [rs_eq, rsGen_eq]
  exact poolRound_noPanic _ _ _ _ (forall_mem_triple.2 ⟨fun m _ => modJob_noPanic H noMod ssid m,
    fun _ _ => dlnCheck_noPanic H _ _ _ _, fun _ _ => dlnCheck_noPanic H _ _ _ _⟩) tag

/-- the modulus job never reports an error, on any tree and for any input: `modVerify` only answers yes/no or
crashes (an even or non-positive modulus on the old tree), and a proof that does not decode counts as `noMod` -/
theorem rs_mod_job_never_errs (H : HashFn) (zcfg : Zk.Cfg) (noMod : Bool) (ssid : Bytes) (m : RsR2Msg)
    (e : String) : modJob H zcfg noMod ssid m ≠ .err e :=
  modJob_noErr H zcfg noMod ssid m e

/-- … so every pool job returns a verdict on the current tree: `DevJobsReturnRs` always holds there -/
theorem rs_dev_jobs_return (H : HashFn) (noMod : Bool) (ssid : Bytes) (dev : Nat) (msgs : List RsR2Msg) :
    DevJobsReturnRs H Zk.cur Ops16.curParse noMod ssid dev msgs :=
  fun m _ _ => ⟨modJob_total H noMod ssid m, dlnCheck_total H _ _ _ _, dlnCheck_total H _ _ _ _⟩

/-- … and the checks always return a verdict (never `.err`, never `.panic`) -/
theorem rs_returns (H : HashFn) (noMod : Bool) (own : Nat) (ssid : Bytes) (msgs : List RsR2Msg) :
    ∃ v, rsRound4Params H Zk.cur Ops16.curParse noMod own ssid msgs = .ok v := by
  rw [rs_eq]
  exact ⟨_, rsGen_of_checks_ok _ _ _ own msgs (fun m _ => modJob_total H noMod ssid m)
    (fun m _ => dlnCheck_total H _ _ _ _) (fun m _ => dlnCheck_total H _ _ _ _)⟩

end rs

/-! ## the hypotheses are satisfiable (kernel evaluation of the model) -/
section examples

/-- a trivial "hash" with empty digests: every DLN challenge and every modulus-proof challenge is `0` -/
def Hnil : HashFn := fun _ => []

/-- a serialized DLN proof `alpha = (a, …, a)`, `t = (2, …, 2)` (128 entries each, with the two length
elements); under the challenge `0` it proves `h^2 = a` -/
def prf (a : UInt8) : List Bytes := [[128]] ++ List.replicate 128 [a] ++ [[128]] ++ List.replicate 128 [2]

/-- a stored message with the Paillier modulus `n`, the 10-bit `NTilde = 1000`, the values `h1`, `h2`, the DLN
proofs `prf a1`, `prf a2` — accepted under `Hnil` when `a1 = h1²`, `a2 = h2²` — and the modulus proof `mp` -/
def rmsg (idx n h1 h2 : Nat) (a1 a2 : UInt8) (mp : List Bytes) : RsR2Msg :=
  ⟨idx, n, 1000, h1, h2, prf a1, prf a2, mp⟩

/-- a serialized modulus proof `w = 2`, `x = (3, …, 3)`, `a = b = 2^80`, `z = (3, …, 3)`: accepted for
`N = 27` when all challenges are `0` (`3^27 ≡ 3^4 ≡ 0 mod 27`; the Jacobi symbol of `2` is `−1`) -/
def mp27 : List Bytes :=
  [[2]] ++ List.replicate 80 [3] ++ [natToBytesBE (2 ^ 80), natToBytesBE (2 ^ 80)] ++ List.replicate 80 [3]

/-- **no size check**: a 3-bit Paillier modulus and a 3-bit `NTilde` pass the structural part here; the
same values are refused by key generation round 2 -/
theorem rs_no_size_check_witness :
    structuralRs 1 [] ⟨2, 5, 5, 3, 4, [], [], []⟩ = none ∧
    structural 1 [] ⟨2, 5, 5, 3, 4, [], []⟩ =
      some ("got paillier modulus with insufficient bits for this party", [2]) ∧
    structural 1 [] ⟨2, 2 ^ 2047, 5, 3, 4, [], []⟩ =
      some ("got NTildej with insufficient bits for this party", [2]) := by
  decide +kernel

/-! the pool verdicts used below: `prf a` decodes to `alpha = (a, …, a)`, `t = (2, …, 2)`
(`C05b.prf_decodes_*`: `prf` is the same list there), and under `Hnil` every round compares `h1² mod 1000` with `a`
(`dlnCheck_replicate`) -/

theorem dln_1a : dlnCheck Hnil Ops16.curParse (prf 9) 3 5 1000 = .ok true :=
  dlnCheck_replicate Hnil _ _ 9 2 3 5 1000 true C05b.prf_decodes_9 (by decide) rfl (by decide)
theorem dln_1b : dlnCheck Hnil Ops16.curParse (prf 25) 5 3 1000 = .ok true :=
  dlnCheck_replicate Hnil _ _ 25 2 5 3 1000 true C05b.prf_decodes_25 (by decide) rfl (by decide)
theorem dln_2a : dlnCheck Hnil Ops16.curParse (prf 169) 13 15 1000 = .ok true :=
  dlnCheck_replicate Hnil _ _ 169 2 13 15 1000 true C05b.prf_decodes_169 (by decide) rfl (by decide)
theorem dln_2b : dlnCheck Hnil Ops16.curParse (prf 225) 15 13 1000 = .ok true :=
  dlnCheck_replicate Hnil _ _ 225 2 15 13 1000 true C05b.prf_decodes_225 (by decide) rfl (by decide)
theorem dln_3a : dlnCheck Hnil Ops16.curParse (prf 49) 7 11 1000 = .ok true :=
  dlnCheck_replicate Hnil _ _ 49 2 7 11 1000 true C05b.prf_decodes_49 (by decide) rfl (by decide)
theorem dln_3b : dlnCheck Hnil Ops16.curParse (prf 121) 11 7 1000 = .ok true :=
  dlnCheck_replicate Hnil _ _ 121 2 11 7 1000 true C05b.prf_decodes_121 (by decide) rfl (by decide)
theorem mod27_1 : modJob Hnil Zk.cur false [] (rmsg 1 27 3 5 9 25 mp27) = .ok true := by decide +kernel
theorem mod27_3 : modJob Hnil Zk.cur false [] (rmsg 3 27 7 11 49 121 mp27) = .ok true := by decide +kernel

/-- **the whole check**: a message with a 3-bit Paillier modulus and a 10-bit `NTilde` (valid DLN proofs
for it, missing modulus proof tolerated) passes, while key generation round 2 refuses the same values -/
theorem rs_tiny_moduli_pass_witness :
    rsRound4Params Hnil Zk.cur Ops16.curParse true 1 [] [rmsg 1 5 3 5 9 25 []] = .ok .pass ∧
    round2 Hnil Ops16.curParse 1 [⟨1, 5, 1000, 3, 5, prf 9, prf 25⟩] =
      .ok (.fail "got paillier modulus with insufficient bits for this party" [1]) := by
  refine ⟨?_, by decide⟩
  rw [rs_pass_iff_all]
  refine ⟨by decide, fun m hm => ?_⟩
  simp only [List.mem_cons, List.not_mem_nil, or_false] at hm
  subst hm
  exact ⟨by decide, dln_1a, dln_1b⟩

/-- `rs_pass_iff`/`rs_no_panic`: no messages — the checks pass -/
example : rsRound4Params Hnil Zk.cur Ops16.curParse false 1 [] [] = .ok .pass := by decide

/-- `rs_structural_failure_cases` -/
example : structuralRs 1 [] ⟨2, 5, 5, 3, 3, [], [], []⟩ =
      some ("h1j and h2j were equal for this party", [2]) ∧
    structuralRs 1 [(3, 1)] ⟨2, 5, 5, 3, 4, [], [], []⟩ =
      some ("this h1j was already used by another party", [2]) ∧
    structuralRs 1 [(4, 3)] ⟨2, 5, 5, 3, 4, [], [], []⟩ =
      some ("this h2j was already used by another party", []) := by decide

/-- `rs_equal_blamed` with a single message (the honest-party hypotheses are vacuous, no job is evaluated) -/
example : HonestOthersRs Hnil Zk.cur Ops16.curParse false [] 1 2 [⟨2, 5, 5, 3, 3, [], [], []⟩] :=
  ⟨by decide, by decide, by decide, by decide, by decide⟩

example : rsRound4Params Hnil Zk.cur Ops16.curParse false 1 [] [⟨2, 5, 5, 3, 3, [], [], []⟩] =
    .ok (.fail "h1j and h2j were equal for this party" [2]) := by decide

/-- the full hypotheses on a three-party run, missing modulus proofs tolerated: own = 1 (values 3, 5), third
party 3 (values 7, 11), and the deviator 2 in the middle; whatever party 2 stores, parties 1 and 3 satisfy
`HonestOthersRs` -/
theorem honestOthersRs_witness (md : RsR2Msg) (hd : md.idx = 2) :
    HonestOthersRs Hnil Zk.cur Ops16.curParse true [] 1 2
      [rmsg 1 5 3 5 9 25 [], md, rmsg 3 5 7 11 49 121 []] := by
  refine ⟨by decide, ?_, ?_, ?_, ?_⟩
  · simp only [List.map_cons, List.map_nil, hd]; decide
  · intro m hm hne
    simp only [List.mem_cons, List.not_mem_nil, or_false] at hm
    rcases hm with rfl | rfl | rfl
    · decide
    · exact absurd hd hne
    · decide
  · intro m hm m' hm' hne hne' hij
    simp only [List.mem_cons, List.not_mem_nil, or_false] at hm hm'
    rcases hm with rfl | rfl | rfl <;> rcases hm' with rfl | rfl | rfl <;>
      first
        | exact absurd hd hne
        | exact absurd hd hne'
        | exact absurd rfl hij
        | decide
  · intro m hm hne
    simp only [List.mem_cons, List.not_mem_nil, or_false] at hm
    rcases hm with rfl | rfl | rfl
    · exact ⟨by decide, dln_1a, dln_1b⟩
    · exact absurd hd hne
    · exact ⟨by decide, dln_3a, dln_3b⟩

/-- the same with real (accepted) modulus proofs for the Paillier modulus 27, missing ones NOT tolerated -/
theorem honestOthersRs_witness_strict (md : RsR2Msg) (hd : md.idx = 2) :
    HonestOthersRs Hnil Zk.cur Ops16.curParse false [] 1 2
      [rmsg 1 27 3 5 9 25 mp27, md, rmsg 3 27 7 11 49 121 mp27] := by
  refine ⟨by decide, ?_, ?_, ?_, ?_⟩
  · simp only [List.map_cons, List.map_nil, hd]; decide
  · intro m hm hne
    simp only [List.mem_cons, List.not_mem_nil, or_false] at hm
    rcases hm with rfl | rfl | rfl
    · decide
    · exact absurd hd hne
    · decide
  · intro m hm m' hm' hne hne' hij
    simp only [List.mem_cons, List.not_mem_nil, or_false] at hm hm'
    rcases hm with rfl | rfl | rfl <;> rcases hm' with rfl | rfl | rfl <;>
      first
        | exact absurd hd hne
        | exact absurd hd hne'
        | exact absurd rfl hij
        | decide
  · intro m hm hne
    simp only [List.mem_cons, List.not_mem_nil, or_false] at hm
    rcases hm with rfl | rfl | rfl
    · exact ⟨mod27_1, dln_1a, dln_1b⟩
    · exact absurd hd hne
    · exact ⟨mod27_3, dln_3a, dln_3b⟩

/-- `rs_single_deviator`/`rs_missing_mod_proof` (`noMod = true`): an honest party 2 without a modulus proof — the
checks pass -/
example : rsRound4Params Hnil Zk.cur Ops16.curParse true 1 []
    [rmsg 1 5 3 5 9 25 [], rmsg 2 5 13 15 169 225 [], rmsg 3 5 7 11 49 121 []] = .ok .pass :=
  (rs_missing_mod_proof_tolerated (honestOthersRs_witness _ rfl) (by decide) (rmsg 2 5 13 15 169 225 [])
    (by simp) rfl (by decide) dln_2a dln_2b).2

/-- `rs_covered_alteration_blamed`: party 2's first DLN proof does not decode -/
example : rsRound4Params Hnil Zk.cur Ops16.curParse true 1 []
    [rmsg 1 5 3 5 9 25 [], ⟨2, 5, 1000, 13, 15, [], prf 225, []⟩, rmsg 3 5 7 11 49 121 []] =
      .ok (.fail "dln proof verification failed" [2]) :=
  rs_covered_alteration_blamed (honestOthersRs_witness _ rfl) (rs_dev_jobs_return _ _ _ _ _) (by decide)
    ⟨2, 5, 1000, 13, 15, [], prf 225, []⟩ (by simp) rfl (Or.inr (Or.inl (by decide)))

/-- `rs_covered_alteration_blamed`: party 2's modulus proof decodes (163 non-empty parts) and is rejected — the text
is still the DLN one -/
example : rsRound4Params Hnil Zk.cur Ops16.curParse true 1 []
    [rmsg 1 5 3 5 9 25 [], ⟨2, 5, 1000, 13, 15, [], [], List.replicate 163 [1]⟩, rmsg 3 5 7 11 49 121 []] =
      .ok (.fail "dln proof verification failed" [2]) :=
  rs_covered_alteration_blamed (honestOthersRs_witness _ rfl) (rs_dev_jobs_return _ _ _ _ _) (by decide)
    ⟨2, 5, 1000, 13, 15, [], [], List.replicate 163 [1]⟩ (by simp) rfl (Or.inl (by decide +kernel))

/-- `rs_missing_mod_proof` (`noMod = false`): parties 1 and 3 send accepted modulus proofs, party 2 sends none (and valid DLN
proofs) — named -/
example : rsRound4Params Hnil Zk.cur Ops16.curParse false 1 []
    [rmsg 1 27 3 5 9 25 mp27, rmsg 2 27 13 15 169 225 [], rmsg 3 27 7 11 49 121 mp27] =
      .ok (.fail "dln proof verification failed" [2]) :=
  rs_missing_mod_proof_blamed (honestOthersRs_witness_strict _ rfl) (rs_dev_jobs_return _ _ _ _ _) (by decide)
    (rmsg 2 27 13 15 169 225 []) (by simp) rfl (by decide)

/-- `rs_duplicate_with_own_blames_other`: party 2 copies the reporting party's `h1 = 3` — named, whichever of the two
messages is stored first (here: the reporting party's first; no proof of party 2 is evaluated) -/
example : ∃ why, rsRound4Params Hnil Zk.cur Ops16.curParse true 1 []
      [rmsg 1 5 3 5 9 25 [], ⟨2, 5, 1000, 3, 13, [], [], []⟩, rmsg 3 5 7 11 49 121 []] = .ok (.fail why [2]) ∧
    (why = "this h1j was already used by another party" ∨
      why = "this h2j was already used by another party") :=
  rs_duplicate_with_own_blames_other (honestOthersRs_witness _ rfl) (rs_dev_jobs_return _ _ _ _ _)
    ⟨2, 5, 1000, 3, 13, [], [], []⟩ (rmsg 1 5 3 5 9 25 []) (by simp) rfl (by decide) (by simp) rfl (Or.inl rfl)
    (by
      intro m hm hne hno
      simp only [List.mem_cons, List.not_mem_nil, or_false] at hm
      rcases hm with rfl | rfl | rfl
      · exact absurd rfl hno
      · exact absurd rfl hne
      · decide)

/-- `rs_duplicate_with_third_names_nobody`: party 2 copies the third party's `h2 = 11` — nobody is named -/
example : ∃ why, rsRound4Params Hnil Zk.cur Ops16.curParse true 1 []
      [rmsg 1 5 3 5 9 25 [], ⟨2, 5, 1000, 13, 11, [], [], []⟩, rmsg 3 5 7 11 49 121 []] = .ok (.fail why []) ∧
    (why = "this h1j was already used by another party" ∨
      why = "this h2j was already used by another party") :=
  rs_duplicate_with_third_names_nobody (honestOthersRs_witness _ rfl) (rs_dev_jobs_return _ _ _ _ _)
    ⟨2, 5, 1000, 13, 11, [], [], []⟩ (rmsg 3 5 7 11 49 121 []) (by simp) rfl (by decide) (by simp) (by decide)
    (Or.inr (Or.inr (Or.inr rfl)))
    (by
      intro m hm ho
      simp only [List.mem_cons, List.not_mem_nil, or_false] at hm
      rcases hm with rfl | rfl | rfl
      · decide
      · exact absurd ho (by decide)
      · exact absurd ho (by decide))

/-- `rs_no_panic`: `zcfg = Zk.cur` is needed — on the old tree the modulus job crashes on an even Paillier modulus (the
Jacobi symbol is computed before the parity check) -/
theorem rs_old_tree_panics_witness :
    modJob Hnil Zk.old true [] ⟨2, 4, 1000, 13, 15, [], [], List.replicate 163 [1]⟩ = .panic "jacobi-even" ∧
    rsRound4Params Hnil Zk.old Ops16.curParse true 1 []
      [⟨2, 4, 1000, 13, 15, [], [], List.replicate 163 [1]⟩] = .panic "jacobi-even" := by
  decide +kernel

end examples

end TssVerif.C05c
