import TssVerif.Gen.Facts
import TssVerif.Core.EngineTables
import TssVerif.Core.Zk
import TssVerif.Core.Commit
/-! Obligations, checked by evaluation, over the facts regenerated from `/repo` on every run (`vh facts`):
the hand-written tables and constants of the model equal what the running code exhibits.
A change that flips a flag, drops or adds a round or a message type, or changes a security
parameter makes one of these proofs fail. -/
namespace TssVerif.GenObl
open TssVerif Engine

/-- the acceptance table a model protocol prescribes: per round the (type name, flag) pairs -/
def acceptOf (p : Proto) : List (List (String × Bool)) :=
  p.table.map fun r => r.needs.map fun tf => (typeName p tf.1, tf.2)

/-- per type: is it emitted once per peer (addressed to one recipient) in the model table -/
def routingOf (p : Proto) : List (String × Bool × Bool) :=
  (List.range p.types.length).map fun i =>
    let id := i + 1
    let perPeer := p.table.any fun r => r.emits.any fun e => e.1 == id && e.2
    let flag := p.table.any fun r => r.needs.any fun tf => tf.1 == id && tf.2
    (typeName p id, flag, perPeer)

theorem eddsaKeygen_types : Gen.eddsaKeygenTypes = eddsaKeygen.types := rfl
theorem eddsaSigning_types : Gen.eddsaSigningTypes = eddsaSigning.types := rfl
theorem ecdsaKeygen_types : Gen.ecdsaKeygenTypes = ecdsaKeygen.types := rfl
theorem ecdsaSigning_types : Gen.ecdsaSigningTypes = ecdsaSigning.types := rfl

theorem eddsaKeygen_accept : Gen.eddsaKeygenAccept = acceptOf eddsaKeygen := rfl
theorem eddsaSigning_accept : Gen.eddsaSigningAccept = acceptOf eddsaSigning := rfl
theorem ecdsaKeygen_accept : Gen.ecdsaKeygenAccept = acceptOf ecdsaKeygen := rfl
theorem ecdsaSigning_accept : Gen.ecdsaSigningAccept = acceptOf ecdsaSigning := rfl

/-- the routing emitted by the code equals the routing the model table prescribes -/
theorem eddsaKeygen_routing : Gen.eddsaKeygenRouting = routingOf eddsaKeygen := rfl
theorem eddsaSigning_routing : Gen.eddsaSigningRouting = routingOf eddsaSigning := rfl
theorem ecdsaKeygen_routing : Gen.ecdsaKeygenRouting = routingOf ecdsaKeygen := rfl
theorem ecdsaSigning_routing : Gen.ecdsaSigningRouting = routingOf ecdsaSigning := rfl

/-- every message type is accepted in exactly one round, with exactly one flag value -/
def AcceptedOnce (acc : List (List (String × Bool))) (types : List String) : Bool :=
  types.all fun t => ((acc.flatten.filter fun tf => tf.1 == t).length == 1)

theorem accepted_once :
    AcceptedOnce Gen.eddsaKeygenAccept Gen.eddsaKeygenTypes ∧ AcceptedOnce Gen.eddsaSigningAccept Gen.eddsaSigningTypes ∧
    AcceptedOnce Gen.ecdsaKeygenAccept Gen.ecdsaKeygenTypes ∧ AcceptedOnce Gen.ecdsaSigningAccept Gen.ecdsaSigningTypes := by decide

/-- channel discipline: a type is point-to-point (not broadcast) iff it goes to exactly one recipient -/
def Disciplined (rt : List (String × Bool × Bool)) : Bool := rt.all fun x => x.2.1 != x.2.2

theorem channel_discipline :
    Disciplined Gen.eddsaKeygenRouting ∧ Disciplined Gen.eddsaSigningRouting ∧
    Disciplined Gen.ecdsaKeygenRouting ∧ Disciplined Gen.ecdsaSigningRouting := ⟨rfl, rfl, rfl, rfl⟩

/-- the secret-bearing types (key shares, MtA ciphertexts and responses) are exactly the point-to-point ones -/
theorem secret_bearing_are_p2p :
    (Gen.eddsaKeygenRouting.filter fun x => !x.2.1).map (·.1) = ["KGRound2Message1"] ∧
    (Gen.ecdsaKeygenRouting.filter fun x => !x.2.1).map (·.1) = ["KGRound2Message1"] ∧
    (Gen.ecdsaSigningRouting.filter fun x => !x.2.1).map (·.1) = ["SignRound1Message1", "SignRound2Message"] ∧
    (Gen.eddsaSigningRouting.filter fun x => !x.2.1).map (·.1) = [] := ⟨rfl, rfl, rfl, rfl⟩

/-- security parameters and limits of the model equal the constants in the source tree -/
theorem constants_match :
    Gen.dlnproof_Iterations = Zk.dlnIterations ∧ Gen.modproof_Iterations = Zk.modIterations ∧
    Gen.paillier_ProofIters = Paillier.proofIters ∧ Gen.paillier_maxXsRejections = Paillier.maxXsRejections ∧
    Gen.commitments_PartsCap = partsCap ∧ Gen.commitments_MaxPartSize = maxPartSize ∧
    Gen.modproof_ProofModBytesParts = 2 * Zk.modIterations + 3 ∧
    Gen.paillier_verifyPrimesUntil = 1000 ∧ Gen.keygen_paillierModulusLen = 2048 ∧ Gen.keygen_safePrimeBitLen = 1024 ∧
    Gen.commitments_HashLength = 256 ∧ Gen.ckd_HardenedKeyStart = 2 ^ 31 ∧ Gen.ckd_maxDepth = 255 ∧
    Gen.facproof_ProofFacBytesParts = 11 ∧ Gen.mta_RangeProofAliceBytesParts = 6 ∧
    Gen.mta_ProofBobBytesParts = 10 ∧ Gen.mta_ProofBobWCBytesParts = 12 := by decide

end TssVerif.GenObl
