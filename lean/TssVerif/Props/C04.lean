import TssVerif.Lemmas.AlgKeygen
import TssVerif.Lemmas.AlgToy
import TssVerif.Props.C03
import Mathlib.Logic.Relation
/-! # C04 — resharing keeps the key

"Resharing hands a (t', n') sharing of the SAME secret to the new committee: the public key is
unchanged, the new shares match the new public share points, and this survives any number of
resharings."

Setting: the old sharing polynomial `F` (degree below the number `ks.length` of participating old
members, ids `ks` distinct modulo `q`), old member `i` holds `xs[i] ≡ F(ks[i])` and computes
`ws[i] = Sign.weight q ks i xs[i]` (`PrepareForSigning`); it deals `ws[i]` with a fresh polynomial
`g i = [≡ ws[i], b_{i,1}, …, b_{i,t'}]`. The new member with id `k'` ends with
`share q (range n) g k' = (Σ_i evalPoly q (g i) k') mod q`. Notation of C03 (`sumPoly`, `share`, `combined`,
`pubShare`, `psum`). -/
set_option autoImplicit false
set_option linter.style.haveILetI false
namespace TssVerif.C04
open TssVerif AlgL Polynomial

variable {P : Type} {C : Curve P}

/-- **The new polynomial `G' = Σ_i g_i` shares the same secret, with the new threshold.**
`G'(0) = F(0)`, `deg G' ≤ t'`, the new member `k'` holds `G'(k')`. -/
theorem reshare_same_secret {q : ℕ} [Fact q.Prime] (F : (ZMod q)[X]) (ks xs ws : List ℕ)
    (hdeg : F.degree < ks.length) (hnd : (ks.map (· % q)).Nodup)
    (hx : ∀ i < ks.length, (xs.getD i 0 : ZMod q) = F.eval (ks.getD i 0 : ZMod q))
    (hw : ∀ i < ks.length, Sign.weight q ks i (xs.getD i 0) = some (ws.getD i 0))
    (g : ℕ → List ℕ) (t' : ℕ)
    (hg : ∀ i < ks.length, (g i).length = t' + 1 ∧ (g i).getD 0 0 ≡ ws.getD i 0 [MOD q]) :
    (sumPoly q (List.range ks.length) g).eval 0 = F.eval 0 ∧
    (sumPoly q (List.range ks.length) g).degree < ((t' + 1 : ℕ) : WithBot ℕ) ∧
    ∀ k' : ℕ, share q (List.range ks.length) g k' =
      ((sumPoly q (List.range ks.length) g).eval (k' : ZMod q)).val := by
  have hne : ∀ i ∈ List.range ks.length, g i ≠ [] := fun i hi h => by
    have := (hg i (List.mem_range.1 hi)).1; rw [h] at this; simp at this
  refine ⟨?_, ?_, fun k' => share_eq_val _ g hne k'⟩
  · rw [sumPoly_eval_zero, Nat.cast_list_sum, List.map_map, ← C01.lagrange_weights_sum ks xs ws F hdeg hnd hx hw,
      ← List.sum_toFinset _ List.nodup_range, List.toFinset_range]
    refine Finset.sum_congr rfl fun i hi => ?_
    exact (ZMod.natCast_eq_natCast_iff _ _ _).2 (hg i (Finset.mem_range.1 hi)).2
  · exact sumPoly_degree_lt _ g (t' + 1) fun i hi => le_of_eq (hg i (List.mem_range.1 hi)).1

/-- **Resharing keeps the key** (honest run, every lawful curve): with `PK = F(0)·G`, the new polynomial
has `G'(0) = F(0)` and degree `≤ t'`; the constant terms dealt by the old members add up to `PK`
(`Σ_i g_i(0)·G = PK`, the check of the new members); every new share matches its new public share
point; and any `t'+1` new members with ids distinct mod `q` reconstruct the old secret. -/
theorem reshare_same_key (hC : C.Lawful) (F : (ZMod C.q)[X]) (ks xs ws : List ℕ)
    (hdeg : F.degree < ks.length) (hnd : (ks.map (· % C.q)).Nodup)
    (hx : ∀ i < ks.length, (xs.getD i 0 : ZMod C.q) = F.eval (ks.getD i 0 : ZMod C.q))
    (hw : ∀ i < ks.length, Sign.weight C.q ks i (xs.getD i 0) = some (ws.getD i 0))
    (g : ℕ → List ℕ) (t' : ℕ)
    (hg : ∀ i < ks.length, (g i).length = t' + 1 ∧ (g i).getD 0 0 ≡ ws.getD i 0 [MOD C.q])
    (PK : P) (hPK : PK = C.smul (F.eval 0).val C.base) :
    (sumPoly C.q (List.range ks.length) g).eval 0 = F.eval 0 ∧
    (sumPoly C.q (List.range ks.length) g).degree < ((t' + 1 : ℕ) : WithBot ℕ) ∧
    psum C ((List.range ks.length).map fun i => C.smul ((g i).getD 0 0) C.base) = PK ∧
    combined C (List.range ks.length) (honestCommit C g) 0 = PK ∧
    (∀ k' : ℕ, C.smul (share C.q (List.range ks.length) g k') C.base =
      pubShare C (combined C (List.range ks.length) (honestCommit C g)) t' k') ∧
    (∀ ks' : List ℕ, t' + 1 ≤ ks'.length → (ks'.map (· % C.q)).Nodup →
      Vss.reconstruct C.q (ks'.map fun k' => ⟨t', k', share C.q (List.range ks.length) g k'⟩) =
        .ok (F.eval 0).val) := by
  haveI : Fact C.q.Prime := ⟨hC.q_prime⟩
  obtain ⟨h0, hd, _⟩ := reshare_same_secret F ks xs ws hdeg hnd hx hw g t' hg
  have hlen : ∀ i ∈ List.range ks.length, (g i).length = t' + 1 :=
    fun i hi => (hg i (List.mem_range.1 hi)).1
  obtain ⟨_, _, h3, h4, _, _⟩ :=
    C03.keygen_public_points_on_polynomial hC (List.range ks.length) g t' hlen 0
  have hpk : combined C (List.range ks.length) (honestCommit C g) 0 = PK := by
    rw [← h3, h0, hPK]
  refine ⟨h0, hd, by rw [← h4, hpk], hpk,
    fun k' => C03.keygen_share_matches_public hC _ g t' hlen k', ?_⟩
  intro ks' hn' hnd'
  have := (C03.keygen_any_t1_interpolates (q := C.q) (List.range ks.length) g t' hlen ks' hn' hnd').2
  rw [this]
  congr 1
  rw [← h0, sumPoly_eval_zero, ZMod.val_natCast]

/-- **The `V_0` check of a new member is sound, whatever the old members sent**: arbitrary commitment
vectors `Vi i` (points) and dealt values `s i`; if `Σ_i V_i[0] = PK` (the check) and every received share
passes the Feldman equation, then the new share matches the public share point of the combined
commitments, whose constant term is `PK`. -/
theorem reshare_v0_check_sound (hC : C.Lawful) {ι : Type} (ds : List ι) (s : ι → ℕ) (Vi : ι → ℕ → P)
    (t' k' : ℕ) (PK : P)
    (hV0 : psum C (ds.map fun i => Vi i 0) = PK)
    (h : ∀ i ∈ ds, C.smul (s i) C.base = pubShare C (Vi i) t' k') :
    C.smul ((ds.map s).sum % C.q) C.base = pubShare C (combined C ds Vi) t' k' ∧
    combined C ds Vi 0 = PK :=
  ⟨C03.feldman_accept_implies_consistent hC ds s Vi t' k' h, hV0⟩

/-- … and then **the new shares determine a secret whose public key is `PK`** (group killed by `q`):
for any `t'+1` (or more) new members with ids `ks'` distinct modulo `q` whose shares `x' j` all passed,
the Lagrange combination `x* = Σ_j λ_j·x'_j` (the secret the new committee holds) satisfies
`x*·G = PK` — dishonest old members cannot change the key without being caught. -/
theorem reshare_v0_check_key_preserved (hC : C.Lawful) (hord : ∀ p, C.smul C.q p = C.zero)
    (Vc : ℕ → P) (t' : ℕ) (PK : P) (hV0 : Vc 0 = PK)
    (ks' lam x' : List ℕ) (hlen : lam.length = ks'.length) (ht : t' < ks'.length)
    (hnd : (ks'.map (· % C.q)).Nodup)
    (hlam : ∀ j < ks'.length, Sign.weight C.q ks' j 1 = some (lam.getD j 0))
    (hx : ∀ j < ks'.length, C.smul (x'.getD j 0) C.base = pubShare C Vc t' (ks'.getD j 0)) :
    C.smul ((List.range ks'.length).map fun j => lam.getD j 0 * x'.getD j 0).sum C.base = PK := by
  rw [← hV0, ← C03.public_shares_interpolate hC hord Vc t' ks' lam hlen ht hnd hlam,
    ← psum_smul_left hC]
  congr 1
  apply List.map_congr_left
  intro j hj
  rw [hC.smul_mul, hx j (List.mem_range.1 hj)]

/-- one honest resharing from the sharing polynomial `F` to `F'` -/
def ReshareStep (q : ℕ) (F F' : (ZMod q)[X]) : Prop :=
  ∃ (ks xs ws : List ℕ) (g : ℕ → List ℕ) (t' : ℕ),
    F.degree < ks.length ∧ (ks.map (· % q)).Nodup ∧
    (∀ i < ks.length, (xs.getD i 0 : ZMod q) = F.eval (ks.getD i 0 : ZMod q)) ∧
    (∀ i < ks.length, Sign.weight q ks i (xs.getD i 0) = some (ws.getD i 0)) ∧
    (∀ i < ks.length, (g i).length = t' + 1 ∧ (g i).getD 0 0 ≡ ws.getD i 0 [MOD q]) ∧
    F' = sumPoly q (List.range ks.length) g

/-- **The secret (hence the public key) is invariant along any chain of resharings**, each step
satisfying the hypotheses of `reshare_same_key` on the output of the previous one. -/
theorem reshare_chain {q : ℕ} [Fact q.Prime] (F F' : (ZMod q)[X])
    (h : Relation.ReflTransGen (ReshareStep q) F F') : F'.eval 0 = F.eval 0 := by
  induction h with
  | refl => rfl
  | tail _ hstep ih =>
    obtain ⟨ks, xs, ws, g, t', hdeg, hnd, hx, hw, hg, rfl⟩ := hstep
    rw [(reshare_same_secret _ ks xs ws hdeg hnd hx hw g t' hg).1, ih]

/-- the public key along a chain -/
theorem reshare_chain_pk (hC : C.Lawful) (F F' : (ZMod C.q)[X])
    (h : letI : Fact C.q.Prime := ⟨hC.q_prime⟩; Relation.ReflTransGen (ReshareStep C.q) F F') :
    C.smul (F'.eval 0).val C.base = C.smul (F.eval 0).val C.base := by
  haveI : Fact C.q.Prime := ⟨hC.q_prime⟩
  rw [reshare_chain F F' h]

/-! ## Non-vacuity on the toy curve of order 23

Old sharing `F = 8 + 9X` (C03's example, `PK = 8·G`); old members with ids `1, 3` hold `17, 12`,
weights `14, 17`. They deal `g_0 = 14 + 4X`, `g_1 = 17 + 10X` (`t' = 1`) to new ids `2, 5, 6`:
`G' = 31 + 14X ≡ 8 + 14X`, new shares `13, 9, 0`. -/
section examples

abbrev W := zmodCurveW 23

def g2 : ℕ → List ℕ
  | 0 => [14, 4]
  | _ => [17, 10]

theorem oldF : (Vss.polyZ 23 [8, 9]).degree < (([1, 3] : List ℕ).length : ℕ) :=
  lt_of_lt_of_le (Vss.polyZ_degree_lt _) (by simp)

theorem oldShares : ∀ i < ([1, 3] : List ℕ).length,
    ((([17, 12] : List ℕ).getD i 0 : ℕ) : ZMod 23) =
      (Vss.polyZ 23 [8, 9]).eval ((([1, 3] : List ℕ).getD i 0 : ℕ) : ZMod 23) := by
  intro i hi
  have hi' : i < 2 := hi
  rw [Vss.polyZ_eval_natCast]
  interval_cases i <;> rfl

example : share 23 [0, 1] g2 2 = 13 ∧ share 23 [0, 1] g2 5 = 9 ∧ share 23 [0, 1] g2 6 = 0 := by decide

/-- the theorem, hypotheses discharged: constant terms add up to the old public key `8·G`, the new
share of id `5` matches its public share point, and new members `2, 6` reconstruct `8` -/
example : psum W ((List.range 2).map fun i => W.smul ((g2 i).getD 0 0) W.base) = W.smul 8 W.base ∧
    W.smul (share 23 (List.range 2) g2 5) W.base =
      pubShare W (combined W (List.range 2) (honestCommit W g2)) 1 5 ∧
    Vss.reconstruct 23 ([2, 6].map fun k' => ⟨1, k', share 23 (List.range 2) g2 k'⟩) = .ok 8 := by
  have h8 : ((Vss.polyZ 23 [8, 9]).eval 0).val = 8 := by rw [Vss.polyZ_eval_zero]; rfl
  obtain ⟨_, _, h3, _, h5, h6⟩ := reshare_same_key (C := W) (zmodCurveW_lawful 23) (Vss.polyZ 23 [8, 9])
    [1, 3] [17, 12] [14, 17] oldF (by decide) oldShares (by decide) g2 1 (by decide)
    (W.smul 8 W.base) (congrArg (fun n => W.smul n W.base) h8).symm
  exact ⟨h3, h5 5, (h6 [2, 6] (by decide) (by decide)).trans (congrArg Outcome.ok h8)⟩

/-- the model run agrees -/
example : Vss.reconstruct 23 [⟨1, 2, 13⟩, ⟨1, 6, 0⟩] = .ok 8 := by decide

/-- the `V_0` check with commitments that are just points: `V_0 = (14, 4)`, `V_1 = (17, 10)` -/
example : W.smul (([0, 1].map fun i => if i = 0 then 11 else 21).sum % 23) W.base =
      pubShare W (combined W [0, 1] fun i c =>
        if i = 0 then (if c = 0 then 14 else 4) else (if c = 0 then 17 else 10)) 1 5 ∧
    combined W [0, 1] (fun i c =>
        if i = 0 then (if c = 0 then (14 : ZMod 23) else 4) else (if c = 0 then 17 else 10)) 0 = 8 :=
  reshare_v0_check_sound (C := W) (zmodCurveW_lawful 23) [0, 1] (fun i => if i = 0 then 11 else 21)
    (fun i c => if i = 0 then (if c = 0 then 14 else 4) else (if c = 0 then 17 else 10)) 1 5 8
    (by decide) (by decide)

/-- new members `2, 6` (`λ = 13, 11`): `13·13 + 11·0 = 169 ≡ 8` -/
example : W.smul ((List.range 2).map fun j =>
    ([13, 11] : List ℕ).getD j 0 * ([13, 0] : List ℕ).getD j 0).sum W.base = 8 :=
  reshare_v0_check_key_preserved (C := W) (zmodCurveW_lawful 23) (zmodCurveW_order 23)
    (fun c => if c = 0 then 8 else 14) 1 8 rfl [2, 6] [13, 11] [13, 0] rfl (by decide) (by decide)
    (by decide) (by decide)

/-- a chain of two resharings of `F = 8 + 9X` (the second one back to ids `1, 3` with fresh polynomials) -/
example : ReshareStep 23 (Vss.polyZ 23 [8, 9]) (sumPoly 23 (List.range 2) g2) :=
  ⟨[1, 3], [17, 12], [14, 17], g2, 1, oldF, by decide, oldShares, by decide, by decide, rfl⟩

example (F' : (ZMod 23)[X]) (h : ReshareStep 23 (sumPoly 23 (List.range 2) g2) F') :
    F'.eval 0 = 8 := by
  have h1 : Relation.ReflTransGen (ReshareStep 23) (Vss.polyZ 23 [8, 9]) F' :=
    Relation.ReflTransGen.tail (Relation.ReflTransGen.single
      ⟨[1, 3], [17, 12], [14, 17], g2, 1, oldF, by decide, oldShares, by decide, by decide, rfl⟩) h
  rw [reshare_chain _ _ h1]
  exact Vss.polyZ_eval_zero 8 [9]

end examples

end TssVerif.C04
