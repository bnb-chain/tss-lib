import TssVerif.Lemmas.C05Rs5
/-! # C05f — one deviating new member in ECDSA resharing round 5 (no-small-factor proofs): who is named

Property C05 (`/verif/properties.jsonl`, its first two sentences):
"If one participant deviates from the protocol (sends any altered field in any message, replays another
participant's messages as its own, uses a wrong secret input, omits a mandatory proof, or brings under-sized or
duplicated Paillier/ring-Pedersen parameters), no honest participant ever outputs a signature that fails
verification, a key share inconsistent with the group key, or key data that differs from another honest
participant's. Every error an honest participant reports names no participant other than the deviating one (or,
where the protocol cannot attribute, nobody/itself), and whenever the altered value is covered by a commitment, share
check or zero-knowledge proof the reporting participant names exactly the deviating one."

The object is the model of the new-committee side of `ecdsa/resharing/round_5_new_step_3.go` in
`Core/BlameEc5.lean`: after every acknowledgement has arrived a new member checks, sequentially in index order,
the other new members' no-small-factor proofs (`DGRound4Message1`): `rsFacPeer C H zcfg noFac ownIdx ssid
ownNTilde ownH1 ownH2 p` is the judgement about ONE peer (`.ok none` = accepted, `.ok (some why)` = named),
`rsRound5Fac … peers` the loop (`.ok none` = the party emits its key data, `.ok (some (c, why))` = the error that
names `c`). Everything holds for every curve record `C`, every hash `H`, every configuration `zcfg` unless
`Zk.cur` (the current tree) is written, and unboundedly many peers. "Every peer except `dev` is honest" is
"every peer with `idx ≠ dev` is accepted by `rsFacPeer`".

How the clauses of the property are covered (the round names the FIRST failing peer):

* "names no participant other than the deviating one": `rs5_first_failing_named` (exact), `rs5_culprit_is_sender`,
  `rs5_never_names_self`, `rs5_single_deviator` (part 1);
* "covered by a … zero-knowledge proof … names exactly the deviating one": `rs5_single_deviator` (part 2), with the
  exact judgements `rsFacPeer_none_iff`, `rsFacPeer_named_iff`, `rs5_rejected_proof_blamed`, `rs5_missing_proof_blamed`
  (a proof that does not decode is an alteration the check covers unless the party was configured to tolerate
  it: `rs5_missing_proof_tolerated`);
* no honest party is named: `rs5_honest_peer_not_named`, `rs5_never_names_self`;
* the output: `rs5_pass_iff` (the key data is emitted iff every proof was accepted);
* the proof is bound to its verifier: `rs5_context_is_verifiers` (the context is `ssid ‖ ownIdx`, the party's OWN
  index, and the ring-Pedersen parameters are the party's own: a proof made for another new member is judged
  under this one's context and parameters);
* the call returns: `rs5_no_panic`, `rs5_no_unattributed_error`, `rs5_returns`, `rs5_peer_returns` — on the
  current tree WITHOUT any side condition, neither on the peers' values nor on the party's own parameters: a
  decoded proof has non-negative fields (`SetBytes`), which is all `facVerify` needs not to crash, and a
  non-positive `NTilde` is answered by "rejected". No crash is reachable from peer values. -/
set_option autoImplicit false
namespace TssVerif.C05f
open TssVerif BlameEc C05Rs5L

variable {P : Type} (C : Curve P) (H : HashFn) (zcfg : Zk.Cfg) (noFac : Bool) (ownIdx : Nat) (ssid : Bytes)
  (ownNTilde ownH1 ownH2 : Nat)

/-! ## who is named -/

/-- **the error names the first failing peer**: the result is `some (c, why)` iff the peer list splits as
`pre ++ p :: post` with every peer of `pre` accepted, `p` rejected for the reason `why`, and `c = p.idx` -/
theorem rs5_first_failing_named (peers : List RsR4Peer) (c : Nat) (why : String) :
    rsRound5Fac C H zcfg noFac ownIdx ssid ownNTilde ownH1 ownH2 peers = .ok (some (c, why)) ↔
      ∃ pre p post, peers = pre ++ p :: post ∧
        (∀ q ∈ pre, rsFacPeer C H zcfg noFac ownIdx ssid ownNTilde ownH1 ownH2 q = .ok none) ∧
        rsFacPeer C H zcfg noFac ownIdx ssid ownNTilde ownH1 ownH2 p = .ok (some why) ∧ p.idx = c :=
  rsRound5Fac_some_iff C H zcfg noFac ownIdx ssid ownNTilde ownH1 ownH2 peers c why

/-- the party emits its key data iff every peer's proof is accepted -/
theorem rs5_pass_iff (peers : List RsR4Peer) :
    rsRound5Fac C H zcfg noFac ownIdx ssid ownNTilde ownH1 ownH2 peers = .ok none ↔
      ∀ p ∈ peers, rsFacPeer C H zcfg noFac ownIdx ssid ownNTilde ownH1 ownH2 p = .ok none := by
  rw [rsRound5Fac_eq, C05L.seqLoop_eq_iff]
  simp only [and_true, exists_const, C05L.runs_unit_iff, facStep_go_iff, facStep_halt_ok_iff, reduceCtorEq,
    and_false, exists_false, or_false]

/-- the named index is the index of a peer whose own message was rejected, for the reported reason -/
theorem rs5_culprit_is_sender (peers : List RsR4Peer) (c : Nat) (why : String)
    (h : rsRound5Fac C H zcfg noFac ownIdx ssid ownNTilde ownH1 ownH2 peers = .ok (some (c, why))) :
    ∃ p ∈ peers, p.idx = c ∧ rsFacPeer C H zcfg noFac ownIdx ssid ownNTilde ownH1 ownH2 p = .ok (some why) :=
  rsRound5Fac_culprit_mem C H zcfg noFac ownIdx ssid ownNTilde ownH1 ownH2 peers c why h

/-- the party never names itself (its own index is not among the peers it checks) -/
theorem rs5_never_names_self (peers : List RsR4Peer) (hown : ∀ p ∈ peers, p.idx ≠ ownIdx) (c : Nat) (why : String)
    (h : rsRound5Fac C H zcfg noFac ownIdx ssid ownNTilde ownH1 ownH2 peers = .ok (some (c, why))) :
    c ≠ ownIdx := by
  obtain ⟨p, hp, hidx, _⟩ := rs5_culprit_is_sender C H zcfg noFac ownIdx ssid ownNTilde ownH1 ownH2 peers c why h
  rw [← hidx]; exact hown p hp

/-- **no honest party is ever named**: an index all of whose records are accepted is not the one named -/
theorem rs5_honest_peer_not_named (peers : List RsR4Peer) (j : Nat)
    (hj : ∀ p ∈ peers, p.idx = j → rsFacPeer C H zcfg noFac ownIdx ssid ownNTilde ownH1 ownH2 p = .ok none)
    (c : Nat) (why : String)
    (h : rsRound5Fac C H zcfg noFac ownIdx ssid ownNTilde ownH1 ownH2 peers = .ok (some (c, why))) : c ≠ j := by
  obtain ⟨p, hp, hidx, hbad⟩ := rs5_culprit_is_sender C H zcfg noFac ownIdx ssid ownNTilde ownH1 ownH2 peers c why h
  intro hc
  rw [hj p hp (by rw [hidx, hc])] at hbad
  cases hbad

/-- **one deviator**: if every peer other than `dev` is accepted, any reported error names `dev`; if moreover
`dev`'s record is rejected for the reason `why` and the indices are distinct, the result is exactly
`some (dev, why)` -/
theorem rs5_single_deviator (peers : List RsR4Peer) (dev : Nat)
    (hothers : ∀ p ∈ peers, p.idx ≠ dev →
      rsFacPeer C H zcfg noFac ownIdx ssid ownNTilde ownH1 ownH2 p = .ok none) :
    (∀ c why, rsRound5Fac C H zcfg noFac ownIdx ssid ownNTilde ownH1 ownH2 peers = .ok (some (c, why)) → c = dev) ∧
    ((peers.map (·.idx)).Nodup → ∀ d ∈ peers, d.idx = dev → ∀ why,
      rsFacPeer C H zcfg noFac ownIdx ssid ownNTilde ownH1 ownH2 d = .ok (some why) →
      rsRound5Fac C H zcfg noFac ownIdx ssid ownNTilde ownH1 ownH2 peers = .ok (some (dev, why))) := by
  have hgo : ∀ (pre : List RsR4Peer) (p : RsR4Peer) (post : List RsR4Peer) (s' : Unit), peers = pre ++ p :: post →
      p.idx ≠ dev → C05L.Runs (fun _ => facStep C H zcfg noFac ownIdx ssid ownNTilde ownH1 ownH2) () pre s' →
      C05L.halt (facStep C H zcfg noFac ownIdx ssid ownNTilde ownH1 ownH2 p) = none :=
    fun pre p post _ he hne _ => (C05L.halt_eq_none_iff _).2 ⟨(),
      (facStep_go_iff C H zcfg noFac ownIdx ssid ownNTilde ownH1 ownH2 p).2 (hothers p (by simp [he]) hne)⟩
  refine ⟨fun c why h => ?_, fun hnd d hd hdev why hbad => ?_⟩
  · rw [rsRound5Fac_eq] at h
    rcases C05L.seqLoop_single_deviator _ _ (·.idx) () peers dev hgo _ h with
      ⟨_, _, hf⟩ | ⟨_, p, _, _, _, hp, _, hq⟩
    · cases hf
    · obtain ⟨_, _, e⟩ := (facStep_halt_ok_iff C H zcfg noFac ownIdx ssid ownNTilde ownH1 ownH2 p _).1 hq
      injection e with e
      injection e with e _
      rw [e, hp]
  · subst hdev
    rw [rsRound5Fac_eq]
    exact C05L.seqLoop_deviator_halts _ _ (·.idx) () peers d hnd hd hgo _
      fun _ => (facStep_halt_ok_iff C H zcfg noFac ownIdx ssid ownNTilde ownH1 ownH2 d _).2 ⟨why, hbad, rfl⟩

/-! ## the judgement about one peer -/

/-- **exact acceptance condition**: the proof decodes and the verifier says yes under the party's own context and
parameters, or it does not decode and the party tolerates that -/
theorem rsFacPeer_none_iff (p : RsR4Peer) :
    rsFacPeer C H zcfg noFac ownIdx ssid ownNTilde ownH1 ownH2 p = .ok none ↔
      (∃ pf, facFromBytes p.facProof = some pf ∧
        Zk.facVerify zcfg H C.q (Blame.contextJ ssid ownIdx) p.paillierN ownNTilde ownH1 ownH2 pf = .ok true) ∨
      (facFromBytes p.facProof = none ∧ noFac = true) := by
  rw [rsFacPeer_ok_iff]
  cases noFac <;> simp [C05Rs5L.verdict, Bool.exists_bool]

/-- **exact rejection condition**, with the reason reported -/
theorem rsFacPeer_named_iff (p : RsR4Peer) (why : String) :
    rsFacPeer C H zcfg noFac ownIdx ssid ownNTilde ownH1 ownH2 p = .ok (some why) ↔
      (∃ pf, facFromBytes p.facProof = some pf ∧
        Zk.facVerify zcfg H C.q (Blame.contextJ ssid ownIdx) p.paillierN ownNTilde ownH1 ownH2 pf = .ok false ∧
        why = "facProof verify failed") ∨
      (facFromBytes p.facProof = none ∧ noFac = false ∧ why = "facProof does not decode") := by
  rw [rsFacPeer_ok_iff]
  cases noFac <;> simp [C05Rs5L.verdict, Bool.exists_bool, eq_comm]

/-- **the proof is judged under the VERIFIER's context**: for a proof that decodes, the check is the call of
`facVerify` with the context `ssid ‖ ownIdx` (the party's own index, not the sender's), the sender's Paillier
modulus and the party's own ring-Pedersen parameters; `true ↦ none`, `false ↦ named`, anything else is passed on.
A proof made for another verifier index is therefore judged under this one's context. -/
theorem rs5_context_is_verifiers (p : RsR4Peer) (pf : Zk.FacProof) (hd : facFromBytes p.facProof = some pf) :
    rsFacPeer C H zcfg noFac ownIdx ssid ownNTilde ownH1 ownH2 p =
      (Zk.facVerify zcfg H C.q (Blame.contextJ ssid ownIdx) p.paillierN ownNTilde ownH1 ownH2 pf >>= fun ok =>
        .ok (if ok then none else some "facProof verify failed")) := by
  rw [rsFacPeer_decodable C H zcfg noFac ownIdx ssid ownNTilde ownH1 ownH2 p pf hd]
  congr 1
  funext ok
  cases ok <;> rfl

/-- … and the sender's own index plays no role in the judgement -/
theorem rs5_sender_index_irrelevant (p : RsR4Peer) (j : Nat) :
    rsFacPeer C H zcfg noFac ownIdx ssid ownNTilde ownH1 ownH2 { p with idx := j } =
      rsFacPeer C H zcfg noFac ownIdx ssid ownNTilde ownH1 ownH2 p := rfl

/-- a proof the verifier rejects gets its sender named: first in the list … -/
theorem rs5_rejected_proof_blamed (p : RsR4Peer) (rest : List RsR4Peer) (pf : Zk.FacProof)
    (hd : facFromBytes p.facProof = some pf)
    (hv : Zk.facVerify zcfg H C.q (Blame.contextJ ssid ownIdx) p.paillierN ownNTilde ownH1 ownH2 pf = .ok false) :
    rsFacPeer C H zcfg noFac ownIdx ssid ownNTilde ownH1 ownH2 p = .ok (some "facProof verify failed") ∧
    rsRound5Fac C H zcfg noFac ownIdx ssid ownNTilde ownH1 ownH2 (p :: rest) =
      .ok (some (p.idx, "facProof verify failed")) := by
  have h := rsFacPeer_decodable_ok C H zcfg noFac ownIdx ssid ownNTilde ownH1 ownH2 p pf hd false hv
  exact ⟨h, rsRound5Fac_cons_some C H zcfg noFac ownIdx ssid ownNTilde ownH1 ownH2 p rest _ h⟩

/-- **a missing (undecodable) proof is blamed** when the party does not tolerate it -/
theorem rs5_missing_proof_blamed (p : RsR4Peer) (rest : List RsR4Peer) (hd : facFromBytes p.facProof = none) :
    rsFacPeer C H zcfg false ownIdx ssid ownNTilde ownH1 ownH2 p = .ok (some "facProof does not decode") ∧
    rsRound5Fac C H zcfg false ownIdx ssid ownNTilde ownH1 ownH2 (p :: rest) =
      .ok (some (p.idx, "facProof does not decode")) := by
  have h := rsFacPeer_undecodable C H zcfg false ownIdx ssid ownNTilde ownH1 ownH2 p hd
  exact ⟨h, rsRound5Fac_cons_some C H zcfg false ownIdx ssid ownNTilde ownH1 ownH2 p rest _ h⟩

/-- … and accepted when the party was configured to tolerate it: the loop goes on to the next peer -/
theorem rs5_missing_proof_tolerated (p : RsR4Peer) (rest : List RsR4Peer) (hd : facFromBytes p.facProof = none) :
    rsFacPeer C H zcfg true ownIdx ssid ownNTilde ownH1 ownH2 p = .ok none ∧
    rsRound5Fac C H zcfg true ownIdx ssid ownNTilde ownH1 ownH2 (p :: rest) =
      rsRound5Fac C H zcfg true ownIdx ssid ownNTilde ownH1 ownH2 rest := by
  have h := rsFacPeer_undecodable C H zcfg true ownIdx ssid ownNTilde ownH1 ownH2 p hd
  exact ⟨h, rsRound5Fac_cons_none C H zcfg true ownIdx ssid ownNTilde ownH1 ownH2 p rest h⟩

/-! ## the call returns (current tree) -/

/-- the judgement about one peer is always a verdict on the current tree — no hypothesis at all -/
theorem rs5_peer_returns (p : RsR4Peer) :
    ∃ v, rsFacPeer C H Zk.cur noFac ownIdx ssid ownNTilde ownH1 ownH2 p = .ok v := by
  cases hd : facFromBytes p.facProof with
  | none => exact ⟨_, rsFacPeer_undecodable C H _ noFac ownIdx ssid ownNTilde ownH1 ownH2 p hd⟩
  | some pf =>
    obtain ⟨b, hb⟩ := facVerify_decoded_returns C H p pf hd (Blame.contextJ ssid ownIdx) p.paillierN ownNTilde
      ownH1 ownH2
    exact ⟨_, rsFacPeer_decodable_ok C H _ noFac ownIdx ssid ownNTilde ownH1 ownH2 p pf hd b hb⟩

/-- **the round returns**: the key data is emitted or one peer is named -/
theorem rs5_returns (peers : List RsR4Peer) :
    ∃ r, rsRound5Fac C H Zk.cur noFac ownIdx ssid ownNTilde ownH1 ownH2 peers = .ok r := by
  rw [rsRound5Fac_eq]
  refine C05L.seqLoop_total _ _ (fun p _ _ => ?_) (fun _ => ⟨_, rfl⟩) ()
  obtain ⟨v, hv⟩ := rs5_peer_returns C H noFac ownIdx ssid ownNTilde ownH1 ownH2 p
  unfold facStep
  rw [hv]
  cases v <;> exact ⟨_, rfl⟩

/-- **no crash**, whatever the peers sent and whatever the party's own parameters are -/
theorem rs5_no_panic (peers : List RsR4Peer) (tag : String) :
    rsRound5Fac C H Zk.cur noFac ownIdx ssid ownNTilde ownH1 ownH2 peers ≠ .panic tag := by
  obtain ⟨r, hr⟩ := rs5_returns C H noFac ownIdx ssid ownNTilde ownH1 ownH2 peers
  rw [hr]; nofun

/-- **no error without a culprit** -/
theorem rs5_no_unattributed_error (peers : List RsR4Peer) (e : String) :
    rsRound5Fac C H Zk.cur noFac ownIdx ssid ownNTilde ownH1 ownH2 peers ≠ .err e := by
  obtain ⟨r, hr⟩ := rs5_returns C H noFac ownIdx ssid ownNTilde ownH1 ownH2 peers
  rw [hr]; nofun

/-! ## the hypotheses are satisfiable, the branches are reachable (toy numbers) -/
section nonvacuity

def Hone : HashFn := fun _ => [1]

/-- only the group order matters here: `q = 2` -/
def T2 : Curve Unit := ⟨"toy", 2, 2, (), fun _ _ => (), fun _ => (), (), fun _ => none, fun _ _ => none, fun _ _ => true⟩

/-- the accepted proof of `Props/C06.lean` (`facVerify_negative_exponent_panics_witness`, last clause:
`q = 2`, `N0 = 9`, `NCap = 5`, `s = 1`, `t = 0`) as eleven non-empty byte strings -/
def okProof : List Bytes := [[1], [1], [1], [1], [1], [0], [0], [0], [0], [0], [0]]
/-- the same with `A = 2`: decodes, rejected -/
def badProof : List Bytes := [[1], [1], [2], [1], [1], [0], [0], [0], [0], [0], [0]]

example : facFromBytes okProof = some ⟨1, 1, 1, 1, 1, 0, 0, 0, 0, 0, 0⟩ := by decide
example : facFromBytes badProof = some ⟨1, 1, 2, 1, 1, 0, 0, 0, 0, 0, 0⟩ := by decide
example : facFromBytes [] = none ∧ facFromBytes (okProof ++ [[1]]) = none ∧ facFromBytes (okProof.set 3 []) = none := by
  decide

/-- accepted -/
theorem rs5_accept_witness : rsFacPeer T2 Hone Zk.cur false 1 [7] 5 1 0 ⟨2, 9, okProof⟩ = .ok none := by
  rw [rsFacPeer_none_iff]
  exact Or.inl ⟨⟨1, 1, 1, 1, 1, 0, 0, 0, 0, 0, 0⟩, by decide, by decide⟩

/-- rejected by the verifier -/
theorem rs5_reject_witness :
    rsFacPeer T2 Hone Zk.cur false 1 [7] 5 1 0 ⟨3, 9, badProof⟩ = .ok (some "facProof verify failed") := by
  rw [rsFacPeer_named_iff]
  exact Or.inl ⟨⟨1, 1, 2, 1, 1, 0, 0, 0, 0, 0, 0⟩, by decide, by decide, rfl⟩

/-- a non-positive own `NTilde`: rejected, not a crash -/
example : rsFacPeer T2 Hone Zk.cur false 1 [7] 0 1 0 ⟨2, 9, okProof⟩ = .ok (some "facProof verify failed") := by
  rw [rsFacPeer_named_iff]
  exact Or.inl ⟨⟨1, 1, 1, 1, 1, 0, 0, 0, 0, 0, 0⟩, by decide, by decide, rfl⟩

/-- missing proof: named, or tolerated -/
example : rsFacPeer T2 Hone Zk.cur false 1 [7] 5 1 0 ⟨4, 9, []⟩ = .ok (some "facProof does not decode") ∧
    rsFacPeer T2 Hone Zk.cur true 1 [7] 5 1 0 ⟨4, 9, []⟩ = .ok none :=
  ⟨(rs5_missing_proof_blamed T2 Hone Zk.cur 1 [7] 5 1 0 ⟨4, 9, []⟩ [] (by decide)).1,
   (rs5_missing_proof_tolerated T2 Hone Zk.cur 1 [7] 5 1 0 ⟨4, 9, []⟩ [] (by decide)).1⟩

/-- the round: everybody accepted → key data; the FIRST failing peer (index 3, before index 4) is named -/
example : rsRound5Fac T2 Hone Zk.cur false 1 [7] 5 1 0 [⟨2, 9, okProof⟩, ⟨3, 9, okProof⟩] = .ok none := by
  rw [rs5_pass_iff]
  intro p hp
  simp only [List.mem_cons, List.not_mem_nil, or_false] at hp
  rcases hp with rfl | rfl <;> exact rs5_accept_witness

example : rsRound5Fac T2 Hone Zk.cur false 1 [7] 5 1 0 [⟨2, 9, okProof⟩, ⟨3, 9, badProof⟩, ⟨4, 9, []⟩] =
    .ok (some (3, "facProof verify failed")) := by
  rw [rs5_first_failing_named]
  refine ⟨[⟨2, 9, okProof⟩], ⟨3, 9, badProof⟩, [⟨4, 9, []⟩], rfl, ?_, rs5_reject_witness, rfl⟩
  intro q hq
  simp only [List.mem_cons, List.not_mem_nil, or_false] at hq
  rw [hq]; exact rs5_accept_witness

/-- the hypotheses of `rs5_single_deviator` (both parts) on a list whose only failing peer is `dev = 3` -/
example : (∀ p ∈ [(⟨2, 9, okProof⟩ : RsR4Peer), ⟨3, 9, badProof⟩, ⟨4, 9, okProof⟩], p.idx ≠ 3 →
      rsFacPeer T2 Hone Zk.cur false 1 [7] 5 1 0 p = .ok none) ∧
    ([(⟨2, 9, okProof⟩ : RsR4Peer), ⟨3, 9, badProof⟩, ⟨4, 9, okProof⟩].map (·.idx)).Nodup ∧
    (∀ p ∈ [(⟨2, 9, okProof⟩ : RsR4Peer), ⟨3, 9, badProof⟩, ⟨4, 9, okProof⟩], p.idx ≠ 1) := by
  refine ⟨?_, by decide, by decide⟩
  intro p hp hne
  simp only [List.mem_cons, List.not_mem_nil, or_false] at hp
  rcases hp with rfl | rfl | rfl
  · exact rs5_accept_witness
  · exact absurd rfl hne
  · exact rs5_accept_witness

end nonvacuity
end TssVerif.C05f
