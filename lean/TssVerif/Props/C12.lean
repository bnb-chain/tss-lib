import TssVerif.Props.C11
import TssVerif.Props.C16
import TssVerif.Lemmas.C12
import TssVerif.Lemmas.C12Mod
/-! # C12 — zero-knowledge proofs are bound to their context and are not malleable

"A proof accepted for one (session string, public statement) is rejected for any other session string
and for any other statement, so a proof cannot be replayed by another participant (whose context differs
by its index) or in another context. Replacing any single component of an accepted proof … by a value not
equivalent to it in the group it lives in, or shifting a commitment and its response together along the
algebraic relation the verifier checks, makes the verifier reject."

This holds *up to a hash collision*, and the theorems say so explicitly: they hold for EVERY function
`H : Bytes → Bytes` (of fixed output length where the tag digest must be split off), and whenever
two different contexts are not told apart they exhibit the two colliding inputs.

In order: what each challenge hashes (`X_challenge_eq`), that the pre-image lists determine statement and first
moves (`X_preimage_injective`), that so do the hashed *bytes* (`X_challenge_binding`), and that two different contexts
with the same hashed bytes are a collision of the tag hash (`X_other_context_needs_collision`); which systems hash NO
session (`dln_no_session`, `range_no_session`) and what the Paillier key proof binds. Then: the protocol's session
strings `ssid ++ bytes(i)` differ for different participants; a proof accepted under two challenges forces the
challenges to coincide (group algebra); responses are determined modulo the group order, and the fourth roots of
`modproof` are determined (the verifier accepts only the smaller of `x`, `N − x`; any other accepted root factors
`N`); moving a commitment changes the hashed bytes.

Definitions of the pre-image lists (`Schnorr.preimage`, …) and `NonNeg` are in `TssVerif/Lemmas/C12.lean`.
Only non-negative integers are determined by their bytes (Go's `Bytes()` drops the sign,
`C16.neg_collides_witness`); points contribute natural numbers, for the other systems the hypothesis
`NonNeg` is carried. `Short` (every element shorter than 2^64 bytes) is discharged by
`short_of_lt_pow` for all integers below `256^k`, `k < 2^64`. -/
set_option autoImplicit false
namespace TssVerif.C12
open TssVerif Zk
open _root_.TssVerif.C16 (Short)

variable {P : Type} (C : Curve P) (H : HashFn)

/-! ## generic statements -/

/-- the framed bytes of an integer list determine the absolute values -/
theorem frame_int_natAbs_injective {l l' : List Int} (hs : Short (l.map intToBytesBE))
    (hs' : Short (l'.map intToBytesBE))
    (h : frame (l.map intToBytesBE) = frame (l'.map intToBytesBE)) :
    l.map Int.natAbs = l'.map Int.natAbs :=
  C12L.frame_int_natAbs hs hs' h

/-- **untagged challenges** (`SHA512_256i`): the hashed bytes determine the non-negative inputs -/
theorem untagged_challenge_binding {l l' : List Int} (hn : NonNeg l) (hn' : NonNeg l')
    (hs : Short (l.map intToBytesBE)) (hs' : Short (l'.map intToBytesBE))
    (h : frame (l.map intToBytesBE) = frame (l'.map intToBytesBE)) : l = l' :=
  C12L.frame_int_inj hn hn' hs hs' h

/-- **tagged challenges** (`SHA512_256i_TAGGED`): the hashed bytes determine the inputs and the tag
digest, for every hash with digests of one fixed length -/
theorem tagged_challenge_binding (hlen : ∀ x y, (H x).length = (H y).length)
    {sess sess' : Bytes} {l l' : List Int} (hn : NonNeg l) (hn' : NonNeg l')
    (hs : Short (l.map intToBytesBE)) (hs' : Short (l'.map intToBytesBE))
    (h : taggedPreimage H sess l = taggedPreimage H sess' l') :
    l = l' ∧ H (frame [sess]) = H (frame [sess']) :=
  C12L.tagged_int_inj H hlen hn hn' hs hs' h

/-- … hence two contexts with the same hashed bytes have the same inputs, and the same session or
two different byte strings `frame [sess] ≠ frame [sess']` on which `H` collides -/
theorem tagged_other_context_needs_collision (hlen : ∀ x y, (H x).length = (H y).length)
    {sess sess' : Bytes} {l l' : List Int} (hn : NonNeg l) (hn' : NonNeg l')
    (hs : Short (l.map intToBytesBE)) (hs' : Short (l'.map intToBytesBE))
    (h : taggedPreimage H sess l = taggedPreimage H sess' l') :
    l = l' ∧ (sess = sess' ∨
      (sess ≠ sess' ∧ frame [sess] ≠ frame [sess'] ∧ H (frame [sess]) = H (frame [sess']))) :=
  C12L.tagged_context H hlen hn hn' hs hs' h

/-- the same one level up: equal challenge *digests* from two different (session, inputs) pairs give
two different byte strings with the same digest value -/
theorem tagged_digest_needs_collision (hlen : ∀ x y, (H x).length = (H y).length)
    {sess sess' : Bytes} {l l' : List Int} (hn : NonNeg l) (hn' : NonNeg l')
    (hs : Short (l.map intToBytesBE)) (hs' : Short (l'.map intToBytesBE))
    (hl : l ≠ []) (hl' : l' ≠ []) (hne : (sess, l) ≠ (sess', l'))
    (h : sha512_256iTaggedWith H sess l = sha512_256iTaggedWith H sess' l') :
    ∃ a b : Bytes, a ≠ b ∧ bytesToNat (H a) = bytesToNat (H b) := by
  have e1 : l.isEmpty = false := by cases l <;> simp_all
  have e2 : l'.isEmpty = false := by cases l' <;> simp_all
  simp only [sha512_256iTaggedWith, e1, e2, Bool.false_eq_true, if_false, Option.some.injEq] at h
  exact C12L.tagged_collision H hlen id hn hn' hs hs' hne h

theorem untagged_digest_needs_collision {l l' : List Int} (hn : NonNeg l) (hn' : NonNeg l')
    (hs : Short (l.map intToBytesBE)) (hs' : Short (l'.map intToBytesBE))
    (hl : l ≠ []) (hl' : l' ≠ []) (hne : l ≠ l')
    (h : sha512_256iWith H l = sha512_256iWith H l') :
    ∃ a b : Bytes, a ≠ b ∧ bytesToNat (H a) = bytesToNat (H b) := by
  have e1 : l.isEmpty = false := by cases l <;> simp_all
  have e2 : l'.isEmpty = false := by cases l' <;> simp_all
  simp only [sha512_256iWith, e1, e2, Bool.false_eq_true, if_false, Option.some.injEq] at h
  exact ⟨_, _, fun hp => hne (C12L.frame_int_inj hn hn' hs hs' hp), h⟩

/-- `Short` holds for every list of integers below `256^k` in absolute value (`k < 2^64` bytes) -/
theorem short_of_lt_pow (k : Nat) (hk : k < 2 ^ 64) {l : List Int}
    (h : ∀ x ∈ l, x.natAbs < 256 ^ k) : Short (l.map intToBytesBE) := by
  intro b hb
  obtain ⟨x, hx, rfl⟩ := List.mem_map.1 hb
  have := C12L.natToBytesLE_length_le k x.natAbs (h x hx)
  simp only [intToBytesBE, natToBytesBE, List.length_reverse]
  omega

/-! ## pre-image injectivity, system by system -/

/-! ### Schnorr (`ZKProof`) -/

theorem schnorr_challenge_eq (sess : Bytes) (X α : ECPoint) :
    schnorrChallenge C H sess X α =
      rejectionSample C.q ((sha512_256iTaggedWith H sess (Schnorr.preimage (baseXY C) X α)).getD 0) :=
  rfl

theorem schnorr_preimage_injective {g X α g' X' α' : ECPoint}
    (h : Schnorr.preimage g X α = Schnorr.preimage g' X' α') : g = g' ∧ X = X' ∧ α = α' := by
  simp only [Schnorr.preimage, List.cons.injEq, Int.natCast_inj, and_true] at h
  obtain ⟨h1, h2, h3, h4, h5, h6⟩ := h
  exact ⟨Prod.ext h3 h4, Prod.ext h1 h2, Prod.ext h5 h6⟩

theorem schnorr_challenge_binding (hlen : ∀ x y, (H x).length = (H y).length)
    {sess sess' : Bytes} {g X α g' X' α' : ECPoint}
    (hs : Short ((Schnorr.preimage g X α).map intToBytesBE))
    (hs' : Short ((Schnorr.preimage g' X' α').map intToBytesBE))
    (h : taggedPreimage H sess (Schnorr.preimage g X α) =
      taggedPreimage H sess' (Schnorr.preimage g' X' α')) :
    (g = g' ∧ X = X' ∧ α = α') ∧ H (frame [sess]) = H (frame [sess']) :=
  (C12L.tagged_int_inj H hlen (C12L.nonNeg_schnorr _ _ _)
    (C12L.nonNeg_schnorr _ _ _) hs hs' h).imp_left schnorr_preimage_injective

/-- **another context needs a collision**: a different (session, statement, commitment) with the same
hashed bytes differs in the session only, and the tag hash collides on the two sessions -/
theorem schnorr_other_context_needs_collision (hlen : ∀ x y, (H x).length = (H y).length)
    {sess sess' : Bytes} {g X α X' α' : ECPoint}
    (hs : Short ((Schnorr.preimage g X α).map intToBytesBE))
    (hs' : Short ((Schnorr.preimage g X' α').map intToBytesBE))
    (hne : (sess, X, α) ≠ (sess', X', α'))
    (h : taggedPreimage H sess (Schnorr.preimage g X α) =
      taggedPreimage H sess' (Schnorr.preimage g X' α')) :
    sess ≠ sess' ∧ frame [sess] ≠ frame [sess'] ∧ H (frame [sess]) = H (frame [sess']) := by
  obtain ⟨h1, h2⟩ := C12L.tagged_context H hlen (C12L.nonNeg_schnorr _ _ _)
    (C12L.nonNeg_schnorr _ _ _) hs hs' h
  obtain ⟨_, rfl, rfl⟩ := schnorr_preimage_injective h1
  rcases h2 with rfl | h2
  · exact absurd rfl hne
  · exact h2

/-! ### Schnorr-V (`ZKVProof`) -/

theorem schnorrV_challenge_eq (sess : Bytes) (V R α : ECPoint) :
    schnorrVChallenge C H sess V R α =
      rejectionSample C.q
        ((sha512_256iTaggedWith H sess (SchnorrV.preimage (baseXY C) V R α)).getD 0) :=
  rfl

theorem schnorrV_preimage_injective {g V R α g' V' R' α' : ECPoint}
    (h : SchnorrV.preimage g V R α = SchnorrV.preimage g' V' R' α') :
    g = g' ∧ V = V' ∧ R = R' ∧ α = α' := by
  simp only [SchnorrV.preimage, List.cons.injEq, Int.natCast_inj, and_true] at h
  obtain ⟨h1, h2, h3, h4, h5, h6, h7, h8⟩ := h
  exact ⟨Prod.ext h5 h6, Prod.ext h1 h2, Prod.ext h3 h4, Prod.ext h7 h8⟩

theorem schnorrV_challenge_binding (hlen : ∀ x y, (H x).length = (H y).length)
    {sess sess' : Bytes} {g V R α g' V' R' α' : ECPoint}
    (hs : Short ((SchnorrV.preimage g V R α).map intToBytesBE))
    (hs' : Short ((SchnorrV.preimage g' V' R' α').map intToBytesBE))
    (h : taggedPreimage H sess (SchnorrV.preimage g V R α) =
      taggedPreimage H sess' (SchnorrV.preimage g' V' R' α')) :
    (g = g' ∧ V = V' ∧ R = R' ∧ α = α') ∧ H (frame [sess]) = H (frame [sess']) :=
  (C12L.tagged_int_inj H hlen (C12L.nonNeg_schnorrV _ _ _ _)
    (C12L.nonNeg_schnorrV _ _ _ _) hs hs' h).imp_left schnorrV_preimage_injective

theorem schnorrV_other_context_needs_collision (hlen : ∀ x y, (H x).length = (H y).length)
    {sess sess' : Bytes} {g V R α V' R' α' : ECPoint}
    (hs : Short ((SchnorrV.preimage g V R α).map intToBytesBE))
    (hs' : Short ((SchnorrV.preimage g V' R' α').map intToBytesBE))
    (hne : (sess, V, R, α) ≠ (sess', V', R', α'))
    (h : taggedPreimage H sess (SchnorrV.preimage g V R α) =
      taggedPreimage H sess' (SchnorrV.preimage g V' R' α')) :
    sess ≠ sess' ∧ frame [sess] ≠ frame [sess'] ∧ H (frame [sess]) = H (frame [sess']) := by
  obtain ⟨h1, h2⟩ := C12L.tagged_context H hlen (C12L.nonNeg_schnorrV _ _ _ _)
    (C12L.nonNeg_schnorrV _ _ _ _) hs hs' h
  obtain ⟨_, rfl, rfl, rfl⟩ := schnorrV_preimage_injective h1
  rcases h2 with rfl | h2
  · exact absurd rfl hne
  · exact h2

/-! ### Bob's proofs (`ProofBob`, `ProofBobWC`)

Recorded: the challenge hashes the Paillier key `(N, N+1)`, the ciphertexts, the point statement and
the first moves, and NOT the verifier's auxiliary parameters `Ñ, h1, h2` (`bobChallenge` does not
take them). -/

theorem bob_challenge_eq (sess : Bytes) (n c1 c2 : Int) (xu : Option (ECPoint × ECPoint))
    (pf : BobProof) :
    bobChallenge C H sess n c1 c2 xu pf =
      rejectionSample C.q ((sha512_256iTaggedWith H sess (Bob.preimage n c1 c2 xu pf)).getD 0) := by
  rcases xu with _ | ⟨X, U⟩ <;> rfl

theorem bob_preimage_injective {n c1 c2 n' c1' c2' : Int} {xu xu' : Option (ECPoint × ECPoint)}
    {pf pf' : BobProof} (h : Bob.preimage n c1 c2 xu pf = Bob.preimage n' c1' c2' xu' pf') :
    n = n' ∧ c1 = c1' ∧ c2 = c2' ∧ xu = xu' ∧ pf.z = pf'.z ∧ pf.zPrm = pf'.zPrm ∧ pf.t = pf'.t ∧
      pf.v = pf'.v ∧ pf.w = pf'.w :=
  C12L.bob_preimage_inj h

theorem bob_challenge_binding (hlen : ∀ x y, (H x).length = (H y).length)
    {sess sess' : Bytes} {n c1 c2 n' c1' c2' : Int} {xu xu' : Option (ECPoint × ECPoint)}
    {pf pf' : BobProof}
    (hn : NonNeg (Bob.preimage n c1 c2 xu pf)) (hn' : NonNeg (Bob.preimage n' c1' c2' xu' pf'))
    (hs : Short ((Bob.preimage n c1 c2 xu pf).map intToBytesBE))
    (hs' : Short ((Bob.preimage n' c1' c2' xu' pf').map intToBytesBE))
    (h : taggedPreimage H sess (Bob.preimage n c1 c2 xu pf) =
      taggedPreimage H sess' (Bob.preimage n' c1' c2' xu' pf')) :
    (n = n' ∧ c1 = c1' ∧ c2 = c2' ∧ xu = xu' ∧ pf.z = pf'.z ∧ pf.zPrm = pf'.zPrm ∧ pf.t = pf'.t ∧
      pf.v = pf'.v ∧ pf.w = pf'.w) ∧ H (frame [sess]) = H (frame [sess']) :=
  (C12L.tagged_int_inj H hlen hn hn' hs hs' h).imp_left C12L.bob_preimage_inj

theorem bob_other_context_needs_collision (hlen : ∀ x y, (H x).length = (H y).length)
    {sess sess' : Bytes} {n c1 c2 n' c1' c2' : Int} {xu xu' : Option (ECPoint × ECPoint)}
    {pf pf' : BobProof}
    (hn : NonNeg (Bob.preimage n c1 c2 xu pf)) (hn' : NonNeg (Bob.preimage n' c1' c2' xu' pf'))
    (hs : Short ((Bob.preimage n c1 c2 xu pf).map intToBytesBE))
    (hs' : Short ((Bob.preimage n' c1' c2' xu' pf').map intToBytesBE))
    (h : taggedPreimage H sess (Bob.preimage n c1 c2 xu pf) =
      taggedPreimage H sess' (Bob.preimage n' c1' c2' xu' pf')) :
    (n = n' ∧ c1 = c1' ∧ c2 = c2' ∧ xu = xu' ∧ pf.z = pf'.z ∧ pf.zPrm = pf'.zPrm ∧ pf.t = pf'.t ∧
      pf.v = pf'.v ∧ pf.w = pf'.w) ∧
    (sess = sess' ∨
      (sess ≠ sess' ∧ frame [sess] ≠ frame [sess'] ∧ H (frame [sess]) = H (frame [sess']))) :=
  (C12L.tagged_context H hlen hn hn' hs hs' h).imp_left C12L.bob_preimage_inj

/-! ### no-small-factor proof (`facproof`) -/

theorem fac_challenge_eq (q : Nat) (sess : Bytes) (n0 ncap s t : Int) (pf : FacProof) :
    facChallenge H q sess n0 ncap s t pf =
      rejectionSample q ((sha512_256iTaggedWith H sess (Fac.preimage n0 ncap s t pf)).getD 0) :=
  rfl

theorem fac_preimage_injective {n0 ncap s t n0' ncap' s' t' : Int} {pf pf' : FacProof}
    (h : Fac.preimage n0 ncap s t pf = Fac.preimage n0' ncap' s' t' pf') :
    n0 = n0' ∧ ncap = ncap' ∧ s = s' ∧ t = t' ∧ pf.P = pf'.P ∧ pf.Q = pf'.Q ∧ pf.A = pf'.A ∧
      pf.B = pf'.B ∧ pf.T = pf'.T ∧ pf.sigma = pf'.sigma := by
  simpa only [Fac.preimage, List.cons.injEq, and_true] using h

theorem fac_challenge_binding (hlen : ∀ x y, (H x).length = (H y).length)
    {sess sess' : Bytes} {n0 ncap s t n0' ncap' s' t' : Int} {pf pf' : FacProof}
    (hn : NonNeg (Fac.preimage n0 ncap s t pf)) (hn' : NonNeg (Fac.preimage n0' ncap' s' t' pf'))
    (hs : Short ((Fac.preimage n0 ncap s t pf).map intToBytesBE))
    (hs' : Short ((Fac.preimage n0' ncap' s' t' pf').map intToBytesBE))
    (h : taggedPreimage H sess (Fac.preimage n0 ncap s t pf) =
      taggedPreimage H sess' (Fac.preimage n0' ncap' s' t' pf')) :
    (n0 = n0' ∧ ncap = ncap' ∧ s = s' ∧ t = t' ∧ pf.P = pf'.P ∧ pf.Q = pf'.Q ∧ pf.A = pf'.A ∧
      pf.B = pf'.B ∧ pf.T = pf'.T ∧ pf.sigma = pf'.sigma) ∧
    H (frame [sess]) = H (frame [sess']) :=
  (C12L.tagged_int_inj H hlen hn hn' hs hs' h).imp_left fac_preimage_injective

theorem fac_other_context_needs_collision (hlen : ∀ x y, (H x).length = (H y).length)
    {sess sess' : Bytes} {n0 ncap s t n0' ncap' s' t' : Int} {pf pf' : FacProof}
    (hn : NonNeg (Fac.preimage n0 ncap s t pf)) (hn' : NonNeg (Fac.preimage n0' ncap' s' t' pf'))
    (hs : Short ((Fac.preimage n0 ncap s t pf).map intToBytesBE))
    (hs' : Short ((Fac.preimage n0' ncap' s' t' pf').map intToBytesBE))
    (h : taggedPreimage H sess (Fac.preimage n0 ncap s t pf) =
      taggedPreimage H sess' (Fac.preimage n0' ncap' s' t' pf')) :
    (n0 = n0' ∧ ncap = ncap' ∧ s = s' ∧ t = t' ∧ pf.P = pf'.P ∧ pf.Q = pf'.Q ∧ pf.A = pf'.A ∧
      pf.B = pf'.B ∧ pf.T = pf'.T ∧ pf.sigma = pf'.sigma) ∧
    (sess = sess' ∨
      (sess ≠ sess' ∧ frame [sess] ≠ frame [sess'] ∧ H (frame [sess]) = H (frame [sess']))) :=
  (C12L.tagged_context H hlen hn hn' hs hs' h).imp_left fac_preimage_injective

/-! ### Paillier-Blum modulus proof (`modproof`): a chain of challenges -/

/-- one step of the chain: `Y_i` is the tagged digest of `(W, N, Y_0 … Y_{i-1})` reduced mod `N` -/
theorem mod_challenge_eq (sess : Bytes) (w n : Int) (k : Nat) (acc : List Nat) (hn : n ≠ 0) :
    modYs H sess w n (k + 1) acc =
      modYs H sess w n k
        (acc ++ [((((sha512_256iTaggedWith H sess (Mod.preimage w n acc)).getD 0 : Nat) : Int) % n).toNat]) := by
  rw [modYs, if_neg hn]
  rfl

theorem mod_preimage_injective {w n w' n' : Int} {ys ys' : List Nat}
    (h : Mod.preimage w n ys = Mod.preimage w' n' ys') : w = w' ∧ n = n' ∧ ys = ys' := by
  simp only [Mod.preimage, List.cons.injEq] at h
  refine ⟨h.1, h.2.1, ?_⟩
  exact (List.map_inj_right (fun a b hab => Int.ofNat.inj hab)).1 h.2.2

theorem mod_challenge_binding (hlen : ∀ x y, (H x).length = (H y).length)
    {sess sess' : Bytes} {w n w' n' : Int} {ys ys' : List Nat}
    (hn : NonNeg (Mod.preimage w n ys)) (hn' : NonNeg (Mod.preimage w' n' ys'))
    (hs : Short ((Mod.preimage w n ys).map intToBytesBE))
    (hs' : Short ((Mod.preimage w' n' ys').map intToBytesBE))
    (h : taggedPreimage H sess (Mod.preimage w n ys) = taggedPreimage H sess' (Mod.preimage w' n' ys')) :
    (w = w' ∧ n = n' ∧ ys = ys') ∧ H (frame [sess]) = H (frame [sess']) :=
  (C12L.tagged_int_inj H hlen hn hn' hs hs' h).imp_left mod_preimage_injective

theorem mod_other_context_needs_collision (hlen : ∀ x y, (H x).length = (H y).length)
    {sess sess' : Bytes} {w n w' n' : Int} {ys ys' : List Nat}
    (hn : NonNeg (Mod.preimage w n ys)) (hn' : NonNeg (Mod.preimage w' n' ys'))
    (hs : Short ((Mod.preimage w n ys).map intToBytesBE))
    (hs' : Short ((Mod.preimage w' n' ys').map intToBytesBE))
    (h : taggedPreimage H sess (Mod.preimage w n ys) = taggedPreimage H sess' (Mod.preimage w' n' ys')) :
    (w = w' ∧ n = n' ∧ ys = ys') ∧
    (sess = sess' ∨
      (sess ≠ sess' ∧ frame [sess] ≠ frame [sess'] ∧ H (frame [sess]) = H (frame [sess']))) :=
  (C12L.tagged_context H hlen hn hn' hs hs' h).imp_left mod_preimage_injective

/-! ### Alice's range proof (`RangeProofAlice`): NO session -/

theorem range_challenge_eq (q : Nat) (n c z u w : Int) :
    rangeChallenge H q n c z u w =
      rejectionSample q ((sha512_256iWith H (Range.preimage n c z u w)).getD 0) :=
  rfl

/-- **recorded**: the bytes hashed for Alice's challenge are the frame of `(N, N+1, c, z, u, w)` and
nothing else: no session string, no participant index, and not the verifier's `Ñ, h1, h2`
(`rangeChallenge` and `rangeVerify` take no session argument). -/
theorem range_no_session (q : Nat) (n c z u w : Int) :
    rangeChallenge H q n c z u w =
      bytesToNat (H (frame ((Range.preimage n c z u w).map intToBytesBE))) % q :=
  rfl

theorem range_preimage_injective {n c z u w n' c' z' u' w' : Int}
    (h : Range.preimage n c z u w = Range.preimage n' c' z' u' w') :
    n = n' ∧ c = c' ∧ z = z' ∧ u = u' ∧ w = w' :=
  C12L.range_preimage_inj h

theorem range_challenge_binding {n c z u w n' c' z' u' w' : Int}
    (hn : NonNeg (Range.preimage n c z u w)) (hn' : NonNeg (Range.preimage n' c' z' u' w'))
    (hs : Short ((Range.preimage n c z u w).map intToBytesBE))
    (hs' : Short ((Range.preimage n' c' z' u' w').map intToBytesBE))
    (h : frame ((Range.preimage n c z u w).map intToBytesBE) =
      frame ((Range.preimage n' c' z' u' w').map intToBytesBE)) :
    n = n' ∧ c = c' ∧ z = z' ∧ u = u' ∧ w = w' :=
  C12L.range_preimage_inj (C12L.frame_int_inj hn hn' hs hs' h)

/-! ### discrete-log proof (`dlnproof`): NO session -/

theorem dln_challenge_eq (h1 h2 n : Int) (alpha : List Int) :
    dlnChallenge H h1 h2 n alpha = (sha512_256iWith H (Dln.preimage h1 h2 n alpha)).getD 0 :=
  rfl

/-- **recorded**: the bytes hashed for the `dlnproof` challenge are the frame of
`(h1, h2, N, alpha_1 … alpha_128)` and nothing else: no session string and no participant index
(`dlnChallenge` and `dlnVerify` take no session argument). -/
theorem dln_no_session (h1 h2 n : Int) (alpha : List Int) :
    dlnChallenge H h1 h2 n alpha =
      bytesToNat (H (frame ((Dln.preimage h1 h2 n alpha).map intToBytesBE))) :=
  rfl

theorem dln_preimage_injective {h1 h2 n h1' h2' n' : Int} {al al' : List Int}
    (h : Dln.preimage h1 h2 n al = Dln.preimage h1' h2' n' al') :
    h1 = h1' ∧ h2 = h2' ∧ n = n' ∧ al = al' := by
  simpa only [Dln.preimage, List.cons.injEq] using h

theorem dln_challenge_binding {h1 h2 n h1' h2' n' : Int} {al al' : List Int}
    (hn : NonNeg (Dln.preimage h1 h2 n al)) (hn' : NonNeg (Dln.preimage h1' h2' n' al'))
    (hs : Short ((Dln.preimage h1 h2 n al).map intToBytesBE))
    (hs' : Short ((Dln.preimage h1' h2' n' al').map intToBytesBE))
    (h : frame ((Dln.preimage h1 h2 n al).map intToBytesBE) =
      frame ((Dln.preimage h1' h2' n' al').map intToBytesBE)) :
    h1 = h1' ∧ h2 = h2' ∧ n = n' ∧ al = al' :=
  dln_preimage_injective (C12L.frame_int_inj hn hn' hs hs' h)

/-! ### the Paillier key proof (`paillier.Proof`) binds `(k, X, N)` and no session -/

/-- what `GenerateXs(m, k, N, pub)` hashes for candidate `(i, cnt)`: `blocks` digests of
`(itoa i, itoa j, itoa cnt, k, X.x, X.y, N)` as byte strings (this is the call made by
`Paillier.generateXs`, by definition) -/
theorem paillier_candidate_eq (i cnt : Nat) (k : Int) (pub : ECPoint) (n : Int) (blocks : Nat) :
    Paillier.xsCandidate H i cnt (intToBytesBE k) (natToBytesBE pub.1) (natToBytesBE pub.2)
        (intToBytesBE n) blocks =
      bytesToNat ((List.range blocks).flatMap fun j => H (frame (PaillierKey.preimage i j cnt k pub n))) :=
  rfl

/-- the hashed bytes determine the counters' decimal strings, `|k|`, the point `X` and `|N|`
(so `k`, `N` themselves when non-negative); there is no session string among them -/
theorem paillier_key_binding {i j cnt i' j' cnt' : Nat} {k k' n n' : Int} {pub pub' : ECPoint}
    (hs : Short (PaillierKey.preimage i j cnt k pub n))
    (hs' : Short (PaillierKey.preimage i' j' cnt' k' pub' n'))
    (h : frame (PaillierKey.preimage i j cnt k pub n) = frame (PaillierKey.preimage i' j' cnt' k' pub' n')) :
    Paillier.itoa i = Paillier.itoa i' ∧ Paillier.itoa j = Paillier.itoa j' ∧
      Paillier.itoa cnt = Paillier.itoa cnt' ∧ k.natAbs = k'.natAbs ∧ pub = pub' ∧
      n.natAbs = n'.natAbs :=
  C12L.paillier_key_inj hs hs' h

theorem paillier_key_binding_nonneg {i j cnt i' j' cnt' : Nat} {k k' n n' : Int} {pub pub' : ECPoint}
    (hk : 0 ≤ k) (hk' : 0 ≤ k') (hn : 0 ≤ n) (hn' : 0 ≤ n')
    (hs : Short (PaillierKey.preimage i j cnt k pub n))
    (hs' : Short (PaillierKey.preimage i' j' cnt' k' pub' n'))
    (h : frame (PaillierKey.preimage i j cnt k pub n) = frame (PaillierKey.preimage i' j' cnt' k' pub' n')) :
    k = k' ∧ pub = pub' ∧ n = n' := by
  obtain ⟨_, _, _, h1, h2, h3⟩ := C12L.paillier_key_inj hs hs' h
  exact ⟨by omega, h2, by omega⟩

/-! ## the protocol's contexts: `ssid ++ bytes(i)` (Go: `append(ssid, big.Int(i).Bytes()...)`) -/

theorem context_injective (ssid : Bytes) {i j : Nat}
    (h : ssid ++ natToBytesBE i = ssid ++ natToBytesBE j) : i = j :=
  C16.natBytes_injective (List.append_cancel_left h)

theorem context_index_distinct (ssid : Bytes) {i j : Nat} (h : i ≠ j) :
    ssid ++ natToBytesBE i ≠ ssid ++ natToBytesBE j :=
  fun e => h (context_injective ssid e)

/-- recorded: the concatenation is not framed, so it is injective in the index only for a FIXED `ssid`:
`[1] ++ bytes(0x0203) = [1, 2] ++ bytes(3)` -/
theorem context_not_framed_witness :
    [(1 : UInt8)] ++ natToBytesBE 0x0203 = [1, 2] ++ natToBytesBE 3 := by
  simp [natToBytesBE, natToBytesLE]

/-! ## a proof accepted under two challenges forces them to coincide

Group algebra only. `Curve.Lawful` also covers curves with a cofactor (edwards25519), where a
non-identity point of small order satisfies `c·X = c'·X` for `c ≢ c' (mod q)`; hence the statement
point must have order `q`: `X ≠ 0` AND `q·X = 0` (on a prime-order curve the second is automatic).
The hypothesis `X ≠ 0` alone is not enough. -/

theorem schnorr_two_challenges (hL : C.Lawful) {X α : P} {t c c' : Nat}
    (hX : X ≠ C.zero) (hXq : C.smul C.q X = C.zero) (hc : c < C.q) (hc' : c' < C.q)
    (h1 : C.smul t C.base = C.add α (C.smul c X))
    (h2 : C.smul t C.base = C.add α (C.smul c' X)) : c = c' :=
  C12L.two_challenges hL hX hXq hc hc' h1 h2

theorem schnorrV_two_challenges (hL : C.Lawful) {V R α : P} {t u c c' : Nat}
    (hV : V ≠ C.zero) (hVq : C.smul C.q V = C.zero) (hc : c < C.q) (hc' : c' < C.q)
    (h1 : C.add (C.smul t R) (C.smul u C.base) = C.add α (C.smul c V))
    (h2 : C.add (C.smul t R) (C.smul u C.base) = C.add α (C.smul c' V)) : c = c' :=
  C12L.two_challenges hL hV hVq hc hc' h1 h2

/-- the order hypothesis cannot be dropped: on the lawful curve `C12L.cofactorCurve` (cyclic of order 6,
base point of order `q = 3`) the non-identity point `X = 3` of order 2 passes with `c = 0` and with `c' = 2` -/
theorem schnorr_two_challenges_needs_order :
    ∃ (X α : ZMod 6) (t c c' : Nat), C12L.cofactorCurve.Lawful ∧ X ≠ C12L.cofactorCurve.zero ∧
      c < C12L.cofactorCurve.q ∧ c' < C12L.cofactorCurve.q ∧
      C12L.cofactorCurve.smul t C12L.cofactorCurve.base =
        C12L.cofactorCurve.add α (C12L.cofactorCurve.smul c X) ∧
      C12L.cofactorCurve.smul t C12L.cofactorCurve.base =
        C12L.cofactorCurve.add α (C12L.cofactorCurve.smul c' X) ∧ c ≠ c' :=
  ⟨3, 0, 0, 0, 2, C12L.cofactorCurve_lawful, by decide, by decide, by decide, by decide, by decide, by decide⟩

/-- what acceptance means (current guards): `t·G = α + c·X` with `c` the challenge of this context -/
theorem schnorr_accept_equation (hL : C.Lawful) {sess : Bytes} {X α : ECPoint} {t : Nat}
    (h : schnorrVerify C H cur sess X α t = .ok true) :
    t % C.q ≠ 0 ∧ schnorrChallenge C H sess X α ≠ 0 ∧
    ∃ pX pα, C.lift X = some pX ∧ C.lift α = some pα ∧
      C.smul t C.base = C.add pα (C.smul (schnorrChallenge C H sess X α) pX) :=
  C11.schnorr_accept_implies C hL H sess X α t h

theorem schnorrV_accept_equation (hL : C.Lawful) {sess : Bytes} {V R α : ECPoint} {t u : Nat}
    (h : schnorrVVerify C H cur sess V R α t u = .ok true) :
    t % C.q ≠ 0 ∧ u % C.q ≠ 0 ∧ schnorrVChallenge C H sess V R α ≠ 0 ∧
    ∃ pV pR pα, C.lift V = some pV ∧ C.lift R = some pR ∧ C.lift α = some pα ∧
      C.add (C.smul t pR) (C.smul u C.base) =
        C.add pα (C.smul (schnorrVChallenge C H sess V R α) pV) :=
  (C11.schnorrV_accept_implies C hL H sess V R α t u h).2

/-- **replay in another session**: one proof `(α, t)` accepted for `X` under two sessions forces the
two challenges to be the same number -/
theorem schnorr_accepted_two_sessions (hL : C.Lawful) {sess sess' : Bytes} {X α : ECPoint} {t : Nat}
    (hX : ∀ pX, C.lift X = some pX → pX ≠ C.zero ∧ C.smul C.q pX = C.zero)
    (h : schnorrVerify C H cur sess X α t = .ok true)
    (h' : schnorrVerify C H cur sess' X α t = .ok true) :
    schnorrChallenge C H sess X α = schnorrChallenge C H sess' X α := by
  obtain ⟨_, _, pX, pα, hX1, hα, e⟩ := schnorr_accept_equation C H hL h
  obtain ⟨_, _, pX', pα', hX', hα', e'⟩ := schnorr_accept_equation C H hL h'
  rw [hX1] at hX'; rw [hα] at hα'
  cases hX'; cases hα'
  obtain ⟨h0, hq⟩ := hX pX hX1
  exact C12L.two_challenges hL h0 hq (C12L.schnorrChallenge_lt C H hL _ _ _) (C12L.schnorrChallenge_lt C H hL _ _ _) e e'

/-- … and that is a collision: for EVERY hash `H` (fixed digest length), a Schnorr proof accepted under
two different session strings exhibits two different byte strings whose digests agree modulo `q`
(the tag hash collides on the two sessions, or the challenge hash does on the two tagged pre-images) -/
theorem schnorr_replay_other_session_needs_collision (hL : C.Lawful)
    (hlen : ∀ x y, (H x).length = (H y).length) {sess sess' : Bytes} {X α : ECPoint} {t : Nat}
    (hX : ∀ pX, C.lift X = some pX → pX ≠ C.zero ∧ C.smul C.q pX = C.zero)
    (hs : Short ((Schnorr.preimage (baseXY C) X α).map intToBytesBE))
    (hne : sess ≠ sess')
    (h : schnorrVerify C H cur sess X α t = .ok true)
    (h' : schnorrVerify C H cur sess' X α t = .ok true) :
    ∃ a b : Bytes, a ≠ b ∧ bytesToNat (H a) % C.q = bytesToNat (H b) % C.q :=
  C12L.tagged_replay_collision H hlen C.q (C12L.nonNeg_schnorr _ _ _) hs hne (schnorr_accepted_two_sessions C H hL hX h h')

/-- the same for Schnorr-V (`V` of order `q`) -/
theorem schnorrV_accepted_two_sessions (hL : C.Lawful) {sess sess' : Bytes} {V R α : ECPoint} {t u : Nat}
    (hV : ∀ pV, C.lift V = some pV → pV ≠ C.zero ∧ C.smul C.q pV = C.zero)
    (h : schnorrVVerify C H cur sess V R α t u = .ok true)
    (h' : schnorrVVerify C H cur sess' V R α t u = .ok true) :
    schnorrVChallenge C H sess V R α = schnorrVChallenge C H sess' V R α := by
  obtain ⟨_, _, _, pV, pR, pα, hV1, hR, hα, e⟩ := schnorrV_accept_equation C H hL h
  obtain ⟨_, _, _, pV', pR', pα', hV', hR', hα', e'⟩ := schnorrV_accept_equation C H hL h'
  rw [hV1] at hV'; rw [hα] at hα'; rw [hR] at hR'
  cases hV'; cases hα'; cases hR'
  obtain ⟨h0, hq⟩ := hV pV hV1
  exact C12L.two_challenges hL h0 hq (C12L.schnorrVChallenge_lt C H hL _ _ _ _)
    (C12L.schnorrVChallenge_lt C H hL _ _ _ _) e e'

theorem schnorrV_replay_other_session_needs_collision (hL : C.Lawful)
    (hlen : ∀ x y, (H x).length = (H y).length) {sess sess' : Bytes} {V R α : ECPoint} {t u : Nat}
    (hV : ∀ pV, C.lift V = some pV → pV ≠ C.zero ∧ C.smul C.q pV = C.zero)
    (hs : Short ((SchnorrV.preimage (baseXY C) V R α).map intToBytesBE))
    (hne : sess ≠ sess')
    (h : schnorrVVerify C H cur sess V R α t u = .ok true)
    (h' : schnorrVVerify C H cur sess' V R α t u = .ok true) :
    ∃ a b : Bytes, a ≠ b ∧ bytesToNat (H a) % C.q = bytesToNat (H b) % C.q :=
  C12L.tagged_replay_collision H hlen C.q (C12L.nonNeg_schnorrV _ _ _ _) hs hne (schnorrV_accepted_two_sessions C H hL hV h h')

/-- **replay for another statement**: one proof `(α, t)` accepted for `X` and for `X'` forces the
relation `c·X = c'·X'` between the two challenges (hash outputs) and the two statements -/
theorem schnorr_replay_other_statement (hL : C.Lawful) {sess sess' : Bytes} {X X' α : ECPoint} {t : Nat}
    (h : schnorrVerify C H cur sess X α t = .ok true)
    (h' : schnorrVerify C H cur sess' X' α t = .ok true) :
    ∃ pX pX', C.lift X = some pX ∧ C.lift X' = some pX' ∧
      C.smul (schnorrChallenge C H sess X α) pX = C.smul (schnorrChallenge C H sess' X' α) pX' := by
  obtain ⟨_, _, pX, pα, hX1, hα, e⟩ := schnorr_accept_equation C H hL h
  obtain ⟨_, _, pX', pα', hX', hα', e'⟩ := schnorr_accept_equation C H hL h'
  rw [hα] at hα'
  cases hα'
  exact ⟨pX, pX', hX1, hX', C12L.add_left_cancel hL (e.symm.trans e')⟩

/-! RSA-group systems: the first verification equation of each, as a congruence of naturals.
`a·z^e ≡ L ≡ a·z^e'` with `a`, `z` units gives `z^e ≡ z^e'`, hence `z^|e−e'| ≡ 1`. -/

/-- Alice's range proof, second check `w ≡ h1^s1·h2^s2·z^(−e)`, i.e. `w·z^e ≡ h1^s1·h2^s2 (mod Ñ)`;
`z` and `w` are units (the verifier checks `gcd(z, Ñ) = gcd(w, Ñ) = 1`) -/
theorem range_two_challenges {Nt w z h1 h2 s1 s2 e e' : Nat}
    (hw : Nat.Coprime w Nt) (hz : Nat.Coprime z Nt)
    (h : w * z ^ e % Nt = h1 ^ s1 * h2 ^ s2 % Nt) (h' : w * z ^ e' % Nt = h1 ^ s1 * h2 ^ s2 % Nt) :
    z ^ e % Nt = z ^ e' % Nt ∧ z ^ ((e : Int) - (e' : Int)).natAbs % Nt = 1 % Nt :=
  C12L.rsa_two_challenges hw hz h h'

/-- `facproof`, first check `s^z1·t^w1 ≡ A·P^e (mod N̂)` (`L` is the left side); the verifier does
NOT check that `A`, `P` are units, the hypotheses are needed -/
theorem fac_two_challenges {Nc A Pc L e e' : Nat}
    (hA : Nat.Coprime A Nc) (hP : Nat.Coprime Pc Nc)
    (h : A * Pc ^ e % Nc = L % Nc) (h' : A * Pc ^ e' % Nc = L % Nc) :
    Pc ^ e % Nc = Pc ^ e' % Nc ∧ Pc ^ ((e : Int) - (e' : Int)).natAbs % Nc = 1 % Nc :=
  C12L.rsa_two_challenges hA hP h h'

/-- Bob's proof, first check `h1^s1·h2^s2 ≡ z^e·z' (mod Ñ)`; `z`, `z'` are units (checked) -/
theorem bob_two_challenges {Nt z zPrm h1 h2 s1 s2 e e' : Nat}
    (hz' : Nat.Coprime zPrm Nt) (hz : Nat.Coprime z Nt)
    (h : zPrm * z ^ e % Nt = h1 ^ s1 * h2 ^ s2 % Nt) (h' : zPrm * z ^ e' % Nt = h1 ^ s1 * h2 ^ s2 % Nt) :
    z ^ e % Nt = z ^ e' % Nt ∧ z ^ ((e : Int) - (e' : Int)).natAbs % Nt = 1 % Nt :=
  C12L.rsa_two_challenges hz' hz h h'

/-! The same on the verifiers themselves (current guards). Acceptance gives the first congruence, with
the unit conditions the verifier checks; one proof accepted in two contexts then gives `z^e ≡ z^e'`
for the two challenges `e`, `e'`, i.e. `z^|e−e'| ≡ 1`: trivial when the challenges coincide (a hash
coincidence), otherwise a multiple of the order of `z` in the RSA group. -/

/-- Bob's verifier accepts ⟹ `z'·z^e ≡ h1^s1·h2^s2 (mod Ñ)`, `z`, `z'` units in `[0, Ñ)`, `s1, s2 ≥ q` -/
theorem bob_accept_equation {sess : Bytes} {n ntilde h1 h2 c1 c2 : Int} {pf : BobProof}
    {xu : Option (ECPoint × ECPoint)}
    (h : bobVerify C H cur sess n ntilde h1 h2 c1 c2 pf xu = .ok true) :
    (0 ≤ pf.z ∧ pf.z < ntilde) ∧ (0 ≤ pf.zPrm ∧ pf.zPrm < ntilde) ∧ Int.gcd pf.z ntilde = 1 ∧
      Int.gcd pf.zPrm ntilde = 1 ∧ (C.q : Int) ≤ pf.s1 ∧ (C.q : Int) ≤ pf.s2 ∧
      pf.zPrm.toNat * pf.z.toNat ^ (bobChallenge C H sess n c1 c2 xu pf) % ntilde.toNat =
        (h1 % ntilde).toNat ^ pf.s1.toNat * (h2 % ntilde).toNat ^ pf.s2.toNat % ntilde.toNat := by
  obtain ⟨-, hnt, hz, hz', -, -, -, -, gz, gz', -, -, -, -, -, -, -, hs1, -, hs2, -, -, -, e, -⟩ :=
    C11.bob_accept_implies C H sess n ntilde h1 h2 c1 c2 pf xu h
  refine ⟨hz, hz', gz, gz', hs1, hs2, C12L.natMod_eq_of_intModEq hnt ?_⟩
  push_cast [Int.toNat_of_nonneg hz'.1, Int.toNat_of_nonneg hz.1, Int.toNat_of_nonneg (Int.emod_nonneg _ hnt.ne')]
  rw [mul_comm pf.zPrm]
  exact e.symm.trans (((Int.mod_modEq h1 _).symm.pow _).mul ((Int.mod_modEq h2 _).symm.pow _))

/-- **Bob's proof replayed**: one proof accepted under two (session, Paillier key, ciphertexts, point
statement) with the same `Ñ, h1, h2` -/
theorem bob_accepted_two_contexts {sess sess' : Bytes} {n n' ntilde h1 h2 c1 c1' c2 c2' : Int}
    {pf : BobProof} {xu xu' : Option (ECPoint × ECPoint)}
    (h : bobVerify C H cur sess n ntilde h1 h2 c1 c2 pf xu = .ok true)
    (h' : bobVerify C H cur sess' n' ntilde h1 h2 c1' c2' pf xu' = .ok true) :
    pf.z.toNat ^ (bobChallenge C H sess n c1 c2 xu pf) % ntilde.toNat =
        pf.z.toNat ^ (bobChallenge C H sess' n' c1' c2' xu' pf) % ntilde.toNat ∧
      pf.z.toNat ^ ((bobChallenge C H sess n c1 c2 xu pf : Int) -
        (bobChallenge C H sess' n' c1' c2' xu' pf : Int)).natAbs % ntilde.toNat = 1 % ntilde.toNat := by
  obtain ⟨hz, hz', gz, gz', -, -, e1⟩ := bob_accept_equation C H h
  obtain ⟨-, -, -, -, -, -, e2⟩ := bob_accept_equation C H h'
  have hnt : 0 ≤ ntilde := by omega
  exact C12L.rsa_two_challenges (C12L.coprime_of_int_gcd hz'.1 hnt gz') (C12L.coprime_of_int_gcd hz.1 hnt gz) e1 e2

/-- `facproof` verifier accepts ⟹ `A·P^e ≡ s^z1·t^w1 (mod N̂)`; the right side (`a·b`, Go's `Exp` values)
does not depend on the challenge -/
theorem fac_accept_equation {q : Nat} {sess : Bytes} {n0 ncap s t : Int} {pf : FacProof}
    (h : facVerify cur H q sess n0 ncap s t pf = .ok true) :
    0 < ncap ∧ ∃ a b, expP s pf.z1 ncap.toNat = .ok a ∧ expP t pf.w1 ncap.toNat = .ok b ∧
      (pf.A % ncap).toNat * (pf.P % ncap).toNat ^ (facChallenge H q sess n0 ncap s t pf) % ncap.toNat =
        a * b % ncap.toNat := by
  obtain ⟨-, hnc, -, -, -, a, e1, b, e2, p, e3, h5, -⟩ := (facVerify_eq_true_iff H q sess n0 ncap s t pf).1 h
  have hM : ncap.natAbs = ncap.toNat := by omega
  have hc : ((ncap.toNat : Nat) : Int) = ncap := Int.toNat_of_nonneg hnc.le
  rw [hM] at e1 e2 e3 h5
  refine ⟨hnc, a, b, expP_eq_ok.2 e1, expP_eq_ok.2 e2, C12L.natMod_eq_of_intModEq hnc ?_⟩
  have e4 := C11L.modEq_of_mulmod2_eq (by omega) h5
  have e5 := C11L.goExp_modEq_nonneg (Int.natCast_nonneg _) e3
  rw [hc] at e4 e5
  rw [Int.toNat_natCast] at e5
  push_cast [Int.toNat_of_nonneg (Int.emod_nonneg _ hnc.ne')]
  exact (((Int.mod_modEq pf.A _).mul ((Int.mod_modEq pf.P _).pow _)).trans (e5.symm.mul_left _)).trans e4.symm

/-- **`facproof` replayed**: one proof accepted under two (session, `N0`) with the same `N̂, s, t`;
`A`, `P` units is a hypothesis (the verifier does not check it) -/
theorem fac_accepted_two_contexts {q q' : Nat} {sess sess' : Bytes} {n0 n0' ncap s t : Int}
    {pf : FacProof}
    (hA : Nat.Coprime (pf.A % ncap).toNat ncap.toNat) (hP : Nat.Coprime (pf.P % ncap).toNat ncap.toNat)
    (h : facVerify cur H q sess n0 ncap s t pf = .ok true)
    (h' : facVerify cur H q' sess' n0' ncap s t pf = .ok true) :
    (pf.P % ncap).toNat ^ (facChallenge H q sess n0 ncap s t pf) % ncap.toNat =
        (pf.P % ncap).toNat ^ (facChallenge H q' sess' n0' ncap s t pf) % ncap.toNat ∧
      (pf.P % ncap).toNat ^ ((facChallenge H q sess n0 ncap s t pf : Int) -
        (facChallenge H q' sess' n0' ncap s t pf : Int)).natAbs % ncap.toNat = 1 % ncap.toNat := by
  obtain ⟨_, a, b, ea, eb, e1⟩ := fac_accept_equation H h
  obtain ⟨_, a', b', ea', eb', e2⟩ := fac_accept_equation H h'
  rw [ea] at ea'; rw [eb] at eb'
  cases ea'; cases eb'
  exact C12L.rsa_two_challenges hA hP e1 e2

/-- Alice's range verifier accepts ⟹ `w·z^e ≡ h1^s1·h2^s2 (mod Ñ)`, `z`, `w` units in `[0, Ñ)` -/
theorem range_accept_equation {q : Nat} {n ntilde h1 h2 c : Int} {pf : RangeProof}
    (h : rangeVerify cur H q n ntilde h1 h2 c pf = .ok true) :
    0 < ntilde ∧ (0 ≤ pf.z ∧ pf.z < ntilde) ∧ (0 ≤ pf.w ∧ pf.w < ntilde) ∧
      Int.gcd pf.z ntilde = 1 ∧ Int.gcd pf.w ntilde = 1 ∧ (q : Int) ≤ pf.s1 ∧ (q : Int) ≤ pf.s2 ∧
      pf.w.toNat * pf.z.toNat ^ (rangeChallenge H q n c pf.z pf.u pf.w) % ntilde.toNat =
        (h1 % ntilde).toNat ^ pf.s1.toNat * (h2 % ntilde).toNat ^ pf.s2.toNat % ntilde.toNat := by
  obtain ⟨-, hnt, hz, -, hw, -, gz, -, gw, hs1, -, hs2, -, -, -, -, -, e⟩ :=
    C11.range_accept_implies H q n ntilde h1 h2 c pf h
  refine ⟨hnt, hz, hw, gz, gw, hs1, hs2, C12L.natMod_eq_of_intModEq hnt ?_⟩
  push_cast [Int.toNat_of_nonneg hw.1, Int.toNat_of_nonneg hz.1, Int.toNat_of_nonneg (Int.emod_nonneg _ hnt.ne')]
  exact e.trans (((Int.mod_modEq h1 _).symm.pow _).mul ((Int.mod_modEq h2 _).symm.pow _))

/-- **range proof replayed** for another Paillier key or ciphertext (there is no session to change) -/
theorem range_accepted_two_statements {q q' : Nat} {n n' ntilde h1 h2 c c' : Int} {pf : RangeProof}
    (h : rangeVerify cur H q n ntilde h1 h2 c pf = .ok true)
    (h' : rangeVerify cur H q' n' ntilde h1 h2 c' pf = .ok true) :
    pf.z.toNat ^ (rangeChallenge H q n c pf.z pf.u pf.w) % ntilde.toNat =
        pf.z.toNat ^ (rangeChallenge H q' n' c' pf.z pf.u pf.w) % ntilde.toNat ∧
      pf.z.toNat ^ ((rangeChallenge H q n c pf.z pf.u pf.w : Int) -
        (rangeChallenge H q' n' c' pf.z pf.u pf.w : Int)).natAbs % ntilde.toNat = 1 % ntilde.toNat := by
  obtain ⟨hnt, hz, hw, gz, gw, _, _, e1⟩ := range_accept_equation H h
  obtain ⟨_, _, _, _, _, _, _, e2⟩ := range_accept_equation H h'
  exact C12L.rsa_two_challenges (C12L.coprime_of_int_gcd hw.1 hnt.le gw) (C12L.coprime_of_int_gcd hz.1 hnt.le gz) e1 e2

/-! ## responses are determined modulo the group order -/

/-- **Schnorr**: same commitment, a response not congruent to the accepted one is not accepted -/
theorem schnorr_response_nonmalleable (hL : C.Lawful) {sess : Bytes} {X α : ECPoint} {t t' : Nat}
    (h : schnorrVerify C H cur sess X α t = .ok true) (hne : t' % C.q ≠ t % C.q) :
    schnorrVerify C H cur sess X α t' ≠ .ok true := by
  intro h'
  obtain ⟨_, _, pX, pα, hX, hα, e⟩ := schnorr_accept_equation C H hL h
  obtain ⟨_, _, pX', pα', hX', hα', e'⟩ := schnorr_accept_equation C H hL h'
  rw [hX] at hX'; rw [hα] at hα'
  cases hX'; cases hα'
  exact hne ((hL.smul_base_eq_iff _ _).1 (e'.trans e.symm))

/-- … and congruence is exactly the equivalence: the verdict depends on `t` through `t mod q` only -/
theorem schnorr_response_equivalent (hL : C.Lawful) (cfg : Cfg) (sess : Bytes) (X α : ECPoint)
    {t t' : Nat} (ht : t % C.q = t' % C.q) :
    schnorrVerify C H cfg sess X α t = schnorrVerify C H cfg sess X α t' := by
  have hb : C.ecBaseMult (t : Int) = C.ecBaseMult (t' : Int) := by
    unfold Curve.ecBaseMult
    simp only [Int.natAbs_natCast]
    rw [hL.smul_base_mod t, hL.smul_base_mod t', ht]
  unfold schnorrVerify
  rw [hb, ht]

/-- **Schnorr-V**, response `t` (coefficient of `R`): needs `R` of order `q` -/
theorem schnorrV_response_nonmalleable (hL : C.Lawful) {sess : Bytes} {V R α : ECPoint} {t t' u : Nat}
    (hR : ∀ pR, C.lift R = some pR → pR ≠ C.zero ∧ C.smul C.q pR = C.zero)
    (h : schnorrVVerify C H cur sess V R α t u = .ok true) (hne : t' % C.q ≠ t % C.q) :
    schnorrVVerify C H cur sess V R α t' u ≠ .ok true := by
  intro h'
  obtain ⟨_, _, _, pV, pR, pα, hV, hR1, hα, e⟩ := schnorrV_accept_equation C H hL h
  obtain ⟨_, _, _, pV', pR', pα', hV', hR', hα', e'⟩ := schnorrV_accept_equation C H hL h'
  rw [hV] at hV'; rw [hα] at hα'; rw [hR1] at hR'
  cases hV'; cases hα'; cases hR'
  obtain ⟨h0, hq⟩ := hR pR hR1
  have := C12L.add_right_cancel hL (e'.trans e.symm)
  exact hne ((C12L.smul_eq_iff_of_order hL h0 hq _ _).1 this)

/-- **Schnorr-V**, response `u` (coefficient of the base point) -/
theorem schnorrV_response_nonmalleable_u (hL : C.Lawful) {sess : Bytes} {V R α : ECPoint} {t u u' : Nat}
    (h : schnorrVVerify C H cur sess V R α t u = .ok true) (hne : u' % C.q ≠ u % C.q) :
    schnorrVVerify C H cur sess V R α t u' ≠ .ok true := by
  intro h'
  obtain ⟨_, _, _, pV, pR, pα, hV, hR1, hα, e⟩ := schnorrV_accept_equation C H hL h
  obtain ⟨_, _, _, pV', pR', pα', hV', hR', hα', e'⟩ := schnorrV_accept_equation C H hL h'
  rw [hV] at hV'; rw [hα] at hα'; rw [hR1] at hR'
  cases hV'; cases hα'; cases hR'
  have := C12L.add_left_cancel hL (e'.trans e.symm)
  exact hne ((hL.smul_base_eq_iff _ _).1 this)

/-- **dlnproof**: two response vectors accepted with the same commitments give, in every round, the
same power of `h1` (Go's `Exp`, non-nil) -/
theorem dln_response_nonmalleable {alpha t t' : List Int} {h1 h2 n : Int}
    (h : dlnVerify H alpha t h1 h2 n = .ok true) (h' : dlnVerify H alpha t' h1 h2 n = .ok true) :
    ∀ i < dlnIterations, ∃ r, goExp h1 (t.getD i 0) n.toNat = some r ∧
      goExp h1 (t'.getD i 0) n.toNat = some r := by
  intro i hi
  obtain ⟨r, e1, e2⟩ := dlnStep_eq_true_iff.1 (((dlnVerify_eq_true_iff H).1 h).2.2.2.2.2.2 i hi)
  obtain ⟨r', e1', e2'⟩ := dlnStep_eq_true_iff.1 (((dlnVerify_eq_true_iff H).1 h').2.2.2.2.2.2 i hi)
  rw [e1] at e1'
  cases e1'
  exact ⟨_, e2, e2'⟩

/-- … for non-negative responses: `h1^{t_i} ≡ h1^{t_i'} (mod N)` -/
theorem dln_response_nonmalleable_pow {alpha t t' : List Int} {h1 h2 n : Int}
    (h : dlnVerify H alpha t h1 h2 n = .ok true) (h' : dlnVerify H alpha t' h1 h2 n = .ok true)
    {i : Nat} (hi : i < dlnIterations) (ht : 0 ≤ t.getD i 0) (ht' : 0 ≤ t'.getD i 0) :
    (h1 % n).toNat ^ (t.getD i 0).toNat % n.toNat = (h1 % n).toNat ^ (t'.getD i 0).toNat % n.toNat := by
  have hn := ((dlnVerify_eq_true_iff H).1 h).1
  obtain ⟨r, e, e'⟩ := dln_response_nonmalleable H h h' i hi
  rw [C12L.goExp_nonneg_eq hn ht] at e
  rw [C12L.goExp_nonneg_eq hn ht'] at e'
  exact (Option.some.inj e).trans (Option.some.inj e').symm

/-- … and when `h1` is a unit (not checked by the verifier): `h1^{|t_i − t_i'|} ≡ 1 (mod N)` -/
theorem dln_response_order {alpha t t' : List Int} {h1 h2 n : Int}
    (h : dlnVerify H alpha t h1 h2 n = .ok true) (h' : dlnVerify H alpha t' h1 h2 n = .ok true)
    (hg : Nat.Coprime (h1 % n).toNat n.toNat)
    {i : Nat} (hi : i < dlnIterations) (ht : 0 ≤ t.getD i 0) (ht' : 0 ≤ t'.getD i 0) :
    (h1 % n).toNat ^ (t.getD i 0 - t'.getD i 0).natAbs % n.toNat = 1 % n.toNat := by
  have := C12L.pow_diff_of_pow_eq hg (dln_response_nonmalleable_pow H h h' hi ht ht')
  rwa [Int.toNat_of_nonneg ht, Int.toNat_of_nonneg ht'] at this

/-! ### Paillier-Blum modulus proof: the fourth roots `X_i`

`x` and `N − x` have the same fourth power modulo `N`, so a verifier that only checks `X_i^4 ≡ ±W^b·Y_i` accepts
both (`mod_old_negated_root_accepted_witness`). The prover sends, and the current verifier accepts, only the
representative with `2·x ≤ N`. The two remaining fourth roots `±x·√1` in that range differ from `x` by a
non-trivial square root of `1`, which reveals a factor of `N` (`mod_other_root_reveals_factor`). -/

/-- the verifier without the canonical-root check (`modCanonicalRoot := false`): both `x` and `N − x` pass -/
abbrev modPreCanonical : Cfg := { cur with modCanonicalRoot := false }

/-- the current verifier accepts only roots in `(0, N/2]` -/
theorem mod_accept_canonical {sess : Bytes} {w : Int} {xs : List Int} {a b : Int} {zs : List Int} {n : Int}
    (h : modVerify cur H sess w xs a b zs n = .ok true) : ∀ x ∈ xs, 2 * x ≤ n := by
  obtain ⟨-, -, j, -, -, -, -, -, -, hc, -⟩ := (modVerify_eq_true_iff H sess w xs a b zs n).1 h
  exact hc

/-- **negating a root**: replacing an entry `x` (with `2·x < N`, which for odd `N` is `2·x ≤ N`) of the root
vector by `N − x` is never accepted, whatever the other components are -/
theorem mod_negated_root_rejected (sess : Bytes) (w : Int) (xs : List Int) (a b : Int) (zs : List Int)
    (n x : Int) (i : Nat) (hi : xs[i]? = some x) (hlt : 2 * x < n) :
    modVerify cur H sess w (xs.set i (n - x)) a b zs n ≠ .ok true := by
  intro h
  have hlen : i < xs.length := by
    rcases Nat.lt_or_ge i xs.length with h' | h'
    · exact h'
    · rw [List.getElem?_eq_none h'] at hi; cases hi
  have hmem : n - x ∈ xs.set i (n - x) := List.mem_set hlen _
  have := mod_accept_canonical H h (n - x) hmem
  omega

/-- **without the `modCanonicalRoot` check the negated root is accepted**: `N = 77 = 7·11`, `W = 2`, all challenges `3`. The
prover's proof (roots `13`) passes both verifiers; with the first root replaced by `77 − 13 = 64` it still
passes the verifier without the canonical-root check and is rejected by the current one. -/
theorem mod_old_negated_root_accepted_witness :
    (modProve (fun _ => [3]) [] 77 7 11 2 >>= fun pf =>
      modVerify modPreCanonical (fun _ => [3]) [] (pf.1 : Int) (pf.2.1.map Int.ofNat) (pf.2.2.1 : Int)
        (pf.2.2.2.1 : Int) (pf.2.2.2.2.map Int.ofNat) 77) = .ok true ∧
    (modProve (fun _ => [3]) [] 77 7 11 2 >>= fun pf =>
      modVerify modPreCanonical (fun _ => [3]) [] (pf.1 : Int)
        ((pf.2.1.map Int.ofNat).set 0 (77 - (pf.2.1.map Int.ofNat).getD 0 0)) (pf.2.2.1 : Int)
        (pf.2.2.2.1 : Int) (pf.2.2.2.2.map Int.ofNat) 77) = .ok true ∧
    (modProve (fun _ => [3]) [] 77 7 11 2 >>= fun pf =>
      modVerify cur (fun _ => [3]) [] (pf.1 : Int)
        ((pf.2.1.map Int.ofNat).set 0 (77 - (pf.2.1.map Int.ofNat).getD 0 0)) (pf.2.2.1 : Int)
        (pf.2.2.2.1 : Int) (pf.2.2.2.2.map Int.ofNat) 77) = .ok false ∧
    (modProve (fun _ => [3]) [] 77 7 11 2 >>= fun pf =>
      modVerify cur (fun _ => [3]) [] (pf.1 : Int) (pf.2.1.map Int.ofNat) (pf.2.2.1 : Int)
        (pf.2.2.2.1 : Int) (pf.2.2.2.2.map Int.ofNat) 77) = .ok true ∧
    (modProve (fun _ => [3]) [] 77 7 11 2).bind (fun pf => .ok (pf.2.1.getD 0 0)) = .ok 13 := by
  -- the prover and the verifier each run once; the other three verdicts follow from the place of the canonical-root check
  have h4 := C10L.mod_complete_77'
  have h2 : (modProve (fun _ => [3]) [] 77 7 11 2 >>= fun pf =>
      modVerify modPreCanonical (fun _ => [3]) [] (pf.1 : Int)
        ((pf.2.1.map Int.ofNat).set 0 (77 - (pf.2.1.map Int.ofNat).getD 0 0)) (pf.2.2.1 : Int)
        (pf.2.2.2.1 : Int) (pf.2.2.2.2.map Int.ofNat) 77) = .ok true := by
    rw [C10L.modProve_77]; decide +kernel
  rw [C10L.modProve_77] at h2 h4 ⊢
  simp only [Outcome.ok_bind] at h2 h4 ⊢
  refine ⟨?_, h2, C12L.modVerify_canonical_rejects cur _ _ _ _ _ _ (by decide +kernel) h2, h4, rfl⟩
  exact (C12L.modVerify_canonical_irrelevant cur _ _ _ _ _ _ (by decide +kernel)).trans h4

/-- **two accepted roots of one challenge**: different `x`, `x'` in `(0, N/2]` with `x^4 ≡ x'^4` modulo an odd `N`
give the multiple `(x + x')·|x − x'|·(x² + x'²)` of `N`, and neither `x + x'` nor `|x − x'|` is a multiple -/
theorem mod_root_unique_up_to_factoring {n x x' : Nat} (hn : n % 2 = 1) (hx : 0 < x) (hx' : 0 < x')
    (hx2 : 2 * x ≤ n) (hx2' : 2 * x' ≤ n) (hne : x ≠ x') (h4 : x ^ 4 % n = x' ^ 4 % n) :
    n ∣ (x + x') * (max x x' - min x x') * (x ^ 2 + x' ^ 2) ∧ ¬ n ∣ x + x' ∧ ¬ n ∣ max x x' - min x x' := by
  rcases Nat.lt_or_gt_of_ne hne with hlt | hlt
  · rw [Nat.max_eq_right (le_of_lt hlt), Nat.min_eq_left (le_of_lt hlt)]
    exact C12L.fourth_root_diff_lt hn hx hx2 hx2' hlt h4
  · rw [Nat.max_eq_left (le_of_lt hlt), Nat.min_eq_right (le_of_lt hlt), Nat.add_comm x x', Nat.add_comm (x ^ 2)]
    exact C12L.fourth_root_diff_lt hn hx' hx2' hx2 hlt h4.symm

/-- … and for a Blum integer `N = p·q`, `p ≡ q ≡ 3 (mod 4)` (`−1` is a square modulo neither prime, so
`x² + x'²` is a unit when `x` is): **any second root in the accepted range yields a proper factor of `N`** -/
theorem mod_other_root_reveals_factor {n p q x x' : Nat} (hn : n = p * q) (hp : p.Prime) (hq : q.Prime)
    (hp4 : p % 4 = 3) (hq4 : q % 4 = 3) (hx : 0 < x) (hx' : 0 < x') (hx2 : 2 * x ≤ n) (hx2' : 2 * x' ≤ n)
    (hne : x ≠ x') (hxc : Nat.Coprime x n) (h4 : x ^ 4 % n = x' ^ 4 % n) :
    1 < Nat.gcd (max x x' - min x x') n ∧ Nat.gcd (max x x' - min x x') n < n := by
  have hn2 : n % 2 = 1 := by
    have hp2 : p % 2 = 1 := by omega
    have hq2 : q % 2 = 1 := by omega
    rw [hn, Nat.mul_mod, hp2, hq2]
  have hn0 : 0 < n := by omega
  obtain ⟨hdvd, hs, hd⟩ := mod_root_unique_up_to_factoring hn2 hx hx' hx2 hx2' hne h4
  generalize max x x' - min x x' = d at hdvd hd ⊢
  constructor
  · have h0 : Nat.gcd d n ≠ 0 := fun h => by
      have := Nat.eq_zero_of_gcd_eq_zero_right h; omega
    have h1 : Nat.gcd d n ≠ 1 := fun h => by
      have hcop : Nat.Coprime n d := Nat.Coprime.symm h
      have e : (x + x') * d * (x ^ 2 + x' ^ 2) = d * ((x + x') * (x ^ 2 + x' ^ 2)) := by ring
      rw [e] at hdvd
      have h2 := hcop.dvd_of_dvd_mul_left hdvd
      exact hs ((C12L.blum_coprime_sq_add_sq (x' := x') hn hp hq hp4 hq4 hxc).dvd_of_dvd_mul_right h2)
    omega
  · have hle : Nat.gcd d n ≤ n := Nat.le_of_dvd hn0 (Nat.gcd_dvd_right d n)
    have hne' : Nat.gcd d n ≠ n := fun h => hd (h ▸ Nat.gcd_dvd_left d n)
    omega

/-! ## moving a commitment changes what is hashed -/

/-- generic: a pre-image map that determines its arguments separates different commitments -/
theorem preimage_ne_of_commitment_ne {σ κ : Type} (pre : σ → κ → List Int)
    (hinj : ∀ s a s' a', pre s a = pre s' a' → s = s' ∧ a = a') (s : σ) {a a' : κ} (h : a' ≠ a) :
    pre s a' ≠ pre s a :=
  fun e => h (hinj _ _ _ _ e).2

/-- generic, on the hashed bytes: different non-negative input lists give different tagged pre-images,
whatever the sessions -/
theorem tagged_bytes_ne_of_preimage_ne (hlen : ∀ x y, (H x).length = (H y).length)
    {sess sess' : Bytes} {l l' : List Int} (hn : NonNeg l) (hn' : NonNeg l')
    (hs : Short (l.map intToBytesBE)) (hs' : Short (l'.map intToBytesBE)) (h : l ≠ l') :
    taggedPreimage H sess l ≠ taggedPreimage H sess' l' :=
  fun e => h (C12L.tagged_int_inj H hlen hn hn' hs hs' e).1

theorem schnorr_shift_changes_preimage (g X : ECPoint) {α α' : ECPoint} (h : α' ≠ α) :
    Schnorr.preimage g X α' ≠ Schnorr.preimage g X α :=
  preimage_ne_of_commitment_ne (fun (s : ECPoint × ECPoint) a => Schnorr.preimage s.1 s.2 a)
    (fun _ _ _ _ e => by
      obtain ⟨h1, h2, h3⟩ := schnorr_preimage_injective e
      exact ⟨Prod.ext h1 h2, h3⟩) (g, X) h

theorem schnorr_shift_changes_hashed_bytes (hlen : ∀ x y, (H x).length = (H y).length)
    (sess : Bytes) (g X : ECPoint) {α α' : ECPoint}
    (hs : Short ((Schnorr.preimage g X α).map intToBytesBE))
    (hs' : Short ((Schnorr.preimage g X α').map intToBytesBE)) (h : α' ≠ α) :
    taggedPreimage H sess (Schnorr.preimage g X α') ≠ taggedPreimage H sess (Schnorr.preimage g X α) :=
  tagged_bytes_ne_of_preimage_ne H hlen (C12L.nonNeg_schnorr _ _ _) (C12L.nonNeg_schnorr _ _ _) hs' hs
    (schnorr_shift_changes_preimage g X h)

/-- **replacing the commitment alone**: if `(α, t)` and `(α', t)` are both accepted with `α' ≠ α`, the two
challenges are different numbers (with equal challenges the verifier's equation forces `α' = α`) -/
theorem schnorr_commitment_replaced (hL : C.Lawful) {sess : Bytes} {X α α' : ECPoint} {t : Nat}
    (h : schnorrVerify C H cur sess X α t = .ok true)
    (h' : schnorrVerify C H cur sess X α' t = .ok true) (hne : α' ≠ α) :
    schnorrChallenge C H sess X α' ≠ schnorrChallenge C H sess X α := by
  intro hc
  obtain ⟨_, _, pX, pα, hX, hα, e⟩ := schnorr_accept_equation C H hL h
  obtain ⟨_, _, pX', pα', hX', hα', e'⟩ := schnorr_accept_equation C H hL h'
  rw [hX] at hX'
  cases hX'
  rw [hc] at e'
  have := C12L.add_right_cancel hL (e.symm.trans e')
  subst this
  exact hne (C12L.eq_of_lift_eq C hL hα' hα)

/-- **shifting commitment and response together** along `t·G = α + c·X`: if `(α, t)` passes with
challenge `c` and the shifted pair `(α + δ·G, t + δ)` passes with challenge `c'`, then `c' = c`:
the shift survives only if the hash gives the same challenge on the two different pre-images -/
theorem schnorr_shift_needs_same_challenge (hL : C.Lawful) {X α : P} {t δ c c' : Nat}
    (hX : X ≠ C.zero) (hXq : C.smul C.q X = C.zero) (hc : c < C.q) (hc' : c' < C.q)
    (h1 : C.smul t C.base = C.add α (C.smul c X))
    (h2 : C.smul (t + δ) C.base = C.add (C.add α (C.smul δ C.base)) (C.smul c' X)) : c = c' := by
  rw [hL.smul_add, hL.add_assoc, hL.add_comm (C.smul δ C.base), ← hL.add_assoc] at h2
  exact C12L.two_challenges hL hX hXq hc hc' h1 (C12L.add_right_cancel hL h2)

/-! ## hypotheses are satisfiable -/
section examples

instance fact23 : Fact (Nat.Prime 23) := ⟨by decide⟩

/-- the proved-lawful toy curve of order 23 (point `a` is `a·G`, affine form `(a, 0)`) -/
abbrev E := zmodCurve 23
/-- constant hashes: fixed output length, and they collide everywhere -/
abbrev H0 : HashFn := fun _ => [0]
abbrev H5 : HashFn := fun _ => [5]

example : E.Lawful := zmodCurve_lawful 23
example : ∀ x y, (H5 x).length = (H5 y).length := fun _ _ => rfl

/-- `Short` for small concrete values, through `short_of_lt_pow` -/
example : Short ((Schnorr.preimage (1, 0) (3, 0) (2, 0)).map intToBytesBE) :=
  short_of_lt_pow 1 (by decide) (by decide)

example : NonNeg (Range.preimage 35 4 2 3 5) := by unfold NonNeg Range.preimage; decide

theorem toy_challenge (sess : Bytes) (X α : ECPoint) : schnorrChallenge E H5 sess X α = 5 := rfl

/-- secret `x = 3`, `X = 3·G`, coin `a = 2`, challenge `5`: response `2 + 5·3 = 17` is accepted … -/
theorem schnorr_toy_accept (sess : Bytes) : schnorrVerify E H5 cur sess (3, 0) (2, 0) 17 = .ok true := by
  unfold schnorrVerify
  rw [toy_challenge]
  decide

/-- … `18` is not, by the theorem and by running the model -/
example (sess : Bytes) : schnorrVerify E H5 cur sess (3, 0) (2, 0) 18 ≠ .ok true :=
  schnorr_response_nonmalleable E H5 (zmodCurve_lawful 23) (schnorr_toy_accept sess) (by decide)
example (sess : Bytes) : schnorrVerify E H5 cur sess (3, 0) (2, 0) 18 = .ok false := by
  unfold schnorrVerify
  rw [toy_challenge]
  decide
/-- … `17 + 23` is -/
example (sess : Bytes) : schnorrVerify E H5 cur sess (3, 0) (2, 0) 40 = .ok true :=
  (schnorr_response_equivalent E H5 (zmodCurve_lawful 23) cur sess (3, 0) (2, 0) (by decide)).trans
    (schnorr_toy_accept sess)

/-- with a constant challenge no other commitment is accepted with the same response -/
example (sess : Bytes) (α' : ECPoint) (hne : α' ≠ (2, 0)) :
    schnorrVerify E H5 cur sess (3, 0) α' 17 ≠ .ok true := fun h' =>
  schnorr_commitment_replaced E H5 (zmodCurve_lawful 23) (schnorr_toy_accept sess) h' hne rfl

theorem toy_order : ∀ pX, E.lift (3, 0) = some pX → pX ≠ E.zero ∧ E.smul E.q pX = E.zero := by
  intro pX h
  have : pX = (3 : ZMod 23) := by
    simp only [Curve.lift, zmodCurve] at h
    rw [if_pos (by decide)] at h
    exact (Option.some.inj h).symm
  subst this
  decide

/-- the constant hash accepts the same proof under every session, and the theorem exhibits the collision -/
example : ∃ a b : Bytes, a ≠ b ∧ bytesToNat (H5 a) % 23 = bytesToNat (H5 b) % 23 :=
  schnorr_replay_other_session_needs_collision E H5 (zmodCurve_lawful 23) (fun _ _ => rfl) toy_order
    (short_of_lt_pow 1 (by decide) (by decide)) (by decide : ([1] : Bytes) ≠ [2])
    (schnorr_toy_accept [1]) (schnorr_toy_accept [2])

/-- `2` has order 3 modulo 7: `1·2^1 ≡ 2 ≡ 1·2^4` gives `2^3 ≡ 1` -/
example : 2 ^ 3 % 7 = 1 % 7 :=
  (range_two_challenges (Nt := 7) (w := 1) (z := 2) (h1 := 2) (h2 := 1) (s1 := 1) (s2 := 0)
    (e := 1) (e' := 4) (by decide) (by decide) (by decide) (by decide)).2

/-- `dlnproof` modulo 35 with `h1 = 2` (order 12), challenge bits all zero: responses `2` and `14`
are both accepted for the commitments `4 = 2^2`, and `2^12 ≡ 1` follows -/
theorem dln_toy_accept :
    dlnVerify H0 (List.replicate 128 4) (List.replicate 128 2) 2 3 35 = .ok true ∧
    dlnVerify H0 (List.replicate 128 4) (List.replicate 128 14) 2 3 35 = .ok true :=
  -- the challenge is `0` and commitments and responses are constant: all 128 rounds are the same round
  ⟨dlnVerify_replicate H0 4 2 2 3 35 true (by decide) rfl (by decide),
   dlnVerify_replicate H0 4 14 2 3 35 true (by decide) rfl (by decide)⟩

example : 2 ^ 12 % 35 = 1 % 35 :=
  dln_response_order H0 dln_toy_accept.1 dln_toy_accept.2 (by decide) (i := 0) (by decide)
    (by decide) (by decide)

/-! Toy RSA-group instances: Paillier `N = 35`, `Ñ = 77`, `h1 = 2`, `h2 = 4`, `q = 23`;
the proofs are the outputs of the model's provers (`bobProve`, `facProve`, `rangeProve`). -/

theorem bob_toy_accept :
    bobVerify E H5 cur [1] 35 77 2 4 683 493 ⟨15, 9, 9, 768, 71, 29, 40, 33, 60, 37⟩ none = .ok true ∧
    bobVerify E H5 cur [2] 35 77 2 4 683 493 ⟨15, 9, 9, 768, 71, 29, 40, 33, 60, 37⟩ none = .ok true := by
  decide +kernel

example : 9 * 15 ^ 5 % 77 = 2 ^ 40 * 4 ^ 33 % 77 :=
  (bob_accept_equation E H5 bob_toy_accept.1).2.2.2.2.2.2

example := bob_accepted_two_contexts E H5 bob_toy_accept.1 bob_toy_accept.2

theorem fac_toy_accept :
    facVerify cur H5 23 [1] 35 77 2 4 ⟨72, 74, 29, 1, 43, 9, 30, 41, 46, 52, -145⟩ = .ok true := by
  decide +kernel

example := fac_accepted_two_contexts H5 (pf := ⟨72, 74, 29, 1, 43, 9, 30, 41, 46, 52, -145⟩)
  (by decide) (by decide) fac_toy_accept fac_toy_accept

theorem range_toy_accept : rangeVerify cur H5 23 35 77 2 4 683 ⟨43, 957, 23, 26, 45, 35⟩ = .ok true := by
  decide +kernel

example : 23 * 43 ^ 5 % 77 = 2 ^ 45 * 4 ^ 35 % 77 :=
  (range_accept_equation H5 range_toy_accept).2.2.2.2.2.2.2

/-- `modproof`, `N = 77`: the entry `13` of a root vector replaced by `77 − 13` is rejected -/
example (a b : Int) (zs : List Int) :
    modVerify cur H5 [] 2 ((List.replicate 80 (13 : Int)).set 0 (77 - 13)) a b zs 77 ≠ .ok true :=
  mod_negated_root_rejected H5 [] 2 _ a b zs 77 13 0 rfl (by decide)

/-- `13` and `20` are the two fourth roots of `71` modulo `77` in `(0, 38]`; their difference is the factor `7` -/
example : (77 ∣ (13 + 20) * (max 13 20 - min 13 20) * (13 ^ 2 + 20 ^ 2) ∧ ¬ 77 ∣ 13 + 20 ∧
    ¬ 77 ∣ max 13 20 - min 13 20) :=
  mod_root_unique_up_to_factoring (by decide) (by decide) (by decide) (by decide) (by decide) (by decide)
    (by decide)
example : 1 < Nat.gcd (max 13 20 - min 13 20) 77 ∧ Nat.gcd (max 13 20 - min 13 20) 77 < 77 :=
  mod_other_root_reveals_factor (p := 7) (q := 11) (by decide) (by decide) (by decide) (by decide) (by decide)
    (by decide) (by decide) (by decide) (by decide) (by decide) (by decide) (by decide)
example : Nat.gcd (max 13 20 - min 13 20) 77 = 7 := by decide

/-- participants 1 and 2 of one `ssid` have different session strings -/
example : ([7, 7] : Bytes) ++ natToBytesBE 1 ≠ [7, 7] ++ natToBytesBE 2 :=
  context_index_distinct [7, 7] (by decide)

end examples

end TssVerif.C12
