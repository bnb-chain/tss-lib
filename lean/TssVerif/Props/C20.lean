import TssVerif.Lemmas.MiscSubset
import TssVerif.Lemmas.MiscNonce
/-! # C20 — key material re-indexed for any subset and ordering; nonces determine the signature's `r`

* `subset_reindex`, `subset_missing_iff`, `subset_order_independent`, `subset_perm` — `BuildLocalSaveDataSubset`
  (modelled column-wise by `MiscL.subsetBy`, the LAST-wins map of the Go code): for distinct saved keys and any
  selection in ANY order the result holds, at position `j`, the saved entry of the party with key `sel[j]`;
  it panics (`none`) exactly when a selected key is missing; re-ordering the selection re-orders the result alike.
* `nonce_injective`, `nonce_r_determines_nonce`, `nonce_r_collision` — on a lawful curve the nonce point `k⁻¹·G`
  determines `k` modulo `q`, and `r` (the `x` coordinate) determines it up to sign; so two sessions with
  `k ≢ ±k'` have different `r`.
* `coins_fresh` — LABELLED SMALL LEMMA: consecutive sessions read disjoint index ranges of one coin stream. -/
set_option autoImplicit false
namespace TssVerif.C20
open TssVerif TssVerif.MiscL

/-- **re-indexing**: distinct saved keys, full columns, every selected key saved; any order, repetitions allowed -/
theorem subset_reindex {α : Type} (keys : List Nat) (cols : List α) (sel : List Nat)
    (hnd : keys.Nodup) (hlen : cols.length = keys.length) (hsub : ∀ s ∈ sel, s ∈ keys) :
    ∃ r, subsetBy keys cols sel = some r ∧ r.length = sel.length ∧
      ∀ (j idx : Nat) (hj : j < sel.length) (hidx : idx < keys.length),
        keys[idx] = sel[j] → r[j]? = cols[idx]? := by
  have hsome : (subsetBy keys cols sel).isSome :=
    (subsetBy_isSome_iff keys cols sel).2 fun s hs => (entryBy_isSome_iff keys cols hlen s).2 (hsub s hs)
  obtain ⟨r, hr⟩ := Option.isSome_iff_exists.1 hsome
  obtain ⟨hl, hall⟩ := (subsetBy_eq_some_iff keys cols sel r).1 hr
  refine ⟨r, hr, hl, fun j idx hj hidx hk => ?_⟩
  have h1 := hall j hj (by omega)
  rw [← hk] at h1
  unfold entryBy at h1
  rw [lastPos_of_nodup hnd hidx, Option.bind_some] at h1
  rw [h1, List.getElem?_eq_getElem (by omega)]

/-- **panic exactly on a missing key** -/
theorem subset_missing_iff {α : Type} (keys : List Nat) (cols : List α) (sel : List Nat)
    (hlen : cols.length = keys.length) :
    subsetBy keys cols sel = none ↔ ∃ s ∈ sel, s ∉ keys := by
  rw [← Option.not_isSome_iff_eq_none, subsetBy_isSome_iff]
  simp only [entryBy_isSome_iff keys cols hlen, not_forall, exists_prop]

/-- **the entry only depends on the key**, not on where or in which selection it occurs -/
theorem subset_order_independent {α : Type} (keys : List Nat) (cols : List α) (sel sel' : List Nat)
    (r r' : List α) (h : subsetBy keys cols sel = some r) (h' : subsetBy keys cols sel' = some r')
    (j j' : Nat) (hj : j < sel.length) (hj' : j' < sel'.length) (hkey : sel[j] = sel'[j']) :
    r[j]? = r'[j']? := by
  obtain ⟨hl, hall⟩ := (subsetBy_eq_some_iff keys cols sel r).1 h
  obtain ⟨hl', hall'⟩ := (subsetBy_eq_some_iff keys cols sel' r').1 h'
  have h1 := hall j hj (by omega)
  have h2 := hall' j' hj' (by omega)
  rw [hkey, h2] at h1
  rw [List.getElem?_eq_getElem (by omega), List.getElem?_eq_getElem (by omega), Option.some.inj h1]

/-- **it commutes with permutations of the selection** -/
theorem subset_perm {α : Type} (keys : List Nat) (cols : List α) {sel sel' : List Nat}
    (hp : sel.Perm sel') {r : List α} (h : subsetBy keys cols sel = some r) :
    ∃ r', subsetBy keys cols sel' = some r' ∧ (sel.zip r).Perm (sel'.zip r') :=
  subsetBy_perm keys cols hp h

/-- the own-key column (`Ks`): the subset of the keys by a selection is the selection itself -/
theorem subset_keys (keys sel : List Nat) (hnd : keys.Nodup) (hsub : ∀ s ∈ sel, s ∈ keys) :
    subsetBy keys keys sel = some sel := by
  obtain ⟨r, hr, hl, hall⟩ := subset_reindex keys keys sel hnd rfl hsub
  rw [hr]
  congr 1
  apply List.ext_getElem hl
  intro j h1 h2
  obtain ⟨idx, hidx, hk⟩ := List.getElem_of_mem (hsub _ (List.getElem_mem h2))
  have := hall j idx h2 hidx hk
  rw [List.getElem?_eq_getElem h1, List.getElem?_eq_getElem hidx, hk] at this
  exact Option.some.inj this

section nonce
variable {P : Type} {C : Curve P}

/-- **the nonce point determines the nonce**: for `k, k' ≢ 0`, `(k⁻¹ mod q)·G = (k'⁻¹ mod q)·G ↔ k ≡ k' (mod q)` -/
theorem nonce_injective (hC : C.Lawful) {k k' : Nat} (hk : k % C.q ≠ 0) (hk' : k' % C.q ≠ 0) :
    ∃ ki ki', modInverse (k : Int) C.q = some ki ∧ modInverse (k' : Int) C.q = some ki' ∧
      (C.smul ki C.base = C.smul ki' C.base ↔ k ≡ k' [MOD C.q]) := by
  obtain ⟨ki, h, _⟩ := modInverse_prime hC.q_prime (a := (k : Int)) (by exact_mod_cast hk)
  obtain ⟨ki', h', _⟩ := modInverse_prime hC.q_prime (a := (k' : Int)) (by exact_mod_cast hk')
  exact ⟨ki, ki', h, h', nonce_point_inj hC h h'⟩

/-- the same for whatever inverses `ModInverse` returned -/
theorem nonce_injective' (hC : C.Lawful) {k k' ki ki' : Nat}
    (h : modInverse (k : Int) C.q = some ki) (h' : modInverse (k' : Int) C.q = some ki') :
    C.smul ki C.base = C.smul ki' C.base ↔ k ≡ k' [MOD C.q] :=
  nonce_point_inj hC h h'

/-- **equal `r` means equal nonce up to sign**, under the explicit hypothesis that an `x` coordinate is shared
only by a point and its negative -/
theorem nonce_r_determines_nonce (hC : C.Lawful) (hX : XDeterminesUpToSign C) {k k' ki ki' : Nat}
    (h : modInverse (k : Int) C.q = some ki) (h' : modInverse (k' : Int) C.q = some ki')
    {r y y' : Nat} (hR : C.toAffine (C.smul ki C.base) = some (r, y))
    (hR' : C.toAffine (C.smul ki' C.base) = some (r, y')) :
    k ≡ k' [MOD C.q] ∨ (k + k') % C.q = 0 :=
  nonce_r_inj hC hX h h' hR hR'

/-- contrapositive, the form used for two sessions: nonces different up to sign ⟹ different `r` -/
theorem distinct_nonces_distinct_r (hC : C.Lawful) (hX : XDeterminesUpToSign C) {k k' ki ki' : Nat}
    (h : modInverse (k : Int) C.q = some ki) (h' : modInverse (k' : Int) C.q = some ki')
    (hne : ¬ k ≡ k' [MOD C.q]) (hne' : (k + k') % C.q ≠ 0)
    {r r' y y' : Nat} (hR : C.toAffine (C.smul ki C.base) = some (r, y))
    (hR' : C.toAffine (C.smul ki' C.base) = some (r', y')) : r ≠ r' := by
  rintro rfl
  rcases nonce_r_inj hC hX h h' hR hR' with h1 | h1
  · exact hne h1
  · exact hne' h1

/-- the converse (why "up to sign" cannot be improved), when negation keeps the `x` coordinate -/
theorem nonce_r_collision (hC : C.Lawful) (hN : NegKeepsX C) {k k' ki ki' : Nat}
    (h : modInverse (k : Int) C.q = some ki) (h' : modInverse (k' : Int) C.q = some ki')
    (hk : k ≡ k' [MOD C.q] ∨ (k + k') % C.q = 0)
    {r y : Nat} (hR : C.toAffine (C.smul ki C.base) = some (r, y)) :
    ∃ y', C.toAffine (C.smul ki' C.base) = some (r, y') :=
  MiscL.nonce_r_collision hC hN h h' hk hR

end nonce

/-! ## coin streams — small list lemma -/

/-- SMALL LEMMA (labelled as such): a session consuming `n` coins uses `cs.take n` and leaves `cs.drop n`; the next
session, consuming `m`, uses positions `n … n+m−1`. The two read disjoint index ranges of the stream, and if the
stream has no repeated value the values are disjoint too. -/
theorem coins_fresh {α : Type} (cs : List α) (n m : Nat) :
    cs.take n ++ (cs.drop n).take m = cs.take (n + m) ∧
    (∀ i, i < n → (cs.take n)[i]? = cs[i]?) ∧
    (∀ j, j < m → ((cs.drop n).take m)[j]? = cs[n + j]?) ∧
    (cs.Nodup → List.Disjoint (cs.take n) ((cs.drop n).take m)) := by
  refine ⟨?_, ?_, ?_, ?_⟩
  · rw [List.take_add]
  · intro i hi
    rw [List.getElem?_take, if_pos hi]
  · intro j hj
    rw [List.getElem?_take, if_pos hj, List.getElem?_drop]
  · intro hnd
    have h1 : List.Disjoint (cs.take n) (cs.drop n) := by
      have := List.take_append_drop n cs ▸ hnd
      exact (List.nodup_append.1 this).2.2 |> fun h => by
        intro a ha hb
        exact h a ha a hb rfl
    intro a ha hb
    exact h1 ha (List.mem_of_mem_take hb)

/-! ## the hypotheses are satisfiable; concrete evaluations -/

section examples

/-- five saved parties, signers 40, 10, 30 in that order -/
example : subsetBy [10, 20, 30, 40, 50] ["a", "b", "c", "d", "e"] [40, 10, 30] = some ["d", "a", "c"] := by
  decide
example : subsetBy [10, 20, 30, 40, 50] ["a", "b", "c", "d", "e"] [10, 30, 40] = some ["a", "c", "d"] := by
  decide
/-- a missing signer: Go panics -/
example : subsetBy [10, 20, 30] ["a", "b", "c"] [10, 99] = none := by decide
/-- duplicate saved keys: the map keeps the LAST position (why `Nodup` is a hypothesis of `subset_reindex`) -/
example : subsetBy [10, 20, 10] ["a", "b", "c"] [10] = some ["c"] := by decide

local instance : Fact (Nat.Prime 23) := ⟨by decide⟩

/-- `zmodCurve` satisfies `XDeterminesUpToSign` (its `x` coordinate determines the point) -/
theorem zmodCurve_xdet : XDeterminesUpToSign (zmodCurve 23) := by
  intro a b x y y' ha hb
  left
  apply (zmodCurve_lawful 23).toAffine_inj
  simp only [zmodCurve, Option.some.injEq, Prod.mk.injEq] at ha hb ⊢
  exact ⟨ha.1.trans hb.1.symm, trivial⟩

/-- nonces 3 and 7 on the toy curve: inverses 8 and 10, different points, different `r` -/
example : modInverse 3 23 = some 8 ∧ modInverse 7 23 = some 10 := by decide
example {r r' y y' : Nat} (hR : (zmodCurve 23).toAffine ((zmodCurve 23).smul 8 (zmodCurve 23).base) = some (r, y))
    (hR' : (zmodCurve 23).toAffine ((zmodCurve 23).smul 10 (zmodCurve 23).base) = some (r', y')) : r ≠ r' :=
  distinct_nonces_distinct_r (C := zmodCurve 23) (k := 3) (k' := 7) (zmodCurve_lawful 23) zmodCurve_xdet
    (by decide) (by decide) (by decide) (by decide) hR hR'

example : ([1, 2, 3, 4, 5, 6].take 2, (([1, 2, 3, 4, 5, 6] : List Nat).drop 2).take 3) = ([1, 2], [3, 4, 5]) := rfl

end examples

end TssVerif.C20
