import TssVerif.Core.EngineTables
import TssVerif.Lemmas.EngineConc
/-! # C09 — concurrent `Update`/`WaitingFor` callers (logic part)

The runtime part (no data race) is the Go race detector's; here is what the mutex discipline buys logically.
`BaseUpdate` and `WaitingFor` hold the party's lock for the whole store-and-settle step respectively the whole
read, so a concurrent history *is* a list of critical sections `Sec.update m | Sec.query`, in the order in which
the lock was acquired (`runSecs`). The only unlocked part of `Update` is `ValidateMessage`, which reads no party
state in the model. `Interleave ls merged`: `merged` is a merge of the callers' message lists `ls` that keeps
each caller's own order. -/
set_option autoImplicit false
namespace TssVerif.C09
open TssVerif TssVerif.Engine TssVerif.EngineL

/-- **Queries do not disturb updates**: the state after a history of critical sections is the state after its
updates alone, in lock order. -/
theorem queries_transparent (tbl : List RoundSpec) (ss : List Sec) (p : Party) :
    (runSecs tbl ss p).1 = delivers tbl (msgsOf ss) p :=
  runSecs_state tbl ss p

/-- every merge of the callers' lists is a permutation of their concatenation -/
theorem interleave_is_permutation (ls : List (List Msg)) (merged : List Msg) (h : Interleave ls merged) :
    merged.Perm ls.flatten :=
  interleave_perm h

/-- **Atomic sections serialise.** Let `k` callers deliver the lists `ls` concurrently (with `WaitingFor` queries
in between), the lock serialising their sections into a history whose updates are some merge of `ls`.
If the messages are good and slot-consistent, the final state equals the state after one caller delivers the
concatenation sequentially — same round, same store and flags, same emission log, same `end` count. -/
theorem atomic_sections_serialise (tbl : List RoundSpec) (ls : List (List Msg)) (ss : List Sec) (p : Party)
    (hmerge : Interleave ls (msgsOf ss)) (hg : GoodList tbl p.self ls.flatten) (hc : SlotConsistent ls.flatten) :
    (runSecs tbl ss p).1 = delivers tbl ls.flatten p :=
  (runSecs_state tbl ss p).trans (delivers_perm tbl (interleave_perm hmerge).symm p hg hc).symm

/-- the same without queries, as a statement about `foldl deliver` -/
theorem interleavings_agree (tbl : List RoundSpec) (ls : List (List Msg)) (merged : List Msg) (p : Party)
    (hmerge : Interleave ls merged) (hg : GoodList tbl p.self ls.flatten) (hc : SlotConsistent ls.flatten) :
    merged.foldl (fun p m => deliver tbl m p) p = ls.flatten.foldl (fun p m => deliver tbl m p) p :=
  (delivers_perm tbl (interleave_perm hmerge).symm p hg hc).symm

/-- **Each result is emitted once, also under concurrency**: after `Start` and any history of critical sections
(any messages whatsoever) the log is the canonical one, `end` was signalled at most once, and exactly once iff
the final round was started. -/
theorem end_emitted_once_concurrent (tbl : List RoundSpec) (hfl : finalLast tbl = true) (n self : Nat)
    (pre : List Msg) (ss : List Sec) :
    let p := (runSecs tbl ss (start tbl (delivers tbl pre (fresh n self)))).1
    p.out = emitsUpTo tbl n p.rnd ∧ p.ended ≤ 1 ∧ (p.ended = 1 ↔ p.rnd = tbl.length) := by
  intro p
  have hc : Canon tbl p := by
    show Canon tbl (runSecs tbl ss _).1
    rw [runSecs_state]
    exact canon_delivers _ (canon_start (canon_delivers pre (canon_fresh tbl n self)))
  have hn : p.n = n := by
    show (runSecs tbl ss _).1.n = n
    rw [runSecs_state, delivers_n, start_n, delivers_n]; rfl
  exact ⟨hn ▸ hc.2.1, ended_of_finalLast hfl hc⟩

/-- every answer a `WaitingFor` query gets is the exact awaited set of the state it ran in (tables without an
`early` round): a query between two sections sees a settled state, never a half-updated one -/
theorem query_answers_exact (tbl : List RoundSpec) (hne : ∀ r ∈ tbl, r.early = false) (p : Party)
    (hs : Settled tbl p) (hc : Canon tbl p) (ss : List Sec) :
    ∀ a ∈ (runSecs tbl ss p).2, ∃ ms, a = awaited tbl (delivers tbl ms p) := by
  induction ss generalizing p with
  | nil => intro a ha; cases ha
  | cons s ss ih =>
    cases s with
    | update m =>
      intro a ha
      obtain ⟨ms, hms⟩ := ih (deliver tbl m p) (settled_deliver tbl m p) (canon_deliver m hc) a ha
      exact ⟨m :: ms, hms⟩
    | query =>
      intro a ha
      rcases List.mem_cons.mp ha with h | h
      · refine ⟨[], ?_⟩
        rw [h]
        exact waitingFor_eq_awaited hs.2 hc.1 (fun _ hr => hne _ (List.mem_of_getElem? hr))
      · exact ih p hs hc a h

/-- two callers, two messages each (one early), merged in a non-sequential order -/
example : Interleave [[⟨1, 1, ⟨true, 0⟩⟩, ⟨3, 1, ⟨true, 0⟩⟩], [⟨2, 1, ⟨true, 0⟩⟩]]
    [⟨1, 1, ⟨true, 0⟩⟩, ⟨2, 1, ⟨true, 0⟩⟩, ⟨3, 1, ⟨true, 0⟩⟩] :=
  Interleave.pick [] _ _ _ _ (Interleave.pick [[⟨3, 1, ⟨true, 0⟩⟩]] [] [] _ _
    (Interleave.pick [] [] [[]] _ _ (Interleave.done _ (by simp))))

example :
    let tbl := eddsaSigning.table
    let p0 := start tbl (fresh 2 0)
    let h : List Sec := [.query, .update ⟨2, 1, ⟨true, 0⟩⟩, .query, .update ⟨1, 1, ⟨true, 0⟩⟩, .update ⟨3, 1, ⟨true, 0⟩⟩, .query]
    (runSecs tbl h p0).1.rnd = 4 ∧ (runSecs tbl h p0).1.ended = 1 ∧ (runSecs tbl h p0).2 = [[1], [1], []] ∧
    (delivers tbl [⟨1, 1, ⟨true, 0⟩⟩, ⟨3, 1, ⟨true, 0⟩⟩, ⟨2, 1, ⟨true, 0⟩⟩] p0).rnd = 4 := by decide

end TssVerif.C09
