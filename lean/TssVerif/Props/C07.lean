import TssVerif.Core.EngineTables
import TssVerif.Lemmas.EngineWait
import TssVerif.Lemmas.EngineSystem
/-! # C07 — schedule independence of the round engine (`tss/party.go`: `BaseStart`, `BaseUpdate`)

Conventions as in `Props/C08.lean`: `tbl` is any round table, `delivers tbl ms p = ms.foldl (fun p m => deliver tbl m p) p`,
`run tbl evs p` folds events `Ev.start | Ev.deliver m`. `Good tbl self m`: `m` is not from the party itself and
carries the flag every round that needs its type requires (a genuine protocol message; wrong-flag messages are
the subject of `C08.flag_flip_*`). `GoodList tbl self ms`: all of `ms` are good; `SlotConsistent ms`: two messages
of `ms` with the same (type, sender) are the same message (a sender does not equivocate within one run). -/
set_option autoImplicit false
namespace TssVerif.C07
open TssVerif TssVerif.Engine TssVerif.EngineL

/-- **After every `Update` the party is at the furthest round its store allows**: no further productive step
is possible and the scan of the current round is already recorded (`Settled = step = none ∧ rest = id`). -/
theorem update_fixpoint (tbl : List RoundSpec) (m : Msg) (p : Party) :
    step tbl (deliver tbl m p) = none ∧ rest tbl (deliver tbl m p) = deliver tbl m p :=
  settled_deliver tbl m p

/-- the same after `Start` (this is the E1 repair: `startOld` does not have it, see `prestart_old_deadlock_witness`) -/
theorem start_fixpoint (tbl : List RoundSpec) (p : Party) (h0 : p.rnd = 0) :
    step tbl (start tbl p) = none ∧ rest tbl (start tbl p) = start tbl p := by
  rw [start_eq_of_rnd_zero h0]; exact settled_settleF tbl _

/-- … and in every reachable state -/
theorem run_fixpoint (tbl : List RoundSpec) (n self : Nat) (evs : List Ev) :
    step tbl (run tbl evs (fresh n self)) = none ∧ rest tbl (run tbl evs (fresh n self)) = run tbl evs (fresh n self) :=
  settled_run evs (settled_fresh tbl n self)

/-- running the loop again changes nothing -/
theorem settle_idempotent (tbl : List RoundSpec) (p : Party) :
    settle tbl (tbl.length + 1) (settle tbl (tbl.length + 1) p) = settle tbl (tbl.length + 1) p :=
  settleF_of_settled (settled_settleF tbl p)

/-- **Local confluence**: two good messages for different slots may be delivered in either order, in any state
(started or not, settled or not). -/
theorem local_confluence (tbl : List RoundSpec) (a b : Msg) (p : Party)
    (ha : Good tbl p.self a) (hb : Good tbl p.self b) (hne : ¬ (a.ty = b.ty ∧ a.frm = b.frm)) :
    deliver tbl a (deliver tbl b p) = deliver tbl b (deliver tbl a p) :=
  deliver_comm tbl a b p ha hb hne

/-- **A duplicate delivery changes nothing.** -/
theorem duplicates_idempotent (tbl : List RoundSpec) (a : Msg) (p : Party) (ha : Good tbl p.self a) :
    deliver tbl a (deliver tbl a p) = deliver tbl a p :=
  deliver_dup tbl a p ha

/-- **Schedule independence**: any permutation of a slot-consistent list of good messages leads to the same
state — same round, same flags, same store, same emission log, same `end` count. Messages may be arbitrarily
early; `p` is any state (in particular not yet started). -/
theorem schedule_independent (tbl : List RoundSpec) (ms ms' : List Msg) (p : Party) (hp : ms.Perm ms')
    (hg : GoodList tbl p.self ms) (hc : SlotConsistent ms) :
    delivers tbl ms p = delivers tbl ms' p :=
  delivers_perm tbl hp p hg hc

/-- **… up to duplicates**: the final state depends only on the *set* of messages delivered. -/
theorem schedule_independent_up_to_duplicates (tbl : List RoundSpec) (ms ms' : List Msg) (p : Party)
    (hset : ∀ m, m ∈ ms ↔ m ∈ ms') (hg : GoodList tbl p.self ms) (hc : SlotConsistent ms) :
    delivers tbl ms p = delivers tbl ms' p :=
  delivers_same_set tbl ms ms' p hset hg hc

/-- **Messages that arrive before `Start` are not lost**: delivering good messages to an un-started party and
then starting it gives the same state as starting it first. -/
theorem prestart_equals_poststart (tbl : List RoundSpec) (n self : Nat) (ms : List Msg)
    (hg : GoodList tbl self ms) :
    start tbl (delivers tbl ms (fresh n self)) = delivers tbl ms (start tbl (fresh n self)) :=
  start_delivers tbl ms (fresh n self) rfl hg

/-- the same for any un-started state, and with `Start` anywhere in the schedule -/
theorem start_commutes_with_deliveries (tbl : List RoundSpec) (pre post : List Msg) (p : Party) (h0 : p.rnd = 0)
    (hg : GoodList tbl p.self pre) :
    delivers tbl post (start tbl (delivers tbl pre p)) = delivers tbl (pre ++ post) (start tbl p) := by
  rw [start_delivers tbl pre p h0 hg, delivers_append]

/-- a toy table: round 1 needs one broadcast from everybody, round 2 is final -/
def toy : List RoundSpec :=
  [ { needs := [(1, true)], selfOk := false, selfStore := [(1, true)], early := false, emits := [(1, false)],
      final := false, finalOk := false },
    { needs := [], selfOk := false, selfStore := [], early := false, emits := [], final := true, finalOk := true } ]

/-- **Before the E1 repair the pre-`Start` delivery deadlocked**: with `startOld` (no look at the store) the only
message the party will ever get is already stored, the party sits in round 1 with nothing outstanding
(`awaited = []`), a productive step is possible, but no further `Update` will come to take it.
With `start` the party finishes. -/
theorem prestart_old_deadlock_witness :
    let m : Msg := ⟨1, 1, ⟨true, 0⟩⟩
    let pOld := startOld toy (delivers toy [m] (fresh 2 0))
    let pNew := start toy (delivers toy [m] (fresh 2 0))
    (pOld.rnd = 1 ∧ pOld.ended = 0 ∧ awaited toy pOld = [] ∧ (step toy pOld).isSome = true) ∧
    (pNew.rnd = 2 ∧ pNew.ended = 1 ∧ pNew.done = true ∧ (step toy pNew).isSome = false) := by decide

/-- **The result is signalled at most once, and exactly once iff the final round was started**, for every table
with exactly one final round, in last position (`finalLast`), after any sequence of events. -/
theorem ends_exactly_once (tbl : List RoundSpec) (hfl : finalLast tbl = true) (n self : Nat) (evs : List Ev) :
    (run tbl evs (fresh n self)).ended ≤ 1 ∧
    ((run tbl evs (fresh n self)).ended = 1 ↔ (run tbl evs (fresh n self)).rnd = tbl.length) :=
  ended_of_finalLast hfl (canon_run evs (canon_fresh tbl n self))

/-- **No quiescent state short of the end.** Closed system of `n` parties over one table `tbl` that has one
final round in last position, is all-to-all (`allToAll`: what a non-final round needs from every sender is
emitted by every party in that round or earlier, and the own share is met by the own `Start`) and respects
channel discipline (`disciplined`: a type is required with the flag it is sent with). In every state reachable
by starting parties and delivering emitted messages — in any order, any number of times, before or after the
recipient's `Start`, any number of rounds early — if every party has been started and every emitted message has
reached every other party, then every party has started the final round and has signalled `end` exactly once. -/
theorem no_deadlock (tbl : List RoundSpec) (n : Nat) (hfl : finalLast tbl = true) (ha : allToAll tbl = true)
    (hd : disciplined tbl = true) (s : Sys) (hreach : Reach tbl n s)
    (hstarted : ∀ i, i < n → (s i).rnd ≠ 0) (hq : Quiescent n s) :
    ∀ i, i < n → (s i).rnd = tbl.length ∧ (s i).ended = 1 := by
  intro i hi
  have hinv := reach_inv ha hreach
  have hge := all_reach_round hfl ha hd hinv hstarted hq tbl.length (Nat.le_refl _) i hi
  have hc := (hinv i).2.2.canon
  have hrnd : (s i).rnd = tbl.length := Nat.le_antisymm hc.1 hge
  exact ⟨hrnd, (ended_of_finalLast hfl hc).2.mpr hrnd⟩

/-- the key step of `no_deadlock`, usable on its own: if all other parties have started round `k` and their
messages have been delivered, party `i`'s round-`k` requirements are satisfied for every other sender -/
theorem round_requirements_met (tbl : List RoundSpec) (n : Nat) (ha : allToAll tbl = true)
    (hd : disciplined tbl = true) (s : Sys) (hreach : Reach tbl n s) (hq : Quiescent n s)
    (i k : Nat) (hi : i < n) (hk : 0 < k) (r : RoundSpec) (hr : tbl[k - 1]? = some r) (hf : r.final = false)
    (hall : ∀ j, j < n → j ≠ i → k ≤ (s j).rnd) :
    ∀ j, j < n → j ≠ i → sat r (s i).store j = true :=
  others_satisfied ha hd (reach_inv ha hreach) hq hi hk hr hf hall

/-- all four tables of the library meet the hypotheses of `ends_exactly_once` and `no_deadlock` -/
example : ∀ P ∈ protos, finalLast P.table = true ∧ allToAll P.table = true ∧ disciplined P.table = true := by decide
example : finalLast toy = true ∧ allToAll toy = true ∧ disciplined toy = true := by decide

/-- genuine messages are `Good` -/
example : GoodList eddsaSigning.table 0 [⟨2, 1, ⟨true, 0⟩⟩, ⟨1, 1, ⟨true, 0⟩⟩] := by
  unfold GoodList Good; decide
example : SlotConsistent [(⟨2, 1, ⟨true, 0⟩⟩ : Msg), ⟨1, 1, ⟨true, 0⟩⟩, ⟨2, 1, ⟨true, 0⟩⟩] := by
  intro a ha b hb
  simp only [List.mem_cons, List.not_mem_nil, or_false] at ha hb
  rcases ha with rfl | rfl | rfl <;> rcases hb with rfl | rfl | rfl <;> simp

/-- an early message, in both orders, evaluated -/
example :
    let tbl := eddsaSigning.table
    let p0 := start tbl (fresh 2 0)
    (delivers tbl [⟨2, 1, ⟨true, 0⟩⟩, ⟨1, 1, ⟨true, 0⟩⟩] p0).rnd = 3 ∧
    (delivers tbl [⟨1, 1, ⟨true, 0⟩⟩, ⟨2, 1, ⟨true, 0⟩⟩] p0).rnd = 3 ∧
    (start tbl (delivers tbl [⟨2, 1, ⟨true, 0⟩⟩, ⟨1, 1, ⟨true, 0⟩⟩] (fresh 2 0))).rnd = 3 := by decide

/-- a reachable, fully started, quiescent state of the two-party toy system (so `no_deadlock` is not vacuous) -/
def toyFinal : Sys :=
  let s0 : Sys := fun i => fresh 2 i
  let s1 := s0.set 0 (start toy (s0 0))
  let s2 := s1.set 1 (deliver toy ⟨1, 0, ⟨flagOf toy 1, 7⟩⟩ (s1 1))   -- reaches party 1 before its `Start`
  let s3 := s2.set 1 (start toy (s2 1))
  s3.set 0 (deliver toy ⟨1, 1, ⟨flagOf toy 1, 8⟩⟩ (s3 0))

example : Reach toy 2 toyFinal :=
  Reach.deliver _ 0 1 1 8
    (Reach.start _ 1
      (Reach.deliver _ 1 0 1 7 (Reach.start _ 0 Reach.init (by decide)) (by decide) (by decide) (by decide) (by decide))
      (by decide))
    (by decide) (by decide) (by decide) (by decide)

example : (∀ i, i < 2 → (toyFinal i).rnd ≠ 0) ∧ Quiescent 2 toyFinal := by
  obtain ⟨hst, o0, o1, s01, s10⟩ : (∀ i, i < 2 → (toyFinal i).rnd ≠ 0) ∧ (toyFinal 0).out = [1] ∧
      (toyFinal 1).out = [1] ∧ (toyFinal 0).store 1 1 = some ⟨true, 8⟩ ∧ (toyFinal 1).store 1 0 = some ⟨true, 7⟩ := by
    decide
  refine ⟨hst, ?_⟩
  intro i j hi hj hji ty hty
  have hi' : i = 0 ∨ i = 1 := by omega
  have hj' : j = 0 ∨ j = 1 := by omega
  rcases hi' with rfl | rfl <;> rcases hj' with rfl | rfl
  · exact absurd rfl hji
  · rw [o1] at hty; simp at hty; subst hty; exact ⟨_, s01⟩
  · rw [o0] at hty; simp at hty; subst hty; exact ⟨_, s10⟩
  · exact absurd rfl hji

end TssVerif.C07
