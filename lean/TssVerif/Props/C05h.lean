import TssVerif.Lemmas.C05Kg4
import Mathlib.Tactic.NormNum.Prime
/-! # C05h — one deviating participant in the last round of ECDSA key generation: who is named

Property C05 (`/verif/properties.jsonl`, its first two sentences):
"If one participant deviates from the protocol (sends any altered field in any message, replays another
participant's messages as its own, uses a wrong secret input, omits a mandatory proof, or brings under-sized or
duplicated Paillier/ring-Pedersen parameters), no honest participant ever outputs a signature that fails
verification, a key share inconsistent with the group key, or key data that differs from another honest
participant's. Every error an honest participant reports names no participant other than the deviating one (or,
where the protocol cannot attribute, nobody/itself), and whenever the altered value is covered by a commitment, share
check or zero-knowledge proof the reporting participant names exactly the deviating one."

The object is the round-level model `BlameEc.kgRound4` / `BlameEc.kg4Peer` of `Core/BlameEc4.lean`
(`ecdsa/keygen/round_4.go`): every peer's Paillier key-correctness proof (`KGRound3Message`) is verified with
`Paillier.proofVerify` against the modulus saved for that peer in round 2, the peer's party key and the group public
key; a verifier error counts as "not accepted"; EVERY peer whose proof is not accepted is named, in index order; the
result `[]` means the party emits its key data. Everything holds for every hash `H`, every verifier configuration
`pcfg`, every public key and unboundedly many peers. "Every peer except `dev` is honest" is the judgement "every peer
with `idx ≠ dev` passes its per-peer check"; the party's own index is simply not among `peers.map (·.idx)`.

How the clauses of the property are covered:

* "names no participant other than the deviating one": `kg4_culprit_iff` (exactly the failing peers are named),
  `kg4_single_deviator` (parts 1, 4);
* "covered by a … zero-knowledge proof … names exactly the deviating one": `kg4Peer_true_iff`,
  `kg4Peer_false_iff`, `kg4_verifier_error_is_rejection`, `kg4Peer_accept_spec` (what acceptance means: no prime
  below 1000 divides `N`, the 13 challenges exist, 13 numbers with `proof[i]^N ≡ x_i (mod N)`),
  `kg4_small_factor_blamed`, `kg4_covered_alteration_blamed`, `kg4_single_deviator` (parts 2, 3);
* no honest participant is named, the party never names itself: `kg4_culprits_are_senders`,
  `kg4_never_names_self` (with `kg4_single_deviator`: an honest peer passes, so it is not named);
* no key data when a check fails: `kg4_pass_iff`, `kg4_clean_iff`, `kg4_no_key_data_when_a_check_fails`;
* the call returns: `kg4_no_panic`, `kg4_returns` (every proof has the 13 numbers that
  `KGRound3Message.ValidateBasic` requires; every `pcfg`), `kg4_no_unattributed_error` (no hypothesis);
  the hypothesis is needed in the model: `kg4Peer_panics_iff`, `kg4_short_proof_panics_witness`,
  `kg4_short_proof_panics_round_witness`. -/
set_option autoImplicit false
namespace TssVerif.C05h
open TssVerif BlameEc C05SgL C05Kg4L C06L

variable (H : HashFn) (pcfg : Paillier.ProofCfg) (ecdsaPub : ECPoint)

/-! ## exactly the failing peers are named -/

/-- **exactly the failing peers are named** -/
theorem kg4_culprit_iff (peers : List R3Peer) (cs : List Nat)
    (h : kgRound4 H pcfg ecdsaPub peers = .ok cs) (j : Nat) :
    j ∈ cs ↔ ∃ p ∈ peers, p.idx = j ∧ kg4Peer H pcfg ecdsaPub p = .ok false := by
  rw [kgRound4_eq] at h
  exact boolRound_culprit_iff _ _ _ h j

/-- **the names are a sub-list of the peer indices** (peer order, no duplicates when these are distinct) -/
theorem kg4_culprits_are_senders (peers : List R3Peer) (cs : List Nat)
    (h : kgRound4 H pcfg ecdsaPub peers = .ok cs) :
    cs.Sublist (peers.map (·.idx)) ∧ (∀ c ∈ cs, c ∈ peers.map (·.idx)) ∧
      ((peers.map (·.idx)).Nodup → cs.Nodup) := by
  rw [kgRound4_eq] at h
  exact boolRound_culprits_are_senders _ _ _ h

/-- … so the party never names itself (its own index is not among the peers') -/
theorem kg4_never_names_self (peers : List R3Peer) (cs : List Nat) (self : Nat)
    (hself : self ∉ peers.map (·.idx)) (h : kgRound4 H pcfg ecdsaPub peers = .ok cs) : self ∉ cs :=
  fun hm => hself ((kg4_culprits_are_senders H pcfg ecdsaPub peers cs h).2.1 self hm)

/-! ## key data only when every peer passes -/

/-- **the round passes (the key data is emitted) iff every peer's proof is accepted** -/
theorem kg4_pass_iff (peers : List R3Peer) :
    kgRound4 H pcfg ecdsaPub peers = .ok [] ↔ ∀ p ∈ peers, kg4Peer H pcfg ecdsaPub p = .ok true := by
  rw [kgRound4_eq]
  exact boolRound_pass_iff _ _ _

/-- the same for a returned list: it is empty iff every peer's proof is accepted -/
theorem kg4_clean_iff (peers : List R3Peer) (cs : List Nat) (h : kgRound4 H pcfg ecdsaPub peers = .ok cs) :
    cs = [] ↔ ∀ p ∈ peers, kg4Peer H pcfg ecdsaPub p = .ok true := by
  rw [← kg4_pass_iff, h]
  constructor
  · intro hc; rw [hc]
  · intro hc; exact Outcome.ok.inj hc

/-- **no key data when a check fails**: if some peer's proof is not accepted the round does not return `[]`
(it returns a non-empty culprit list, or does not return a list at all) -/
theorem kg4_no_key_data_when_a_check_fails (peers : List R3Peer) (p : R3Peer) (hp : p ∈ peers)
    (hbad : kg4Peer H pcfg ecdsaPub p ≠ .ok true) : kgRound4 H pcfg ecdsaPub peers ≠ .ok [] :=
  fun h => hbad ((kg4_pass_iff H pcfg ecdsaPub peers).1 h p hp)

/-! ## one deviator -/

/-- **one deviator**: every peer other than `dev` passes. Then (1) whatever the round returns names nobody
but `dev`; (2) for distinct indices it returns exactly `[dev]` iff `dev`'s own check failed; (3) if `dev`'s
check fails the round does return `[dev]`; (4) if it passes too the round returns `[]`. -/
theorem kg4_single_deviator (peers : List R3Peer) (dev : Nat)
    (hothers : ∀ p ∈ peers, p.idx ≠ dev → kg4Peer H pcfg ecdsaPub p = .ok true) :
    (∀ cs, kgRound4 H pcfg ecdsaPub peers = .ok cs → ∀ c ∈ cs, c = dev) ∧
    (∀ cs, (peers.map (·.idx)).Nodup → kgRound4 H pcfg ecdsaPub peers = .ok cs →
      (cs = [dev] ↔ ∃ d ∈ peers, d.idx = dev ∧ kg4Peer H pcfg ecdsaPub d = .ok false)) ∧
    (∀ d ∈ peers, d.idx = dev → (peers.map (·.idx)).Nodup → kg4Peer H pcfg ecdsaPub d = .ok false →
      kgRound4 H pcfg ecdsaPub peers = .ok [dev]) ∧
    ((∀ d ∈ peers, d.idx = dev → kg4Peer H pcfg ecdsaPub d = .ok true) →
      kgRound4 H pcfg ecdsaPub peers = .ok []) := by
  rw [kgRound4_eq]
  exact boolRound_single_deviator (·.idx) _ peers dev hothers

/-! ## the per-peer check against the verifier -/

/-- **accepted iff the verifier says `true`** -/
theorem kg4Peer_true_iff (p : R3Peer) :
    kg4Peer H pcfg ecdsaPub p = .ok true ↔
      Paillier.proofVerify pcfg H (p.proof.map Int.ofNat) p.paillierN p.partyKey ecdsaPub = .ok true := by
  rw [kg4Peer_ok_iff]
  exact ⟨fun h => h.elim id fun ⟨h, _⟩ => (nomatch h), Or.inl⟩

/-- rejected iff the verifier says `false` or reports an error -/
theorem kg4Peer_false_iff (p : R3Peer) :
    kg4Peer H pcfg ecdsaPub p = .ok false ↔
      Paillier.proofVerify pcfg H (p.proof.map Int.ofNat) p.paillierN p.partyKey ecdsaPub = .ok false ∨
      ∃ e, Paillier.proofVerify pcfg H (p.proof.map Int.ofNat) p.paillierN p.partyKey ecdsaPub = .err e := by
  rw [kg4Peer_ok_iff]
  exact ⟨fun h => h.imp id fun ⟨_, h⟩ => h, fun h => h.imp id fun h => ⟨rfl, h⟩⟩

/-- **a verifier error is a rejection** (`GenerateXs` giving up: `ok, err := Verify(..); if err != nil { false }`) -/
theorem kg4_verifier_error_is_rejection (p : R3Peer) (e : String)
    (h : Paillier.proofVerify pcfg H (p.proof.map Int.ofNat) p.paillierN p.partyKey ecdsaPub = .err e) :
    kg4Peer H pcfg ecdsaPub p = .ok false :=
  (kg4Peer_false_iff H pcfg ecdsaPub p).2 (Or.inr ⟨e, h⟩)

/-- the goroutine itself never reports an error -/
theorem kg4Peer_no_error (p : R3Peer) (e : String) : kg4Peer H pcfg ecdsaPub p ≠ .err e :=
  kg4Peer_noErr H pcfg ecdsaPub p e

/-- **what acceptance means** (exact: iff): no prime below 1000 divides the peer's modulus `N`; the 13
challenges `x_i = GenerateXs(13, partyKey, N, ecdsaPub)` exist; the proof has 13 numbers and
`proof[i]^N ≡ x_i (mod N)` for each. (That `N`-th roots of 13 hash-derived units exist only when
`gcd(N, φ(N)) = 1`, up to probability, is the statistical step and is not stated.) -/
theorem kg4Peer_accept_spec (p : R3Peer) :
    kg4Peer H pcfg ecdsaPub p = .ok true ↔
      (∀ q : Nat, q.Prime → q < 1000 → ¬ q ∣ p.paillierN) ∧
      ∃ xs, Paillier.generateXs H Paillier.proofIters p.partyKey p.paillierN ecdsaPub = some xs ∧
        p.proof.length = Paillier.proofIters ∧
        ∀ i, i < Paillier.proofIters → (p.proof.getD i 0) ^ p.paillierN % p.paillierN = xs.getD i 0 % p.paillierN := by
  rw [kg4Peer_true_iff]
  exact proofVerify_true_iff_nat pcfg H p.proof p.paillierN p.partyKey ecdsaPub

/-- … in particular an accepted modulus is positive and the accepted proof has 13 numbers -/
theorem kg4Peer_accept_basic (p : R3Peer) (h : kg4Peer H pcfg ecdsaPub p = .ok true) :
    0 < p.paillierN ∧ p.proof.length = 13 := by
  obtain ⟨_, xs, hx, hl, _⟩ := (kg4Peer_accept_spec H pcfg ecdsaPub p).1 h
  -- `Nat.succ_pos 12 : 0 < proofIters` (`proofIters = 13`)
  have := C11L.generateXs_some_pos (m := Paillier.proofIters) (Nat.succ_pos 12) hx
  exact ⟨by omega, hl⟩

/-- **a modulus with a prime factor below 1000 is rejected**, whatever the proof is -/
theorem kg4_small_factor_blamed (p : R3Peer) (q : Nat) (hq : q.Prime) (hlt : q < 1000) (hd : q ∣ p.paillierN) :
    kg4Peer H pcfg ecdsaPub p = .ok false :=
  (kg4Peer_false_iff H pcfg ecdsaPub p).2
    (Or.inl (proofVerify_small_factor pcfg H _ p.paillierN p.partyKey ecdsaPub q hq hlt hd))

/-- **a covered alteration is blamed on its sender**: a proof the verifier does not accept (rejected, or a verifier
error) puts the peer's index in the list, and the key data is not emitted -/
theorem kg4_covered_alteration_blamed (peers : List R3Peer) (cs : List Nat) (p : R3Peer) (hp : p ∈ peers)
    (hbad : Paillier.proofVerify pcfg H (p.proof.map Int.ofNat) p.paillierN p.partyKey ecdsaPub = .ok false ∨
      ∃ e, Paillier.proofVerify pcfg H (p.proof.map Int.ofNat) p.paillierN p.partyKey ecdsaPub = .err e)
    (h : kgRound4 H pcfg ecdsaPub peers = .ok cs) : p.idx ∈ cs ∧ cs ≠ [] := by
  have hm := (kg4_culprit_iff H pcfg ecdsaPub peers cs h p.idx).2
    ⟨p, hp, rfl, (kg4Peer_false_iff H pcfg ecdsaPub p).2 hbad⟩
  exact ⟨hm, List.ne_nil_of_mem hm⟩

/-! ## the call returns -/

/-- exact crash condition of the per-peer check, for every configuration: a proof that does not have 13 numbers
with a modulus that passes the small-prime screen and for which the 13 challenges exist -/
theorem kg4Peer_panics_iff (p : R3Peer) (tag : String) :
    kg4Peer H pcfg ecdsaPub p = .panic tag ↔
      tag = "index" ∧ p.proof.length ≠ Paillier.proofIters ∧
      (∀ q : Nat, q.Prime → q < 1000 → ¬ q ∣ p.paillierN) ∧
      (Paillier.generateXs H Paillier.proofIters p.partyKey p.paillierN ecdsaPub).isSome = true := by
  rw [kg4Peer_panic_iff', smallPrimes_any_false_iff]

/-- **round 4 never crashes** when every proof has the 13 numbers `KGRound3Message.ValidateBasic` asks for
(in Go the proof is the array type `[ProofIters]*big.Int`); for every `pcfg`, nothing else assumed -/
theorem kg4_no_panic (peers : List R3Peer) (hlen : ∀ p ∈ peers, p.proof.length = Paillier.proofIters)
    (tag : String) : kgRound4 H pcfg ecdsaPub peers ≠ .panic tag := by
  rw [kgRound4_eq]
  exact C05SgL.namingRound_noPanic _ _ _ _ peers (fun p hp => kg4Peer_noPanic H pcfg ecdsaPub p (hlen p hp)) tag

/-- … more: it always returns a culprit list -/
theorem kg4_returns (peers : List R3Peer) (hlen : ∀ p ∈ peers, p.proof.length = Paillier.proofIters) :
    ∃ cs, kgRound4 H pcfg ecdsaPub peers = .ok cs := by
  rw [kgRound4_eq]
  exact ⟨_, (C05SgL.boolRound_ok_iff _ _ peers _).2 ⟨fun p hp => kg4Peer_total H pcfg ecdsaPub p (hlen p hp), rfl⟩⟩

/-- and, with no hypothesis at all, it never reports an error without a culprit -/
theorem kg4_no_unattributed_error (peers : List R3Peer) (e : String) : kgRound4 H pcfg ecdsaPub peers ≠ .err e := by
  rw [kgRound4_eq]
  exact C05SgL.namingRound_noErr _ _ _ _ peers (fun p _ => kg4Peer_noErr H pcfg ecdsaPub p) e

/-- **the length hypothesis is needed in the model**: an empty proof with the prime modulus `1009` (passes the
small-prime screen; with the constant hash `[1]` every challenge is the unit `1`) indexes out of range — for
every configuration -/
theorem kg4_short_proof_panics_witness :
    kg4Peer (fun _ => [1]) pcfg (1, 2) ⟨1, 1009, 5, []⟩ = .panic "index" := by
  refine (kg4Peer_panics_iff _ _ _ _ _).2 ⟨rfl, by decide, fun q hq hlt hd => ?_, by decide⟩
  have := (Nat.prime_dvd_prime_iff_eq hq (by norm_num : Nat.Prime 1009)).1 hd
  omega

/-- … and the crash reaches the round, also behind a peer that is rejected -/
theorem kg4_short_proof_panics_round_witness :
    kgRound4 (fun _ => [1]) pcfg (1, 2) [⟨1, 1009, 5, []⟩] = .panic "index" ∧
    kgRound4 (fun _ => [1]) pcfg (1, 2) [⟨2, 15, 5, []⟩, ⟨1, 1009, 5, []⟩] = .panic "index" := by
  refine ⟨kgRound4_panic_of _ pcfg _ [] [] _ _ (fun _ h => nomatch h) (kg4_short_proof_panics_witness pcfg), ?_⟩
  refine kgRound4_panic_of _ pcfg _ [⟨2, 15, 5, []⟩] [] _ _ (fun q hq => ?_) (kg4_short_proof_panics_witness pcfg)
  rw [List.mem_singleton.1 hq]
  exact ⟨false, kg4_small_factor_blamed _ pcfg _ ⟨2, 15, 5, []⟩ 3 (by norm_num) (by omega) ⟨5, rfl⟩⟩

/-! ## the hypotheses are satisfiable -/

/-- a trivial "hash": every digest is the byte `3` (the theorems hold for every `H`) -/
def H0 : HashFn := fun _ => [3]

/-- an honest-looking peer: `N = 1009·1013`, every challenge is `3`, its `N`-th root modulo `N` is `1008729` -/
def good : R3Peer := ⟨1, 1009 * 1013, 1, List.replicate 13 1008729⟩

/-- a peer whose modulus `15` has the factor `3` -/
def bad : R3Peer := ⟨2, 15, 1, List.replicate 13 1⟩

theorem no_small_factor_1009_1013 : ∀ q : Nat, q.Prime → q < 1000 → ¬ q ∣ 1009 * 1013 := by
  intro q hq hlt hd
  rcases (Nat.Prime.dvd_mul hq).1 hd with h | h
  · have := (Nat.prime_dvd_prime_iff_eq hq (by norm_num : Nat.Prime 1009)).1 h
    omega
  · have := (Nat.prime_dvd_prime_iff_eq hq (by norm_num : Nat.Prime 1013)).1 h
    omega

set_option maxRecDepth 100000 in
/-- the good peer is accepted (kernel evaluation of the verifier, for every configuration) -/
theorem good_accepted : kg4Peer H0 pcfg (1, 2) good = .ok true := by
  rw [kg4Peer_true_iff]
  unfold Paillier.proofVerify
  rw [show ((good.paillierN : Nat) : Int) = ((1009 * 1013 : Nat) : Int) from rfl,
    (smallPrimes_any_false_iff (1009 * 1013)).2 no_small_factor_1009_1013]
  have hx : Paillier.generateXs H0 Paillier.proofIters ((good.partyKey : Nat) : Int) ((1009 * 1013 : Nat) : Int)
      (1, 2) = some (List.replicate 13 3) := by decide
  rw [hx]
  simp only [Bool.false_eq_true, if_false]
  decide

/-- the bad peer is rejected (`kg4_small_factor_blamed` applies) -/
theorem bad_rejected : kg4Peer H0 pcfg (1, 2) bad = .ok false :=
  kg4_small_factor_blamed H0 pcfg (1, 2) bad 3 (by norm_num) (by omega) ⟨5, rfl⟩

/-- the acceptance condition holds of the good peer -/
example : (∀ q : Nat, q.Prime → q < 1000 → ¬ q ∣ good.paillierN) ∧
    ∃ xs, Paillier.generateXs H0 Paillier.proofIters good.partyKey good.paillierN (1, 2) = some xs ∧
      good.proof.length = Paillier.proofIters ∧
      ∀ i, i < Paillier.proofIters → (good.proof.getD i 0) ^ good.paillierN % good.paillierN =
        xs.getD i 0 % good.paillierN :=
  (kg4Peer_accept_spec H0 pcfg (1, 2) good).1 (good_accepted pcfg)

/-- a two-peer list where exactly one is named -/
example : kgRound4 H0 pcfg (1, 2) [good, bad] = .ok [2] := by
  refine (kg4_single_deviator H0 pcfg (1, 2) [good, bad] 2 ?_).2.2.1 bad (by simp) rfl (by decide) (bad_rejected pcfg)
  intro p hp hne
  rcases List.mem_cons.1 hp with rfl | hp
  · exact good_accepted pcfg
  · rw [List.mem_singleton.1 hp] at hne; exact absurd rfl hne

example : kgRound4 H0 pcfg (1, 2) [bad, good] = .ok [2] := by
  refine (kg4_single_deviator H0 pcfg (1, 2) [bad, good] 2 ?_).2.2.1 bad (by simp) rfl (by decide) (bad_rejected pcfg)
  intro p hp hne
  rcases List.mem_cons.1 hp with rfl | hp
  · exact absurd rfl hne
  · rw [List.mem_singleton.1 hp]; exact good_accepted pcfg

/-- the hypotheses of `kg4_single_deviator` hold of `[good, bad]` with `dev = 2`: the other peer passes, the
indices are distinct, the deviator is in the list and fails -/
example : (∀ p ∈ [good, bad], p.idx ≠ 2 → kg4Peer H0 pcfg (1, 2) p = .ok true) ∧
    ([good, bad].map (·.idx)).Nodup ∧ bad ∈ [good, bad] ∧ bad.idx = 2 ∧ kg4Peer H0 pcfg (1, 2) bad = .ok false := by
  refine ⟨fun p hp hne => ?_, by decide, by simp, rfl, bad_rejected pcfg⟩
  rcases List.mem_cons.1 hp with rfl | hp
  · exact good_accepted pcfg
  · rw [List.mem_singleton.1 hp] at hne; exact absurd rfl hne

/-- the passing branch: with only the good peer nobody is named and the key data is emitted -/
example : kgRound4 H0 pcfg (1, 2) [good] = .ok [] :=
  (kg4_pass_iff H0 pcfg (1, 2) [good]).2 fun p hp => by rw [List.mem_singleton.1 hp]; exact good_accepted pcfg

/-- the hypotheses of `kg4_no_panic` / `kg4_returns` hold of `[good, bad]`; `self = 0` is not a sender -/
example : (∀ p ∈ [good, bad], p.proof.length = Paillier.proofIters) ∧ 0 ∉ [good, bad].map (·.idx) := by
  refine ⟨fun p hp => ?_, by decide⟩
  rcases List.mem_cons.1 hp with rfl | hp
  · rfl
  · rw [List.mem_singleton.1 hp]; rfl

/-- a verifier error (the modulus `1`: no unit exists, `GenerateXs` gives up) is a rejection -/
example : kg4Peer H pcfg ecdsaPub ⟨3, 1, 0, []⟩ = .ok false := by
  cases hb : pcfg.boundedXs
  · exact kg4_verifier_error_is_rejection H pcfg ecdsaPub ⟨3, 1, 0, []⟩ "hang"
      (by rw [show (((⟨3, 1, 0, []⟩ : R3Peer).paillierN : Nat) : Int) = 1 from rfl, proofVerify_one, hb]; rfl)
  · exact kg4_verifier_error_is_rejection H pcfg ecdsaPub ⟨3, 1, 0, []⟩ "xs"
      (by rw [show (((⟨3, 1, 0, []⟩ : R3Peer).paillierN : Nat) : Int) = 1 from rfl, proofVerify_one, hb]; rfl)

end TssVerif.C05h
