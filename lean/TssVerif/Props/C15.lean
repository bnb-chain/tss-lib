import TssVerif.Lemmas.VssCreate
/-! # C15 — Feldman VSS (`crypto/vss/feldman_vss.go`) on every lawful curve

"For any secret, threshold t and admissible distinct ids, every dealt share verifies against the
published commitments under its own id and under no other id, the first commitment is secret*G, every
subset of at least t+1 shares reconstructs exactly the secret while fewer than t+1 never do, and the
shares lie on one polynomial of degree t. Any altered share value, id or commitment fails verification,
and dealing is refused when an id is 0 modulo the group order or two ids coincide modulo it."

Conventions: `as = [a_0, …, a_t]` are the dealer coefficients (`a_0 = secret`), `polyNat as x` is
`Σ a_i x^i` in `ℕ` (unreduced), `polyZ q as` the same polynomial in `(ZMod q)[X]`,
`IsCommitment C as vs` says `vs[i]` is the affine form of `a_i·G`.
No bound on `t`, the number of ids, or the size of any integer. -/
set_option autoImplicit false
set_option linter.style.haveILetI false
namespace TssVerif.C15
open TssVerif Vss Polynomial
open _root_.TssVerif.OpsCrypto (curVss)

variable {P : Type} {C : Curve P}

/-- `evalPoly` is `Σ a_i·id^i` modulo `q`, and exactly its residue as soon as there is one
coefficient beyond `a_0` (`a_0` itself enters unreduced). -/
theorem evalPoly_spec (q a0 : Nat) (as : List Nat) (id : Nat) :
    evalPoly q (a0 :: as) id ≡
        ∑ i ∈ Finset.range (as.length + 1), (a0 :: as).getD i 0 * id ^ i [MOD q] ∧
    (as ≠ [] → 0 < q → evalPoly q (a0 :: as) id =
        (∑ i ∈ Finset.range (as.length + 1), (a0 :: as).getD i 0 * id ^ i) % q) := by
  have h := polyNat_eq_sum (a0 :: as) id
  rw [List.length_cons] at h
  rw [← h]
  exact ⟨evalPoly_modEq a0 as id, fun has hq => evalPoly_eq_mod hq a0 as has id⟩

/-- A successful `create` publishes `secret·G` first, `t+1` commitments `a_i·G` in all, and one share
`f(id)` per id, in order. (No hypothesis on the curve.) -/
theorem vss_first_commitment (t secret : Nat) (ids coeffs : List Nat) (hlen : coeffs.length = t)
    (vs : List ECPoint) (shares : List Share)
    (h : create C t secret ids coeffs = .ok (vs, shares)) :
    vs[0]? = C.toAffine (C.smul secret C.base) ∧ vs.length = t + 1 ∧
    IsCommitment C (secret :: coeffs) vs ∧
    shares = ids.map (fun id => ⟨t, id, evalPoly C.q (secret :: coeffs) id⟩) := by
  obtain ⟨_, hcom, hsh⟩ := (create_eq_ok_iff C t secret ids coeffs vs shares).1 h
  refine ⟨?_, ?_, hcom, hsh⟩
  · cases hcom with
    | cons h0 _ => simp [h0]
  · rw [← hcom.length_eq]; simp [hlen]

/-- `create` reports an error exactly when `t < 1`, some id is `0 (mod q)`, two ids are congruent
`(mod q)`, or there are fewer ids than `t`. (No hypothesis on the curve or on `coeffs`.) -/
theorem vss_create_refuses_iff (t secret : Nat) (ids coeffs : List Nat) :
    (∃ e, create C t secret ids coeffs = .err e) ↔
      t < 1 ∨ (∃ id ∈ ids, id % C.q = 0) ∨
      (∃ i j, i < j ∧ j < ids.length ∧ ids.getD i 0 ≡ ids.getD j 0 [MOD C.q]) ∨
      ids.length < t := by
  rw [create_err_iff, createGuards_eq_false_iff]

/-- `create` crashes exactly when the guards pass and the secret or a coefficient is `0 (mod q)` on a
curve whose identity has no affine form (`ScalarBaseMult` cannot return the point at infinity). -/
theorem vss_create_panics_iff (hC : C.Lawful) (t secret : Nat) (ids coeffs : List Nat) :
    (∃ e, create C t secret ids coeffs = .panic e) ↔
      (1 ≤ t ∧ (∀ id ∈ ids, id % C.q ≠ 0) ∧ (ids.map (· % C.q)).Nodup ∧ t ≤ ids.length) ∧
      C.toAffine C.zero = none ∧ ∃ a ∈ secret :: coeffs, a % C.q = 0 := by
  rw [create_panic_iff, createGuards_eq_true_iff]
  constructor
  · rintro ⟨hg, a, ha, hn⟩
    obtain ⟨h1, h2⟩ := (toAffine_smul_base_eq_none_iff hC a).1 hn
    exact ⟨hg, h2, a, ha, h1⟩
  · rintro ⟨hg, hz, a, ha, h0⟩
    exact ⟨hg, a, ha, (toAffine_smul_base_eq_none_iff hC a).2 ⟨h0, hz⟩⟩

/-- in every other case `create` succeeds (so: it never fails on a curve with an affine identity once
the guards pass) -/
theorem vss_create_ok_iff (hC : C.Lawful) (t secret : Nat) (ids coeffs : List Nat) :
    (∃ r, create C t secret ids coeffs = .ok r) ↔
      (1 ≤ t ∧ (∀ id ∈ ids, id % C.q ≠ 0) ∧ (ids.map (· % C.q)).Nodup ∧ t ≤ ids.length) ∧
      (C.toAffine C.zero = none → ∀ a ∈ secret :: coeffs, a % C.q ≠ 0) := by
  have hp := vss_create_panics_iff hC t secret ids coeffs
  have he := create_err_iff C t secret ids coeffs
  rw [Bool.eq_false_iff, Ne, createGuards_eq_true_iff] at he
  rw [Outcome.exists_ok_iff]
  constructor
  · rintro ⟨h1, h2⟩
    have hg := not_not.1 fun hn => (he.2 hn).elim fun e h => h2 e h
    exact ⟨hg, fun hz a ha h0 => (hp.2 ⟨hg, hz, a, ha, h0⟩).elim fun e h => h1 e h⟩
  · rintro ⟨hg, h⟩
    exact ⟨fun e hc => (hp.1 ⟨e, hc⟩).2.2.elim fun a ⟨ha, h0⟩ => h (hp.1 ⟨e, hc⟩).2.1 a ha h0,
      fun e hc => he.1 ⟨e, hc⟩ hg⟩

/-- **Soundness of `verify`, no proviso**: an accepted share lies on the committed polynomial. -/
theorem vss_verify_sound (hC : C.Lawful) (as : List Nat) (vs : List ECPoint)
    (hcom : IsCommitment C as vs) (t : Nat) (hlen : as.length = t + 1) (sh : Share)
    (h : verify C curVss t sh vs = .ok true) :
    sh.threshold = t ∧ sh.id % C.q ≠ 0 ∧ sh.share % C.q ≠ 0 ∧
      polyNat as sh.id ≡ sh.share [MOD C.q] := by
  obtain ⟨b, hb, hiff⟩ := verify_commitment hC as vs hcom t hlen sh
  rw [hb] at h
  injection h with h
  obtain ⟨h1, h2, h3, _, hs⟩ := hiff.1 h
  exact ⟨h1, h3, h2, hs⟩

/-- **The central statement.** For commitments to `f = Σ a_i X^i`, an id and a share value that are
non-zero modulo `q`: `verify` accepts iff `f(id) ≡ s (mod q)` — provided that, on a curve whose identity
has no affine form (secp256k1), no intermediate partial sum `v_0 + … + id^j·v_j` (`1 ≤ j < t`) is the
point at infinity (`ecAdd` reports an error there and `Verify` answers `false`). -/
theorem vss_verify_iff (hC : C.Lawful) (as : List Nat) (vs : List ECPoint)
    (hcom : IsCommitment C as vs) (t : Nat) (hlen : as.length = t + 1) (id s : Nat)
    (hid : id % C.q ≠ 0) (hs : s % C.q ≠ 0)
    (hps : C.toAffine C.zero = none → PartialSumsNonzero C.q as id) :
    verify C curVss t ⟨t, id, s⟩ vs = .ok true ↔ polyNat as id ≡ s [MOD C.q] := by
  constructor
  · intro h
    exact (vss_verify_sound hC as vs hcom t hlen _ h).2.2.2
  · intro hf
    obtain ⟨b, hb, hiff⟩ := verify_commitment hC as vs hcom t hlen ⟨t, id, s⟩
    rw [hb]
    congr 1
    rw [hiff]
    refine ⟨rfl, hs, hid, fun hz j hj1 hj2 h0 => ?_, hf⟩
    -- a partial sum short of the whole is covered by the proviso, the whole is `≡ s ≢ 0`
    by_cases hlast : j < as.length - 1
    · exact hps hz j hlast hj1 h0
    · rw [List.take_of_length_le (by omega)] at h0
      exact hs ((show s % C.q = _ from hf.symm).trans h0)

/-- the unconditional version, for curves whose identity has affine coordinates (edwards25519) -/
theorem vss_verify_iff_of_affine_zero (hC : C.Lawful) (hz : C.toAffine C.zero ≠ none)
    (as : List Nat) (vs : List ECPoint)
    (hcom : IsCommitment C as vs) (t : Nat) (hlen : as.length = t + 1) (id s : Nat)
    (hid : id % C.q ≠ 0) (hs : s % C.q ≠ 0) :
    verify C curVss t ⟨t, id, s⟩ vs = .ok true ↔ polyNat as id ≡ s [MOD C.q] :=
  vss_verify_iff hC as vs hcom t hlen id s hid hs (fun h => absurd h hz)

/-- the proviso of `vss_verify_iff` cannot be dropped: when an intermediate partial sum is the point at
infinity of such a curve the verifier rejects whatever the share is -/
theorem vss_verify_partial_sum_rejects (hC : C.Lawful) (hz : C.toAffine C.zero = none)
    (as : List Nat) (vs : List ECPoint)
    (hcom : IsCommitment C as vs) (t : Nat) (hlen : as.length = t + 1) (id s : Nat)
    (hps : ¬ PartialSumsNonzero C.q as id) :
    verify C curVss t ⟨t, id, s⟩ vs = .ok false := by
  obtain ⟨b, hb, hiff⟩ := verify_commitment hC as vs hcom t hlen ⟨t, id, s⟩
  rw [hb]
  congr 1
  cases b with
  | false => rfl
  | true =>
    exact absurd (fun j hj hj1 => (hiff.1 rfl).2.2.2.1 hz j hj1 (by omega)) hps

/-- **K2 repaired.** With the zero checks (`curVss.rejectZero = true`) `verify` returns a verdict —
never an error, never a crash — on every input whose commitments are curve points. `hcof`: on a curve
whose identity has no affine form every point has order dividing `q` (cofactor 1, as on secp256k1). -/
theorem vss_verify_no_panic (hC : C.Lawful)
    (hcof : C.toAffine C.zero = none → ∀ p, C.smul C.q p = C.zero)
    (t : Nat) (sh : Share) (vs : List ECPoint) (hvs : ∀ v ∈ vs, C.ecIsOnCurve v = true) :
    ∃ b, verify C curVss t sh vs = .ok b :=
  verify_no_panic hC hcof t sh vs hvs

/-- on honest commitments no cofactor assumption is needed -/
theorem vss_verify_no_panic_commitment (hC : C.Lawful) (as : List Nat) (vs : List ECPoint)
    (hcom : IsCommitment C as vs) (t : Nat) (hlen : as.length = t + 1) (sh : Share) :
    ∃ b, verify C curVss t sh vs = .ok b := by
  obtain ⟨b, hb, _⟩ := verify_commitment hC as vs hcom t hlen sh
  exact ⟨b, hb⟩

/-- **K2 as it was.** Without the zero checks, a share value `≡ 0 (mod q)` crashes the verifier on a
curve whose identity has no affine form (whenever the accumulation loop itself goes through). -/
theorem vss_verify_unrepaired_panics (hC : C.Lawful) (hz : C.toAffine C.zero = none)
    (a0 : Nat) (as : List Nat) (vs : List ECPoint) (hcom : IsCommitment C (a0 :: as) vs)
    (t : Nat) (hlen : (a0 :: as).length = t + 1) (id s : Nat) (hid : id % C.q ≠ 0)
    (hs : s % C.q = 0)
    (hps : ∀ j, 1 ≤ j → j < (a0 :: as).length →
      polyNat ((a0 :: as).take (j + 1)) id % C.q ≠ 0) :
    verify C ⟨false⟩ t ⟨t, id, s⟩ vs = .panic "scalar-base-mult-identity" := by
  rw [verify_unfold]
  have hvl : vs.length = t + 1 := by rw [← hcom.length_eq, hlen]
  simp only [bne_self_eq_false, hvl, Bool.or_self, Bool.false_eq_true, ↓reduceIte, Bool.false_and]
  rw [verifyTail_eq hC a0 as vs hcom _ hid]
  obtain ⟨R, hR⟩ := sLoop_start_isSome (q := C.q) id (decide (C.toAffine C.zero = none)) a0 as
    (fun _ => hps)
  simp only [hR]
  rw [if_pos ⟨hs, hz⟩]

/-- **Every dealt share verifies under its own id** — except (this is the K2 repair's price) a share
whose value is `0 (mod q)`, which is rejected, see `vss_zero_share_rejected`. -/
theorem vss_share_verifies (hC : C.Lawful) (t secret : Nat) (ids coeffs : List Nat)
    (hlen : coeffs.length = t) (vs : List ECPoint) (shares : List Share)
    (h : create C t secret ids coeffs = .ok (vs, shares)) (sh : Share) (hsh : sh ∈ shares)
    (hnz : sh.share % C.q ≠ 0)
    (hps : C.toAffine C.zero = none → PartialSumsNonzero C.q (secret :: coeffs) sh.id) :
    verify C curVss t sh vs = .ok true := by
  obtain ⟨hg, hcom, hshares⟩ := (create_eq_ok_iff C t secret ids coeffs vs shares).1 h
  obtain ⟨_, hidnz, _, _⟩ := (createGuards_eq_true_iff _ _ _).1 hg
  rw [hshares] at hsh
  obtain ⟨id, hid, rfl⟩ := List.mem_map.1 hsh
  exact (vss_verify_iff hC (secret :: coeffs) vs hcom t (by simp [hlen]) id _ (hidnz id hid) hnz
    hps).2 (evalPoly_modEq secret coeffs id).symm

/-- a dealt share that happens to be `0 (mod q)` (probability `1/q`) is rejected by the repaired verifier -/
theorem vss_zero_share_rejected (t : Nat) (sh : Share) (vs : List ECPoint)
    (h0 : sh.share % C.q = 0) : verify C curVss t sh vs = .ok false := by
  rw [verify_curVss_eq, if_neg (fun h => h.2.2.1 h0)]

/-- a share value accepted under another id `id'` must be `f(id')` -/
theorem vss_other_id (hC : C.Lawful) (as : List Nat) (vs : List ECPoint)
    (hcom : IsCommitment C as vs) (t : Nat) (hlen : as.length = t + 1) (id id' : Nat)
    (h : verify C curVss t ⟨t, id', polyNat as id % C.q⟩ vs = .ok true) :
    polyNat as id' ≡ polyNat as id [MOD C.q] := by
  have := (vss_verify_sound hC as vs hcom t hlen _ h).2.2.2
  exact this.trans (Nat.mod_modEq _ _)

/-- **… and under (almost) no other id**: if `f` is not constant modulo `q`, a share value `s` is
accepted under at most `t` ids that are pairwise distinct modulo `q` (its own included). -/
theorem vss_other_id_bound (hC : C.Lawful) (as : List Nat) (vs : List ECPoint)
    (hcom : IsCommitment C as vs) (t : Nat) (hlen : as.length = t + 1)
    (hnc : ∃ j, 1 ≤ j ∧ as.getD j 0 % C.q ≠ 0) (s : Nat) (ids' : List Nat)
    (hnd : (ids'.map (· % C.q)).Nodup)
    (hver : ∀ id' ∈ ids', verify C curVss t ⟨t, id', s⟩ vs = .ok true) :
    ids'.length ≤ t := by
  haveI : Fact C.q.Prime := ⟨hC.q_prime⟩
  exact value_count_le as t hlen hnc s ids' hnd
    (fun x hx => (vss_verify_sound hC as vs hcom t hlen _ (hver x hx)).2.2.2)

/-- **An altered share value is rejected.** -/
theorem vss_tamper_rejected (hC : C.Lawful) (as : List Nat) (vs : List ECPoint)
    (hcom : IsCommitment C as vs) (t : Nat) (hlen : as.length = t + 1) (id s s' : Nat)
    (hs : polyNat as id ≡ s [MOD C.q]) (hne : ¬ s' ≡ s [MOD C.q]) :
    verify C curVss t ⟨t, id, s'⟩ vs = .ok false := by
  obtain ⟨b, hb⟩ := vss_verify_no_panic_commitment hC as vs hcom t hlen ⟨t, id, s'⟩
  rw [hb]
  congr 1
  cases b with
  | false => rfl
  | true =>
    have := (vss_verify_sound hC as vs hcom t hlen _ hb).2.2.2
    exact absurd (this.symm.trans hs) hne

/-- **An altered commitment is rejected**: changing one published coefficient commitment `a_j·G` into
`a_j'·G` with `a_j' ≢ a_j` makes every share that verified before fail. -/
theorem vss_tamper_commitment_rejected (hC : C.Lawful) (as as' : List Nat) (vs vs' : List ECPoint)
    (hcom : IsCommitment C as vs) (hcom' : IsCommitment C as' vs') (t : Nat)
    (hlen : as.length = t + 1) (hlen' : as'.length = t + 1) (j : Nat)
    (hsame : ∀ i, i ≠ j → as'.getD i 0 = as.getD i 0)
    (hdiff : ¬ as'.getD j 0 ≡ as.getD j 0 [MOD C.q])
    (sh : Share) (hok : verify C curVss t sh vs = .ok true) :
    verify C curVss t sh vs' = .ok false := by
  haveI : Fact C.q.Prime := ⟨hC.q_prime⟩
  obtain ⟨b, hb⟩ := vss_verify_no_panic_commitment hC as' vs' hcom' t hlen' sh
  rw [hb]
  congr 1
  cases b with
  | false => rfl
  | true =>
    exfalso
    obtain ⟨_, hid, _, h1⟩ := vss_verify_sound hC as vs hcom t hlen sh hok
    obtain ⟨_, _, _, h2⟩ := vss_verify_sound hC as' vs' hcom' t hlen' sh hb
    have e : ((polyNat as' sh.id : ℕ) : ZMod C.q) = ((polyNat as sh.id : ℕ) : ZMod C.q) :=
      (ZMod.natCast_eq_natCast_iff' _ _ _).2 (h2.trans h1.symm)
    rw [← polyZ_eval_natCast, ← polyZ_eval_natCast] at e
    have hpoly : polyZ C.q as' = polyZ C.q as +
        Polynomial.C ((as'.getD j 0 : ZMod C.q) - (as.getD j 0 : ZMod C.q)) * X ^ j := by
      ext m
      rw [coeff_add, coeff_C_mul, coeff_X_pow, polyZ_coeff, polyZ_coeff]
      by_cases hm : m = j
      · subst hm; simp
      · rw [if_neg hm, mul_zero, add_zero, hsame m hm]
    rw [hpoly, eval_add, eval_mul, eval_C, eval_pow, eval_X] at e
    have hz : ((as'.getD j 0 : ZMod C.q) - (as.getD j 0 : ZMod C.q)) * (sh.id : ZMod C.q) ^ j = 0 := by
      have := e
      rwa [add_eq_left] at this
    rcases mul_eq_zero.1 hz with h0 | h0
    · apply hdiff
      exact (ZMod.natCast_eq_natCast_iff' _ _ _).1 (sub_eq_zero.1 h0)
    · have hj0 : j ≠ 0 := by
        intro hj0; subst hj0; simp at h0
      have := (pow_eq_zero_iff hj0).1 h0
      rw [ZMod.natCast_eq_zero_iff] at this
      exact hid (Nat.mod_eq_zero_of_dvd this)

/-- **`t+1` or more shares give `f(0)`.** Shares on `f = Σ a_i X^i` of degree `≤ t`, ids distinct
modulo the prime `q`, at least `t+1` of them, the first one's `threshold` field not above their number
(the only guard of the Go code). -/
theorem vss_reconstruct {q : Nat} (hq : q.Prime) (as : List Nat) (t : Nat) (hlen : as.length = t + 1)
    (shares : List Share) (hn : t + 1 ≤ shares.length)
    (hthr : ∀ s0 ∈ shares.head?, s0.threshold ≤ shares.length)
    (hnd : (shares.map (fun s => s.id % q)).Nodup)
    (hval : ∀ sh ∈ shares, sh.share ≡ polyNat as sh.id [MOD q]) :
    reconstruct q shares = .ok (polyNat as 0 % q) := by
  haveI : Fact q.Prime := ⟨hq⟩
  have hne : shares ≠ [] := by
    intro h0; rw [h0] at hn; simp at hn
  have hdeg : (polyZ q as).degree < (shares.length : ℕ) :=
    lt_of_lt_of_le (polyZ_degree_lt as) (by exact_mod_cast (by omega : as.length ≤ shares.length))
  rw [reconstruct_eq_eval shares (polyZ q as) hne hthr hnd hdeg
    (fun sh hsh => by
      rw [polyZ_eval_natCast]
      exact (ZMod.natCast_eq_natCast_iff' _ _ _).2 (hval sh hsh))]
  congr 1
  have : (polyZ q as).eval 0 = ((polyNat as 0 : ℕ) : ZMod q) := by
    have := polyZ_eval_natCast (q := q) as 0
    rwa [Nat.cast_zero] at this
  rw [this, ZMod.val_natCast]

/-- **Every subset of at least `t+1` dealt shares reconstructs exactly the secret** (reduced). -/
theorem vss_reconstruct_dealt (hq : C.q.Prime) (t secret : Nat) (ids coeffs : List Nat)
    (hlen : coeffs.length = t) (vs : List ECPoint) (shares : List Share)
    (h : create C t secret ids coeffs = .ok (vs, shares))
    (sub : List Share) (hsub : sub.Sublist shares) (hn : t + 1 ≤ sub.length) :
    reconstruct C.q sub = .ok (secret % C.q) := by
  obtain ⟨_, hnd, hall⟩ := create_ok_shares h hsub
  rw [vss_reconstruct hq (secret :: coeffs) t (by simp [hlen]) sub hn
    (fun s0 hs0 => by rw [(hall s0 (List.mem_of_mem_head? hs0)).1]; omega) hnd
    (fun sh hsh => (hall sh hsh).2.2), polyNat_zero]

/-- fewer than `t` dealt shares are refused (with an error, given at least one share) -/
theorem vss_fewer_shares_refused (t secret : Nat) (ids coeffs : List Nat)
    (vs : List ECPoint) (shares : List Share)
    (h : create C t secret ids coeffs = .ok (vs, shares))
    (sub : List Share) (hsub : sub.Sublist shares) (hne : sub ≠ []) (hn : sub.length < t) :
    reconstruct C.q sub = .err "not-enough-shares" := by
  obtain ⟨_, _, hshares⟩ := (create_eq_ok_iff C t secret ids coeffs vs shares).1 h
  obtain ⟨s0, rest, rfl⟩ := List.exists_cons_of_ne_nil hne
  have : s0 ∈ shares := hsub.subset (List.mem_cons_self ..)
  rw [hshares] at this
  obtain ⟨id, _, rfl⟩ := List.mem_map.1 this
  unfold reconstruct
  simp only
  rw [if_pos hn]

/-- **Exactly `t` shares** are not refused by the Go code (`Threshold > len(shares)` is the only guard).
They interpolate `f − a_t·∏(X − id_i)`, so the result is `f(0)` iff `a_t ≡ 0` or some id `≡ 0 (mod q)`. -/
theorem vss_t_shares_iff {q : Nat} (hq : q.Prime) (as : List Nat) (t : Nat) (hlen : as.length = t + 1)
    (ht : 1 ≤ t) (shares : List Share) (hsl : shares.length = t)
    (hthr : ∀ s0 ∈ shares.head?, s0.threshold ≤ shares.length)
    (hnd : (shares.map (fun s => s.id % q)).Nodup)
    (hval : ∀ sh ∈ shares, sh.share ≡ polyNat as sh.id [MOD q]) :
    ∃ r, reconstruct q shares = .ok r ∧
      (r = polyNat as 0 % q ↔ (as.getD t 0 % q = 0 ∨ ∃ sh ∈ shares, sh.id % q = 0)) := by
  haveI : Fact q.Prime := ⟨hq⟩
  refine ⟨_, reconstruct_t_shares as t hlen shares hsl ht hthr hnd hval, ?_⟩
  have h0 : polyNat as 0 % q = ((as.getD 0 0 : ℕ) : ZMod q).val := by
    cases as with
    | nil => simp at hlen
    | cons a0 as => rw [polyNat_zero, List.getD_cons_zero, ZMod.val_natCast]
  rw [h0]
  rw [(ZMod.val_injective q).eq_iff, sub_eq_self, mul_eq_zero, ZMod.natCast_eq_zero_iff,
    Multiset.prod_eq_zero_iff]
  apply or_congr
  · exact ⟨Nat.mod_eq_zero_of_dvd, Nat.dvd_of_mod_eq_zero⟩
  · simp only [Multiset.mem_coe, List.mem_map, zero_sub]
    constructor
    · rintro ⟨sh, hsh, h⟩
      refine ⟨sh, hsh, ?_⟩
      rw [neg_eq_zero, ZMod.natCast_eq_zero_iff] at h
      exact Nat.mod_eq_zero_of_dvd h
    · rintro ⟨sh, hsh, h⟩
      refine ⟨sh, hsh, ?_⟩
      rw [neg_eq_zero, ZMod.natCast_eq_zero_iff]
      exact Nat.dvd_of_mod_eq_zero h

/-- the same with the condition written as in the informal statement: `a_t · ∏ id_i ≡ 0 (mod q)` -/
theorem vss_t_shares_iff_prod {q : Nat} (hq : q.Prime) (as : List Nat) (t : Nat)
    (hlen : as.length = t + 1)
    (ht : 1 ≤ t) (shares : List Share) (hsl : shares.length = t)
    (hthr : ∀ s0 ∈ shares.head?, s0.threshold ≤ shares.length)
    (hnd : (shares.map (fun s => s.id % q)).Nodup)
    (hval : ∀ sh ∈ shares, sh.share ≡ polyNat as sh.id [MOD q]) :
    ∃ r, reconstruct q shares = .ok r ∧
      (r = polyNat as 0 % q ↔ (as.getD t 0 * (shares.map (·.id)).prod) % q = 0) := by
  obtain ⟨r, hr, hiff⟩ := vss_t_shares_iff hq as t hlen ht shares hsl hthr hnd hval
  refine ⟨r, hr, hiff.trans ?_⟩
  rw [← Nat.dvd_iff_mod_eq_zero, ← Nat.dvd_iff_mod_eq_zero, hq.dvd_mul,
    (Nat.Prime.prime hq).dvd_prod_iff]
  apply or_congr Iff.rfl
  simp only [List.mem_map]
  constructor
  · rintro ⟨sh, hsh, h0⟩
    exact ⟨sh.id, ⟨sh, hsh, rfl⟩, Nat.dvd_of_mod_eq_zero h0⟩
  · rintro ⟨_, ⟨sh, hsh, rfl⟩, h0⟩
    exact ⟨sh, hsh, Nat.mod_eq_zero_of_dvd h0⟩

/-- **`t` dealt shares never give the secret** when the leading coefficient is `≢ 0 (mod q)` (the Go
sampler `GetRandomPositiveInt` draws it from `[1, q)`). -/
theorem vss_t_shares_wrong (hq : C.q.Prime) (t secret : Nat) (ids coeffs : List Nat)
    (hlen : coeffs.length = t) (hlead : (secret :: coeffs).getD t 0 % C.q ≠ 0)
    (vs : List ECPoint) (shares : List Share)
    (h : create C t secret ids coeffs = .ok (vs, shares))
    (sub : List Share) (hsub : sub.Sublist shares) (hn : sub.length = t) :
    ∃ r, reconstruct C.q sub = .ok r ∧ r ≠ secret % C.q := by
  obtain ⟨ht, hnd, hall⟩ := create_ok_shares h hsub
  obtain ⟨r, hr, hiff⟩ := vss_t_shares_iff hq (secret :: coeffs) t (by simp [hlen]) ht sub hn
    (fun s0 hs0 => by rw [(hall s0 (List.mem_of_mem_head? hs0)).1]; omega) hnd
    (fun sh hsh => (hall sh hsh).2.2)
  refine ⟨r, hr, fun hrs => ?_⟩
  rw [polyNat_zero] at hiff
  rcases hiff.1 hrs with h0 | ⟨sh, hsh, h0⟩
  · exact hlead h0
  · exact (hall sh hsh).2.1 h0

/-- **Privacy of `≤ t` shares**, at the level of the code: for any `≤ t` points with ids distinct and
non-zero modulo `q` and ANY candidate secret there are dealer coefficients `a_1 … a_t` for which `create`
would hand out exactly these share values (modulo `q`) — the points carry no information on the secret. -/
theorem vss_privacy {q : Nat} (hq : q.Prime) (t : Nat) (pts : List (Nat × Nat))
    (hlen : pts.length ≤ t) (hnd : (pts.map (·.1 % q)).Nodup) (hnz : ∀ p ∈ pts, p.1 % q ≠ 0)
    (secret : Nat) :
    ∃ coeffs : List Nat, coeffs.length = t ∧
      ∀ p ∈ pts, evalPoly q (secret :: coeffs) p.1 ≡ p.2 [MOD q] := by
  haveI : Fact q.Prime := ⟨hq⟩
  obtain ⟨f, hdeg, h0, hpts⟩ := privacy_poly pts hnd hnz secret
  have hdeg' : f.degree < ((t + 1 : ℕ) : WithBot ℕ) :=
    lt_of_lt_of_le hdeg (by exact_mod_cast (by omega : pts.length + 1 ≤ t + 1))
  obtain ⟨coeffs, hcl, hpoly⟩ := exists_coeffs_of_poly f t hdeg' secret h0
  refine ⟨coeffs, hcl, fun p hp => ?_⟩
  apply (ZMod.natCast_eq_natCast_iff' _ _ _).1
  rw [evalPoly_eval, hpoly]
  exact hpts p hp

/-- the same over `ZMod q`: a polynomial of degree `≤ t` with the chosen constant term through the points -/
theorem vss_privacy_poly {q : Nat} (hq : q.Prime) (t : Nat) (pts : List (Nat × Nat))
    (hlen : pts.length ≤ t) (hnd : (pts.map (·.1 % q)).Nodup) (hnz : ∀ p ∈ pts, p.1 % q ≠ 0)
    (secret : Nat) :
    ∃ f : (ZMod q)[X], f.natDegree ≤ t ∧ f.eval 0 = (secret : ZMod q) ∧
      ∀ p ∈ pts, f.eval (p.1 : ZMod q) = (p.2 : ZMod q) := by
  obtain ⟨coeffs, hcl, hpts⟩ := vss_privacy hq t pts hlen hnd hnz secret
  refine ⟨polyZ q (secret :: coeffs), ?_, polyZ_eval_zero secret coeffs, fun p hp => ?_⟩
  · have := polyZ_natDegree_le (q := q) (secret :: coeffs)
    simpa [hcl] using this
  · rw [← evalPoly_eval]
    exact (ZMod.natCast_eq_natCast_iff' _ _ _).2 (hpts p hp)

/-- **The dealt shares lie on ONE polynomial of degree `≤ t`**, namely `secret + Σ coeffs_i X^(i+1)`;
every share carries the threshold `t`. -/
theorem vss_one_polynomial (t secret : Nat) (ids coeffs : List Nat) (hlen : coeffs.length = t)
    (vs : List ECPoint) (shares : List Share)
    (h : create C t secret ids coeffs = .ok (vs, shares)) :
    ∃ f : (ZMod C.q)[X], f.natDegree ≤ t ∧ f.coeff 0 = (secret : ZMod C.q) ∧
      (∀ i, f.coeff (i + 1) = (coeffs.getD i 0 : ZMod C.q)) ∧
      ∀ sh ∈ shares, sh.threshold = t ∧ (sh.share : ZMod C.q) = f.eval (sh.id : ZMod C.q) := by
  obtain ⟨_, _, hshares⟩ := (create_eq_ok_iff C t secret ids coeffs vs shares).1 h
  refine ⟨polyZ C.q (secret :: coeffs), ?_, ?_, ?_, ?_⟩
  · have := polyZ_natDegree_le (q := C.q) (secret :: coeffs)
    simpa [hlen] using this
  · rw [polyZ_coeff, List.getD_cons_zero]
  · intro i; rw [polyZ_coeff, List.getD_cons_succ]
  · intro sh hsh
    rw [hshares] at hsh
    obtain ⟨id, _, rfl⟩ := List.mem_map.1 hsh
    exact ⟨rfl, evalPoly_eval secret coeffs id⟩

/-! ## Non-vacuity: a 2-of-3 sharing over the proved-lawful toy curves of order 23

`f = 5 + 7X`, ids `1, 2, 3`, shares `12, 19, 3`. `zmodCurve` has an affine identity (like edwards25519),
`zmodCurveW` has none (like secp256k1). -/
section examples

instance fact23 : Fact (Nat.Prime 23) := ⟨by decide⟩

abbrev E := zmodCurve 23
abbrev W := zmodCurveW 23

example : E.Lawful := zmodCurve_lawful 23
example : W.Lawful := zmodCurveW_lawful 23

theorem dealE : create E 1 5 [1, 2, 3] [7] =
    .ok ([(5, 0), (7, 0)], [⟨1, 1, 12⟩, ⟨1, 2, 19⟩, ⟨1, 3, 3⟩]) := by decide

theorem dealW : create W 1 5 [1, 2, 3] [7] =
    .ok ([(5, 0), (7, 0)], [⟨1, 1, 12⟩, ⟨1, 2, 19⟩, ⟨1, 3, 3⟩]) := by decide

/-- the commitments are commitments, the first one is `5·G` -/
example : IsCommitment E [5, 7] [(5, 0), (7, 0)] :=
  (vss_first_commitment 1 5 [1, 2, 3] [7] rfl _ _ dealE).2.2.1

/-- share 2 verifies (through the theorem, hypotheses discharged) -/
example : verify E curVss 1 ⟨1, 2, 19⟩ [(5, 0), (7, 0)] = .ok true :=
  vss_share_verifies (zmodCurve_lawful 23) 1 5 [1, 2, 3] [7] rfl _ _ dealE _ (by decide) (by decide)
    (fun h => absurd h (zmodCurve_toAffine_zero 23))

example : verify W curVss 1 ⟨1, 2, 19⟩ [(5, 0), (7, 0)] = .ok true :=
  vss_share_verifies (zmodCurveW_lawful 23) 1 5 [1, 2, 3] [7] rfl _ _ dealW _ (by decide) (by decide)
    (fun _ => by decide)

/-- and the theorem agrees with running the model -/
example : verify W curVss 1 ⟨1, 2, 19⟩ [(5, 0), (7, 0)] = .ok true := by decide

/-- `vss_verify_iff` instantiated, both directions usable -/
example (s : Nat) (hs : s % 23 ≠ 0) :
    verify W curVss 1 ⟨1, 2, s⟩ [(5, 0), (7, 0)] = .ok true ↔ polyNat [5, 7] 2 ≡ s [MOD 23] :=
  vss_verify_iff (zmodCurveW_lawful 23) [5, 7] _
    (vss_first_commitment 1 5 [1, 2, 3] [7] rfl _ _ dealW).2.2.1 1 rfl 2 s (by decide) hs
    (fun _ => by decide)

/-- tampered share value -/
example : verify W curVss 1 ⟨1, 2, 20⟩ [(5, 0), (7, 0)] = .ok false :=
  vss_tamper_rejected (zmodCurveW_lawful 23) [5, 7] _
    (vss_first_commitment 1 5 [1, 2, 3] [7] rfl _ _ dealW).2.2.1 1 rfl 2 19 20 (by decide) (by decide)

/-- other id: the share of id 2 is accepted under at most `t = 1` id -/
example (ids' : List Nat) (hnd : (ids'.map (· % 23)).Nodup)
    (h : ∀ id' ∈ ids', verify W curVss 1 ⟨1, id', 19⟩ [(5, 0), (7, 0)] = .ok true) : ids'.length ≤ 1 :=
  vss_other_id_bound (zmodCurveW_lawful 23) [5, 7] _
    (vss_first_commitment 1 5 [1, 2, 3] [7] rfl _ _ dealW).2.2.1 1 rfl ⟨1, by decide, by decide⟩ 19
    ids' hnd h

/-- K2 before the repair: a zero share crashes the verifier on the curve without affine identity … -/
example : verify W ⟨false⟩ 1 ⟨1, 2, 23⟩ [(5, 0), (7, 0)] = .panic "scalar-base-mult-identity" :=
  vss_verify_unrepaired_panics (zmodCurveW_lawful 23) (zmodCurveW_toAffine_zero 23) 5 [7] _
    (vss_first_commitment 1 5 [1, 2, 3] [7] rfl _ _ dealW).2.2.1 1 rfl 2 23 (by decide) (by decide)
    (by decide)

/-- … (the model run agrees) and after the repair it is a clean rejection -/
example : verify W ⟨false⟩ 1 ⟨1, 2, 23⟩ [(5, 0), (7, 0)] = .panic "scalar-base-mult-identity" := by
  decide
example : verify W curVss 1 ⟨1, 2, 23⟩ [(5, 0), (7, 0)] = .ok false :=
  vss_zero_share_rejected 1 _ _ (by decide)

/-- the proviso of `vss_verify_iff` is needed: for `f = 5 + 6X + 3X²` at id 3 the partial sum
`5 + 6·3 = 23 ≡ 0`, so on `W` the correct share `f(3) = 50 ≡ 4` is rejected, while `E` accepts it. -/
example : polyNat [5, 6, 3] 3 ≡ 4 [MOD 23] := by decide
example : ¬ PartialSumsNonzero 23 [5, 6, 3] 3 := by decide
example : verify W curVss 2 ⟨2, 3, 4⟩ [(5, 0), (6, 0), (3, 0)] = .ok false := by decide
example : verify E curVss 2 ⟨2, 3, 4⟩ [(5, 0), (6, 0), (3, 0)] = .ok true := by decide

/-- any two of the three shares give back the secret -/
example : reconstruct 23 [⟨1, 1, 12⟩, ⟨1, 3, 3⟩] = .ok 5 :=
  vss_reconstruct_dealt (C := E) fact23.out 1 5 [1, 2, 3] [7] rfl _ _ dealE _
    (by decide) (by decide)

/-- one share (`= t`) is not refused and gives a wrong value -/
example : ∃ r, reconstruct 23 [⟨1, 2, 19⟩] = .ok r ∧ r ≠ 5 :=
  vss_t_shares_wrong (C := E) fact23.out 1 5 [1, 2, 3] [7] rfl (by decide) _ _ dealE _
    (by decide) rfl

/-- privacy: one point `(2, 19)` is compatible with every secret -/
example (secret : Nat) : ∃ coeffs : List Nat, coeffs.length = 1 ∧
    ∀ p ∈ [((2 : Nat), (19 : Nat))], evalPoly 23 (secret :: coeffs) p.1 ≡ p.2 [MOD 23] :=
  vss_privacy fact23.out 1 _ (by decide) (by decide) (by decide) secret

/-- refusal: id 23 ≡ 0, ids 1 and 24 congruent -/
example : ∃ e, create E 1 5 [1, 23] [7] = .err e :=
  (vss_create_refuses_iff 1 5 [1, 23] [7]).2 (Or.inr (Or.inl ⟨23, by decide, by decide⟩))
example : ∃ e, create E 1 5 [1, 2, 24] [7] = .err e :=
  (vss_create_refuses_iff 1 5 [1, 2, 24] [7]).2
    (Or.inr (Or.inr (Or.inl ⟨0, 2, by decide, by decide, by decide⟩)))
/-- crash: coefficient 46 ≡ 0 on the curve without affine identity -/
example : ∃ e, create W 1 5 [1, 2, 3] [46] = .panic e :=
  (vss_create_panics_iff (zmodCurveW_lawful 23) 1 5 [1, 2, 3] [46]).2
    ⟨by decide, zmodCurveW_toAffine_zero 23, 46, by decide, by decide⟩

end examples

end TssVerif.C15
