import TssVerif.Lemmas.C10Schnorr
import TssVerif.Lemmas.C10Dln
import TssVerif.Lemmas.C10Range
import TssVerif.Lemmas.C10PaillierKey
import TssVerif.Lemmas.C10Fac
import TssVerif.Lemmas.C10Bob
import TssVerif.Lemmas.C10Wire
import TssVerif.Lemmas.C10Mod
import Mathlib.Tactic.NormNum.Prime
/-! # C10 — completeness of the zero-knowledge proof systems

"For each proof system in the library a proof produced by the prover for a true statement with valid
parameters is accepted by the verifier under the same session, and is still accepted after being serialised
to its wire parts and parsed back."

The definitions of the `…Good` predicates are in `TssVerif/Lemmas/C10*.lean`, together with those completeness proofs
that are used a second time (by the toy runs there, or by `C11`). `range_complete`, `paillierKey_complete` and the
wire round trips are used only here and are proved in place.

Shape of every `X_complete`: for EVERY hash `H`, session, witness, valid parameter set and coin vector
satisfying the explicit decidable predicate `X.GoodCoins`,

  `(X.prove … coins >>= fun pf => X.verify cur … pf) = .ok true`

(the prover's result is an `Outcome`; the equation says it is `.ok pf` and the verifier, run in the
configuration `Zk.cur` of the current tree on exactly that `pf` and the same session, returns `.ok true`).
`X.GoodCoins` collects the guards of the verifier (and the crash sites of the prover) that do not follow from the
statement being true. (That each fails only for a negligible fraction of coins / hash outputs is not proved here.)
Every other guard is derived. The hash enters only through the challenge, which prover and verifier compute from the same data.

After encoding: the Go `…FromBytes` constructors accept a part list iff `common.NonEmptyMultiBytes` holds and
decode each part with `SetBytes`, i.e. they return the ABSOLUTE values: `wire_roundtrip_general`. So a proof
survives the wire iff no part is zero and no part is negative (`wire_roundtrip`, `wire_drops_sign`,
`wire_roundtrip_pos`); `X_complete_wire` combine this with `X_complete` for the proofs with integer fields. -/
set_option autoImplicit false
namespace TssVerif.C10
open TssVerif Zk TssVerif.C10L

variable {P : Type} {C : Curve P}

/-! ## 1. Schnorr (`schnorr.ZKProof`, `schnorr.ZKVProof`) -/

/-- side conditions on the coin `a` of `NewZKProof`, with `α = a·G`, `c = H(…, X, G, α) mod q`:
* on a curve whose identity has no affine form (secp256k1): `a ≢ 0 (mod q)` (`ScalarBaseMult(0)` crashes);
* `c ≠ 0` and `t = a + c·x mod q ≠ 0` (the verifier's guards under `Cfg.schnorrGuards`). -/
abbrev Schnorr.GoodCoins (C : Curve P) (H : HashFn) (sess : Bytes) (x : Int) (X : ECPoint) (a : Nat) : Prop :=
  SchnorrGood C H sess x X a

example (C : Curve P) (H : HashFn) (sess : Bytes) (x : Int) (X : ECPoint) (a : Nat) :
    Schnorr.GoodCoins C H sess x X a ↔
      ((C.toAffine C.zero = none → a % C.q ≠ 0) ∧
       schnorrChallenge C H sess X ((C.toAffine (C.smul a C.base)).getD (0, 0)) ≠ 0 ∧
       ((a : Int) + (schnorrChallenge C H sess X ((C.toAffine (C.smul a C.base)).getD (0, 0)) : Int) * x)
          % (C.q : Int) ≠ 0) := Iff.rfl

/-- **Schnorr completeness**, for every lawful curve, hash, session, witness `x : ℤ` (used modulo `q`) with
`X = x·G`, and good coin `a`. The algebra: `t·G = a·G + c·(x·G)`. -/
theorem schnorr_complete (hC : C.Lawful) (H : HashFn) (sess : Bytes) (x : Int) (X : ECPoint) (a : Nat)
    (hX : C.toAffine (C.smul (x % (C.q : Int)).toNat C.base) = some X)
    (hg : Schnorr.GoodCoins C H sess x X a) :
    (schnorrProve C H sess x X a >>= fun pf => schnorrVerify C H cur sess X pf.1 pf.2) = .ok true :=
  schnorr_complete_aux hC H sess x X a hX hg

/-- … and the side conditions are exactly right: on a true statement the honest run is accepted IFF the coin
is good -/
theorem schnorr_complete_iff (hC : C.Lawful) (H : HashFn) (sess : Bytes) (x : Int) (X : ECPoint) (a : Nat)
    (hX : C.toAffine (C.smul (x % (C.q : Int)).toNat C.base) = some X) :
    (schnorrProve C H sess x X a >>= fun pf => schnorrVerify C H cur sess X pf.1 pf.2) = .ok true ↔
      Schnorr.GoodCoins C H sess x X a :=
  ⟨schnorr_good_of_accept hC H sess x X a hX, schnorr_complete hC H sess x X a hX⟩

/-- the same for a natural witness given without reduction -/
theorem schnorr_complete_nat (hC : C.Lawful) (H : HashFn) (sess : Bytes) (x : Nat) (X : ECPoint) (a : Nat)
    (hX : C.toAffine (C.smul x C.base) = some X)
    (hg : Schnorr.GoodCoins C H sess x X a) :
    (schnorrProve C H sess x X a >>= fun pf => schnorrVerify C H cur sess X pf.1 pf.2) = .ok true := by
  apply schnorr_complete hC H sess x X a _ hg
  rw [← Int.natCast_mod, Int.toNat_natCast, ← hC.smul_base_mod]; exact hX

/-- side conditions on the coins `a, b` of `NewZKVProof` (`pR` is the internal form of the point `R`), with
`A = a·R + b·G`, `c` the challenge, `t = a + c·s mod q`, `u = b + c·l mod q`:
* `c ≠ 0`, `t ≠ 0`, `u ≠ 0` (the verifier's guards under `Cfg.schnorrGuards`);
* on a curve whose identity has no affine form: `a, b ≢ 0 (mod q)`, and neither `A` nor `t·R + u·G` is the
  identity (`ScalarMult` / `Add` would crash resp. fail). -/
abbrev SchnorrV.GoodCoins (C : Curve P) (H : HashFn) (sess : Bytes) (V R : ECPoint) (pR : P) (s l : Int)
    (a b : Nat) : Prop :=
  SchnorrVGood C H sess V R pR s l a b

example (C : Curve P) (H : HashFn) (sess : Bytes) (V R : ECPoint) (pR : P) (s l : Int) (a b : Nat) :
    SchnorrV.GoodCoins C H sess V R pR s l a b ↔
      (let c := schnorrVChallenge C H sess V R
          ((C.toAffine (C.add (C.smul a pR) (C.smul b C.base))).getD (0, 0))
       let t := (((a : Int) + (c : Int) * s) % (C.q : Int)).toNat
       let u := (((b : Int) + (c : Int) * l) % (C.q : Int)).toNat
       c ≠ 0 ∧ t ≠ 0 ∧ u ≠ 0 ∧
       (C.toAffine C.zero = none → a % C.q ≠ 0 ∧ b % C.q ≠ 0 ∧
         C.toAffine (C.add (C.smul a pR) (C.smul b C.base)) ≠ none ∧
         C.toAffine (C.add (C.smul t pR) (C.smul u C.base)) ≠ none)) := Iff.rfl

/-- **Schnorr-V completeness**: `V = s·R + l·G` for a point `R` of the curve killed by `q` (automatic on a
cofactor-1 curve; on edwards25519 it says that `R` lies in the prime-order subgroup). -/
theorem schnorrV_complete (hC : C.Lawful) (H : HashFn) (sess : Bytes) (V R : ECPoint) (pR : P)
    (s l : Int) (a b : Nat)
    (hR : C.lift R = some pR) (hRq : C.smul C.q pR = C.zero)
    (hV : C.toAffine (C.add (C.smul (s % (C.q : Int)).toNat pR) (C.smul (l % (C.q : Int)).toNat C.base)) = some V)
    (hg : SchnorrV.GoodCoins C H sess V R pR s l a b) :
    (schnorrVProve C H sess V R s l a b >>= fun pf => schnorrVVerify C H cur sess V R pf.1 pf.2.1 pf.2.2)
      = .ok true :=
  schnorrV_complete_aux hC H sess V R pR s l a b hR hRq hV hg

theorem schnorrV_complete_iff (hC : C.Lawful) (H : HashFn) (sess : Bytes) (V R : ECPoint) (pR : P)
    (s l : Int) (a b : Nat)
    (hR : C.lift R = some pR) (hRq : C.smul C.q pR = C.zero)
    (hV : C.toAffine (C.add (C.smul (s % (C.q : Int)).toNat pR) (C.smul (l % (C.q : Int)).toNat C.base)) = some V) :
    (schnorrVProve C H sess V R s l a b >>= fun pf => schnorrVVerify C H cur sess V R pf.1 pf.2.1 pf.2.2)
      = .ok true ↔ SchnorrV.GoodCoins C H sess V R pR s l a b :=
  ⟨schnorrV_good_of_accept hC H sess V R pR s l a b hR hRq hV,
   schnorrV_complete hC H sess V R pR s l a b hR hRq hV⟩

/-! ## 2. discrete-log proof over a safe-prime product (`dlnproof`) -/

/-- side conditions of `dlnproof.NewDLNProof` with coins `as`: the verifier's checks `1 < v mod n` on `h1`,
`h2`, every `α_i = h1^{a_i} mod n` and every `t_i = a_i + c_i·x mod pq`, and `h1 ≢ h2 (mod n)`. -/
abbrev Dln.GoodCoins (H : HashFn) (h1 h2 x p q n : Nat) (as : List Nat) : Prop := DlnGood H h1 h2 x p q n as

example (H : HashFn) (h1 h2 x p q n : Nat) (as : List Nat) :
    Dln.GoodCoins H h1 h2 x p q n as ↔
      (1 < h1 % n ∧ 1 < h2 % n ∧ h1 % n ≠ h2 % n ∧
       (∀ al ∈ as.map (fun a => h1 ^ a % n), 1 < al % n) ∧
       (∀ t ∈ dlnTs H h1 h2 x p q n as, 1 < t % n)) := Iff.rfl

/-- **DLN completeness**: `h2 = h1^x mod n`, the order of `h1` divides `p·q`, at least `Iterations` coins
(the verifier reads exactly 128 entries; no bound on the coins is needed).
Key fact: `h1^{(a + c·x mod pq) mod pq} ≡ h1^a · h2^c (mod n)`. -/
theorem dln_complete (H : HashFn) (h1 h2 x p q n : Nat) (as : List Nat)
    (hn : 0 < n) (hlen : dlnIterations ≤ as.length)
    (hh2 : h2 = h1 ^ x % n) (hord : h1 ^ (p * q) ≡ 1 [MOD n])
    (hg : Dln.GoodCoins H h1 h2 x p q n as) :
    (dlnProve H h1 h2 x p q n as >>= fun pf =>
      dlnVerify H (pf.1.map Int.ofNat) (pf.2.map Int.ofNat) h1 h2 n) = .ok true :=
  dln_complete_aux H h1 h2 x p q n as hn hlen hh2 hord hg

theorem dln_complete_iff (H : HashFn) (h1 h2 x p q n : Nat) (as : List Nat)
    (hn : 0 < n) (hlen : dlnIterations ≤ as.length)
    (hh2 : h2 = h1 ^ x % n) (hord : h1 ^ (p * q) ≡ 1 [MOD n]) :
    (dlnProve H h1 h2 x p q n as >>= fun pf =>
      dlnVerify H (pf.1.map Int.ofNat) (pf.2.map Int.ofNat) h1 h2 n) = .ok true ↔
      Dln.GoodCoins H h1 h2 x p q n as :=
  ⟨dln_good_of_accept H h1 h2 x p q n as, dln_complete H h1 h2 x p q n as hn hlen hh2 hord⟩

/-! ## 3. Alice's range proof (`mta.RangeProofAlice`) -/

/-- side conditions on the coins `alpha, beta, gamma, rho` of `ProveRangeAlice`, with `e` the challenge,
`s1 = e·m + alpha`, `s2 = e·rho + gamma`, `s = r^e·beta mod n`, `z = h1^m h2^rho mod ntilde`:
`gcd(beta, n) = 1` (sampled so in Go; gives the verifier's unit check on `u`), `q ≤ s1 ≤ q³`, `q ≤ s2`,
`s ≠ 1`, `z ≠ 1`, `s1 ≠ s2`. -/
abbrev Range.GoodCoins (H : HashFn) (q n c nt h1 h2 m r alpha beta gamma rho : Nat) : Prop :=
  RangeGood H q n c nt h1 h2 m r alpha beta gamma rho

example (H : HashFn) (q n c nt h1 h2 m r alpha beta gamma rho : Nat) :
    Range.GoodCoins H q n c nt h1 h2 m r alpha beta gamma rho ↔
      (let e := rangeE H q n c nt h1 h2 m alpha beta gamma rho
       Nat.gcd beta n = 1 ∧ q ≤ e * m + alpha ∧ q ≤ e * rho + gamma ∧
       r ^ e % n * beta % n ≠ 1 ∧ h1 ^ m % nt * (h2 ^ rho % nt) % nt ≠ 1 ∧
       e * m + alpha ≠ e * rho + gamma ∧ e * m + alpha ≤ q * q * q) := Iff.rfl

/-- **range-proof completeness**: `c ≡ (n+1)^m r^n (mod n²)` (any representative; in particular
`c = Enc(m; r)`), `r` a unit mod `n`, `h1, h2` units mod `ntilde`. Derived (not assumed): all interval checks,
the unit checks on `z, u, w` and on the ciphertext `c`, and both verification equations
`(n+1)^{s1} s^n c^{-e} ≡ u (mod n²)`, `h1^{s1} h2^{s2} z^{-e} ≡ w (mod ntilde)` through Go's negative-exponent
`Exp` (modular inverse of `c` resp. `z`). -/
theorem range_complete (H : HashFn) (q n c nt h1 h2 m r alpha beta gamma rho : Nat)
    (hn : 0 < n) (hnt : 0 < nt) (hr : Nat.Coprime r n)
    (hh1 : Nat.Coprime h1 nt) (hh2 : Nat.Coprime h2 nt)
    (hc : c ≡ (n + 1) ^ m * r ^ n [MOD n * n])
    (hg : Range.GoodCoins H q n c nt h1 h2 m r alpha beta gamma rho) :
    (rangeProve H q n c nt h1 h2 m r alpha beta gamma rho >>= fun pf =>
      rangeVerify cur H q n nt h1 h2 c pf) = .ok true := by
  obtain ⟨gb, g1, g2, g3, g4, g5, g6⟩ := hg
  rw [rangeProve_eq]
  set e := rangeE H q n c nt h1 h2 m alpha beta gamma rho with he
  show rangeVerify cur H q n nt h1 h2 c ⟨_, _, _, _, ((e * m + alpha : Nat) : Int), ((e * rho + gamma : Nat) : Int)⟩ = .ok true
  have hn2 : 0 < n * n := Nat.mul_pos hn hn
  have hsucc : Nat.Coprime (n + 1) (n * n) := coprime_sq (PaillierL.coprime_succ_self n)
  have hbeta : Nat.Coprime beta (n * n) := coprime_sq gb
  have hrr : Nat.Coprime r (n * n) := coprime_sq hr
  apply rangeVerify_eq_true H q n nt h1 h2 c _ _ _ _ _ _ hn hnt
    (Nat.mod_lt _ hnt) (Nat.mod_lt _ hn2) (Nat.mod_lt _ hnt) (Nat.mod_lt _ hn)
    (coprime_mul_pow_mod _ _ hh1 hh2) (coprime_mul_pow_mod _ _ hsucc hbeta) (coprime_mul_pow_mod _ _ hh1 hh2)
    g1 g2 g3 g4 g5 g6
  · -- the ciphertext is a unit
    have : Nat.Coprime ((n + 1) ^ m * r ^ n) (n * n) :=
      Nat.Coprime.mul_left (hsucc.pow_left m) (hrr.pow_left n)
    unfold Nat.Coprime
    rw [hc.gcd_eq]; exact this
  · -- (n+1)^{s1} s^n ≡ u c^e (mod n²)
    show (n + 1) ^ (e * m + alpha) * rangeS H q n c nt h1 h2 m r alpha beta gamma rho ^ n ≡
      rangeU n alpha beta * c ^ e [MOD n * n]
    have hs : rangeS H q n c nt h1 h2 m r alpha beta gamma rho ≡ r ^ e * beta [MOD n] := by
      unfold rangeS
      rw [← he]
      exact (Nat.mod_modEq _ _).trans ((Nat.mod_modEq _ _).mul_right _)
    have hu : rangeU n alpha beta ≡ (n + 1) ^ alpha * beta ^ n [MOD n * n] := mod_mul_mod_modEq _ _ _
    -- the equation of Bob's proof with the trivial ciphertext `c1 = 1`
    have := paillier_response_modEq (c1 := 1) (x := 0) (al := 0) e (by simpa using hc) (by simpa using hu) hs
    simp only [one_pow, one_mul] at this
    rw [Nat.mul_comm (rangeU n alpha beta), Nat.mul_comm ((n + 1) ^ (e * m + alpha))]
    exact this
  · -- h1^{s1} h2^{s2} ≡ w z^e (mod ntilde)
    show h1 ^ (e * m + alpha) * h2 ^ (e * rho + gamma) ≡
      rangeW nt h1 h2 alpha gamma * rangeZ nt h1 h2 m rho ^ e [MOD nt]
    rw [Nat.mul_comm (rangeW nt h1 h2 alpha gamma)]
    exact ped_response_modEq e (mod_mul_mod_modEq _ _ _) (mod_mul_mod_modEq _ _ _)

theorem range_complete_iff (H : HashFn) (q n c nt h1 h2 m r alpha beta gamma rho : Nat)
    (hn : 0 < n) (hnt : 0 < nt) (hr : Nat.Coprime r n)
    (hh1 : Nat.Coprime h1 nt) (hh2 : Nat.Coprime h2 nt)
    (hc : c ≡ (n + 1) ^ m * r ^ n [MOD n * n]) :
    (rangeProve H q n c nt h1 h2 m r alpha beta gamma rho >>= fun pf =>
      rangeVerify cur H q n nt h1 h2 c pf) = .ok true ↔
      Range.GoodCoins H q n c nt h1 h2 m r alpha beta gamma rho :=
  ⟨range_good_of_accept H q n c nt h1 h2 m r alpha beta gamma rho hn,
   range_complete H q n c nt h1 h2 m r alpha beta gamma rho hn hnt hr hh1 hh2 hc⟩

/-- the statement in terms of `EncryptAndReturnRandomness` -/
theorem range_complete_enc (H : HashFn) (q n c nt h1 h2 m r alpha beta gamma rho : Nat)
    (hnt : 0 < nt) (hr : Nat.Coprime r n)
    (hh1 : Nat.Coprime h1 nt) (hh2 : Nat.Coprime h2 nt)
    (hc : Paillier.encryptWith n (m : Int) r = .ok c)
    (hg : Range.GoodCoins H q n c nt h1 h2 m r alpha beta gamma rho) :
    (rangeProve H q n c nt h1 h2 m r alpha beta gamma rho >>= fun pf =>
      rangeVerify cur H q n nt h1 h2 c pf) = .ok true := by
  obtain ⟨_, hm, rfl⟩ := PaillierL.encryptWith_ok_iff.1 hc
  rw [Int.toNat_natCast] at hg ⊢
  exact range_complete H q n _ nt h1 h2 m r alpha beta gamma rho (by omega) hnt hr hh1 hh2
    (PaillierL.encNat_modEq n m r) hg

/-! ## 4. Paillier key proof (`(*PrivateKey).Proof`, `Proof.Verify`) -/

/-- **Paillier key-proof completeness** (no coins): `n = P·Q` with distinct primes, `gcd(n, φ) = 1`, no prime
below 1000 divides `n`, and `GenerateXs` finds its 13 challenges (the same deterministic call on both sides;
it gives up only after 1000 rejected candidates). `(x^{n⁻¹ mod φ})^n ≡ x (mod n)` for the units `x`. Holds for
either value of the `ProofCfg` switch. -/
theorem paillierKey_complete (cfg : Paillier.ProofCfg) (H : HashFn) (sk : Paillier.PrivateKey) (k : Int)
    (pub : ECPoint) (P Q : Nat) (hP : P.Prime) (hQ : Q.Prime) (hne : P ≠ Q)
    (hn : sk.n = P * Q) (hphi : sk.phiN = (P - 1) * (Q - 1))
    (hcop : Nat.Coprime (P * Q) ((P - 1) * (Q - 1)))
    (hsmall : ∀ p : Nat, p.Prime → p < 1000 → ¬ p ∣ P * Q)
    (hxs : (Paillier.generateXs H Paillier.proofIters k (sk.n : Int) pub).isSome) :
    (Paillier.proof H sk k pub >>= fun pf =>
      Paillier.proofVerify cfg H (pf.map Int.ofNat) (sk.n : Int) k pub) = .ok true := by
  obtain ⟨xs, hxs⟩ := Option.isSome_iff_exists.1 hxs
  have hxs0 := hxs
  rw [hn] at hxs
  obtain ⟨hlen, hgrp⟩ := generateXs_spec hxs
  have hP1 : 0 < P - 1 := by have := hP.two_le; omega
  have hQ1 : 0 < Q - 1 := by have := hQ.two_le; omega
  have hphi0 : (P - 1) * (Q - 1) ≠ 0 := Nat.mul_ne_zero (by omega) (by omega)
  have hnpos : 0 < P * Q := Nat.mul_pos hP.pos hQ.pos
  have hg : Int.gcd ((P * Q : Nat) : Int) (((P - 1) * (Q - 1) : Nat) : Int) = 1 := by
    rw [Int.gcd_natCast_natCast]; exact hcop
  obtain ⟨mInv, hinv, hspec, _⟩ := modInverse_exists hphi0 hg
  have hspec' : (P * Q) * mInv % ((P - 1) * (Q - 1)) = 1 % ((P - 1) * (Q - 1)) := by exact_mod_cast hspec
  have htot := PaillierL.totient_mul_primes hP hQ hne
  have hprove : Paillier.proof H sk k pub = .ok (xs.map fun x => modPow x mInv (P * Q)) := by
    unfold Paillier.proof
    rw [hxs0, hn, hphi]
    simp only [hinv]
  rw [hprove, Outcome.ok_bind]
  rw [hn]
  refine (proofVerify_eq_true_iff cfg H _ _ k pub).2 ⟨smallPrimes_any_false hsmall, xs, hxs,
    by rw [List.length_map, List.length_map, hlen], fun i hi => ?_⟩
  have hi' : i < xs.length := by rw [hlen]; exact hi
  have hx := (inGroup_iff.1 (hgrp xs[i] (List.getElem_mem hi')))
  obtain ⟨_, hxlt, _, hxc⟩ := hx
  have e1 : xs.getD i 0 = xs[i] := getD_of_lt xs i 0 hi'
  have e2 : (List.map Int.ofNat (List.map (fun x => modPow x mInv (P * Q)) xs)).getD i 0 =
      ((xs[i] ^ mInv % (P * Q) : Nat) : Int) := by
    rw [getD_of_lt _ _ _ (by simpa using hi')]
    simp [modPow_spec]
  rw [e1, e2, Int.natAbs_natCast, goExp_of_nonneg _ (by omega) (Int.natCast_nonneg _), emod_natCast_toNat,
    Int.toNat_natCast]
  have hroot : (xs[i] ^ mInv % (P * Q) % (P * Q)) ^ (P * Q) ≡ xs[i] [MOD P * Q] :=
    (((Nat.mod_modEq _ _).trans (Nat.mod_modEq _ _)).pow _).trans
      (pow_inv_pow_modEq (htot ▸ Nat.ModEq.pow_totient hxc) hspec')
  exact ⟨_, rfl, by rw [hroot, ← Int.natCast_mod]⟩

/-- `hsmall` for primes `≥ 1000` -/
theorem no_small_factor {P Q : Nat} (hP : P.Prime) (hQ : Q.Prime) (h1 : 1000 ≤ P) (h2 : 1000 ≤ Q) :
    ∀ p : Nat, p.Prime → p < 1000 → ¬ p ∣ P * Q := by
  intro p hp hlt hd
  rcases (Nat.Prime.dvd_mul hp).1 hd with h | h
  · have := (Nat.prime_dvd_prime_iff_eq hp hP).1 h; omega
  · have := (Nat.prime_dvd_prime_iff_eq hp hQ).1 h; omega

/-! ## 5. no-small-factor proof (`facproof`) and Bob's proofs (`mta.ProofBob`, `mta.ProofBobWC`) -/

/-- side conditions on the coins of `facproof.NewProof`, with `e` the challenge: the two interval checks
`z1 = e·p + alpha < q³·⌊√N0⌋` and `z2 = e·q + beta < q³·⌊√N0⌋`. (Nothing on the sign of `v`.) -/
abbrev Fac.GoodCoins (H : HashFn) (q : Nat) (sess : Bytes) (n0 ncap s t n0p n0q : Nat) (k : FacCoins) : Prop :=
  FacGood H q sess n0 ncap s t n0p n0q k

example (H : HashFn) (q : Nat) (sess : Bytes) (n0 ncap s t n0p n0q : Nat) (k : FacCoins) :
    Fac.GoodCoins H q sess n0 ncap s t n0p n0q k ↔
      (facE H q sess n0 ncap s t n0p n0q k * n0p + k.alpha < q * q * q * isqrt n0 ∧
       facE H q sess n0 ncap s t n0p n0q k * n0q + k.beta < q * q * q * isqrt n0) := Iff.rfl

/-- **`facproof` completeness**: `N0 = p·q > 0`, `NCap > 0`, `t` a unit modulo `NCap` (needed: the prover's
`v = e(σ − ν p) + r` can be negative and `t^v` then goes through `ModInverse(t, NCap)`; both signs are covered). -/
theorem fac_complete (H : HashFn) (q : Nat) (sess : Bytes) (n0 ncap s t n0p n0q : Nat) (k : FacCoins)
    (hn0 : n0 = n0p * n0q) (hn0pos : 0 < n0) (hncap : 0 < ncap) (ht : Nat.Coprime t ncap)
    (hg : Fac.GoodCoins H q sess n0 ncap s t n0p n0q k) :
    (facProve H q sess n0 ncap s t n0p n0q k >>= fun pf => facVerify cur H q sess n0 ncap s t pf) = .ok true :=
  fac_complete_aux H q sess n0 ncap s t n0p n0q k hn0 hn0pos hncap ht hg

theorem fac_complete_iff (H : HashFn) (q : Nat) (sess : Bytes) (n0 ncap s t n0p n0q : Nat) (k : FacCoins)
    (hn0 : n0 = n0p * n0q) (hn0pos : 0 < n0) (hncap : 0 < ncap) (ht : Nat.Coprime t ncap) :
    (facProve H q sess n0 ncap s t n0p n0q k >>= fun pf => facVerify cur H q sess n0 ncap s t pf) = .ok true ↔
      Fac.GoodCoins H q sess n0 ncap s t n0p n0q k :=
  ⟨fac_good_of_accept H q sess n0 ncap s t n0p n0q k,
   fac_complete H q sess n0 ncap s t n0p n0q k hn0 hn0pos hncap ht⟩

/-- side conditions on Bob's coins (both variants), with `q = C.q`, `e` the challenge, `s1 = e·x + alpha`,
`s2 = e·rho + rhoPrm`, `t1 = e·y + gamma`, `t2 = e·sigma + tau`: `gcd(beta, n) = 1`, `q ≤ s1, s2, t1, t2`,
`s1 ≤ q³`, `t1 ≤ q⁷`; with check (`X = some _`) additionally `e ≠ 0`, `s1 ≢ 0 (mod q)` (`Cfg.bobWCGuards`) and, on a
curve whose identity has no affine form, `alpha ≢ 0 (mod q)`. -/
abbrev Bob.GoodCoins (C : Curve P) (H : HashFn) (sess : Bytes) (n ntilde h1 h2 c1 c2 x y r : Nat)
    (X : Option ECPoint) (k : BobCoins) : Prop :=
  BobGood C H sess n ntilde h1 h2 c1 c2 x y r X k

example (C : Curve P) (H : HashFn) (sess : Bytes) (n ntilde h1 h2 c1 c2 x y r : Nat) (X : Option ECPoint)
    (k : BobCoins) :
    Bob.GoodCoins C H sess n ntilde h1 h2 c1 c2 x y r X k ↔
      (let q := C.q
       let e := bobE C H sess n ntilde h1 h2 c1 c2 x y X k
       Nat.gcd k.beta n = 1 ∧
       q ≤ e * x + k.alpha ∧ q ≤ e * k.rho + k.rhoPrm ∧ q ≤ e * y + k.gamma ∧ q ≤ e * k.sigma + k.tau ∧
       e * x + k.alpha ≤ q ^ 3 ∧ e * y + k.gamma ≤ q ^ 7 ∧
       (X.isSome = true →
         e ≠ 0 ∧ (e * x + k.alpha) % q ≠ 0 ∧ (C.toAffine C.zero = none → k.alpha % q ≠ 0))) := Iff.rfl

/-- the pair `(X, U)` handed to `(*ProofBobWC).Verify`: the statement's `X` and the prover's `U`; `none` for
`(*ProofBob).Verify` -/
example (X u : Option ECPoint) : bobXU X u = (match X, u with
    | some Xp, some U => some (Xp, U)
    | _, _ => none) := rfl

/-- **completeness of Bob's proof, both variants** (`X = none`: `ProveBob`; `X = some Xp` with `Xp = x·G`:
`ProveBobWC`, the verifier receives `(Xp, U)` with the prover's `U`). `c2 ≡ c1^x (n+1)^y r^n (mod n²)`, i.e.
`c2 = x ⊙ c1 ⊕ Enc(y; r)`; `c1`, `r` units mod `n`; `h1, h2` units mod `ntilde`; `1 < n` (for `n = 1` the
verifier rejects `s = 0`). -/
theorem bob_complete (hC : C.Lawful) (H : HashFn) (sess : Bytes) (n ntilde h1 h2 c1 c2 x y r : Nat)
    (X : Option ECPoint) (k : BobCoins)
    (hn : 1 < n) (hnt : 0 < ntilde)
    (hh1 : Nat.Coprime h1 ntilde) (hh2 : Nat.Coprime h2 ntilde)
    (hc1 : Nat.Coprime c1 n) (hr : Nat.Coprime r n)
    (hc2 : c2 ≡ c1 ^ x * (n + 1) ^ y * r ^ n [MOD n * n])
    (hX : ∀ Xp, X = some Xp → C.toAffine (C.smul x C.base) = some Xp)
    (hg : Bob.GoodCoins C H sess n ntilde h1 h2 c1 c2 x y r X k) :
    (bobProve C H sess n ntilde h1 h2 c1 c2 x y r X k >>= fun pu =>
      bobVerify C H cur sess n ntilde h1 h2 c1 c2 pu.1 (bobXU X pu.2)) = .ok true :=
  bob_complete_aux hC H sess n ntilde h1 h2 c1 c2 x y r X k hn hnt hh1 hh2 hc1 hr hc2 hX hg

/-- … IFF the coins are good (the converse needs no hypothesis besides lawfulness of the curve) -/
theorem bob_complete_iff (hC : C.Lawful) (H : HashFn) (sess : Bytes) (n ntilde h1 h2 c1 c2 x y r : Nat)
    (X : Option ECPoint) (k : BobCoins)
    (hn : 1 < n) (hnt : 0 < ntilde)
    (hh1 : Nat.Coprime h1 ntilde) (hh2 : Nat.Coprime h2 ntilde)
    (hc1 : Nat.Coprime c1 n) (hr : Nat.Coprime r n)
    (hc2 : c2 ≡ c1 ^ x * (n + 1) ^ y * r ^ n [MOD n * n])
    (hX : ∀ Xp, X = some Xp → C.toAffine (C.smul x C.base) = some Xp) :
    (bobProve C H sess n ntilde h1 h2 c1 c2 x y r X k >>= fun pu =>
      bobVerify C H cur sess n ntilde h1 h2 c1 c2 pu.1 (bobXU X pu.2)) = .ok true ↔
      Bob.GoodCoins C H sess n ntilde h1 h2 c1 c2 x y r X k :=
  bob_accept_iff hC H sess n ntilde h1 h2 c1 c2 x y r X k hn hnt hh1 hh2 hc1 hr hc2 hX

/-! ## 6. Paillier-Blum modulus proof (`modproof`) -/

/-- `modproof` has no prover coins besides the non-residue `w`; the side condition is on the HASH OUTPUTS: the
challenge chain `Y_1 … Y_80` (`Y_i = H(session; w, n, Y_1 … Y_{i-1}) mod n`) consists of units modulo `n`.
(A zero challenge makes `z_i = 0` fail the verifier's `0 < z` check; for a non-unit challenge no candidate
`±Y`, `±wY` has Jacobi symbol 1 modulo both primes and the prover crashes on the nil `X[i]`.) -/
abbrev Mod.GoodCoins (H : HashFn) (sess : Bytes) (n w : Nat) : Prop := ModGood H sess n w

example (H : HashFn) (sess : Bytes) (n w : Nat) :
    Mod.GoodCoins H sess n w ↔
      (match modYs H sess (w : Int) (n : Int) modIterations [] with
       | .ok ys => ∀ y ∈ ys, Nat.Coprime y n
       | _ => False) := Iff.rfl

/-- the candidate the prover tries for index `j ∈ {0,1,2,3}`: `y, −y, w·y, −w·y (mod n)`, as `pickJ` computes it -/
example (n w y j : Nat) : modCand n w y j =
    (let y1 := if j % 2 > 0 then ((-1 : Int) * (y : Int) % (n : Int)).toNat else y
     if j / 2 % 2 > 0 then w * y1 % n else y1) := rfl

/-- the number-theoretic fact about Blum integers, stated for the model's `goJacobi`: for every unit `y < n`,
(i) one of the four candidates has Jacobi symbol 1 modulo both `p` and `q`, and (ii) every candidate `c` that has
satisfies `(c^expo)^4 ≡ c (mod n)`, `expo = ((φ+4)/8)² mod φ`. It is PROVED below for Blum integers
(`fourthRootFact_of_blum`), so `mod_complete_partial` is superseded by `mod_complete`. -/
example (n p q w : Nat) : FourthRootFact n p q w ↔
    (∀ y, y < n → Nat.Coprime y n →
      (∃ j, j < 4 ∧ goJacobi (modCand n w y j : Nat) p = .ok 1 ∧ goJacobi (modCand n w y j : Nat) q = .ok 1) ∧
      (∀ j, j < 4 → goJacobi (modCand n w y j : Nat) p = .ok 1 → goJacobi (modCand n w y j : Nat) q = .ok 1 →
        (modCand n w y j ^ (((p - 1) * (q - 1) + 4) / 8 * (((p - 1) * (q - 1) + 4) / 8) % ((p - 1) * (q - 1)))) ^ 4
          ≡ modCand n w y j [MOD n])) := Iff.rfl

/-- **`modproof` completeness with `FourthRootFact` as a hypothesis**: `n = p·q`, distinct primes,
`gcd(n, φ) = 1`, `w < n` a unit whose Jacobi symbol (as the verifier computes it) is not 1, `n` recognised as
composite by the model's deterministic Miller–Rabin (NOT implied by `n = p·q`: strong pseudoprimes to the 12
fixed bases exist). -/
theorem mod_complete_partial (H : HashFn) (sess : Bytes) (n p q w : Nat)
    (hn : n = p * q) (hp : p.Prime) (hq : q.Prime) (hpq : p ≠ q)
    (hcop : Nat.Coprime n ((p - 1) * (q - 1)))
    (hwn : w < n) (hwc : Nat.Coprime w n)
    (hj : ∃ j, goJacobi (w : Int) n = .ok j ∧ j ≠ 1)
    (hcomp : isProbablyPrime n = false)
    (hroot : FourthRootFact n p q w)
    (hg : Mod.GoodCoins H sess n w) :
    (modProve H sess n p q w >>= fun pf =>
      modVerify cur H sess (pf.1 : Int) (pf.2.1.map Int.ofNat) (pf.2.2.1 : Int) (pf.2.2.2.1 : Int)
        (pf.2.2.2.2.map Int.ofNat) (n : Int)) = .ok true :=
  C10L.mod_complete_partial H sess n p q w hn hp hq hpq hcop hwn hwc hj hcomp hroot hg

/-- the model's binary Jacobi algorithm (with its fuel `4·log2 n + 8`) computes the Jacobi symbol -/
theorem goJacobi_correct (a : Int) {n : Nat} (hn : n % 2 = 1) : goJacobi a n = .ok (jacobiSym a n) :=
  goJacobi_eq_jacobiSym a hn

/-- **`FourthRootFact` proved** for Blum integers and `w` of Jacobi symbol −1 -/
theorem fourthRootFact_blum {n p q w : Nat} (hn : n = p * q) (hp : p.Prime) (hq : q.Prime) (hpq : p ≠ q)
    (hp4 : p % 4 = 3) (hq4 : q % 4 = 3) (hj : goJacobi (w : Int) n = .ok (-1)) :
    FourthRootFact n p q w :=
  (fourthRootFact_of_blum hn hp hq hpq hp4 hq4 hj).1

/-- **`modproof` completeness**, nothing assumed: `n = p·q` a Blum integer (`p ≡ q ≡ 3 (mod 4)`, distinct
primes) with `gcd(n, φ) = 1`, `w < n` with Jacobi symbol −1 (what `GetRandomQuadraticNonResidue` returns). -/
theorem mod_complete (H : HashFn) (sess : Bytes) (n p q w : Nat)
    (hn : n = p * q) (hp : p.Prime) (hq : q.Prime) (hpq : p ≠ q) (hp4 : p % 4 = 3) (hq4 : q % 4 = 3)
    (hcop : Nat.Coprime n ((p - 1) * (q - 1)))
    (hwn : w < n)
    (hj : goJacobi (w : Int) n = .ok (-1))
    (hcomp : isProbablyPrime n = false)
    (hg : Mod.GoodCoins H sess n w) :
    (modProve H sess n p q w >>= fun pf =>
      modVerify cur H sess (pf.1 : Int) (pf.2.1.map Int.ofNat) (pf.2.2.1 : Int) (pf.2.2.2.1 : Int)
        (pf.2.2.2.2.map Int.ofNat) (n : Int)) = .ok true :=
  C10L.mod_complete H sess n p q w hn hp hq hpq hp4 hq4 hcop hwn hj hcomp hg

/-! ## 7. the wire -/

/-- **the wire round trip, completely**: `Bytes()` of every part then `…FromBytes` succeeds iff the arity
matches, is non-zero and no part is zero — and it returns the absolute values. -/
theorem wire_roundtrip_general (parts : List Int) (n : Nat) :
    wireRoundTrip parts n =
      if parts.length = n ∧ n ≠ 0 ∧ ∀ p ∈ parts, p ≠ 0 then some (parts.map Int.natAbs) else none :=
  wireRoundTrip_eq parts n

/-- for non-negative parts the round trip is the identity iff arity and non-zero conditions hold -/
theorem wire_roundtrip (parts : List Int) (n : Nat) (h : ∀ p ∈ parts, 0 ≤ p) :
    wireRoundTrip parts n = some (parts.map Int.toNat) ↔ parts.length = n ∧ n ≠ 0 ∧ ∀ p ∈ parts, p ≠ 0 := by
  rw [wireRoundTrip_eq]
  split
  · next hc => rw [map_natAbs_eq_toNat h]; exact ⟨fun _ => hc, fun _ => rfl⟩
  · next hc => exact ⟨fun e => (by cases e), fun e => absurd e hc⟩

/-- the same for proofs whose components are naturals (Schnorr, Schnorr-V, `modproof`, Paillier key proof) -/
theorem wire_roundtrip_nat (l : List Nat) (n : Nat) :
    wireRoundTrip (l.map Int.ofNat) n = some l ↔ l.length = n ∧ n ≠ 0 ∧ ∀ x ∈ l, x ≠ 0 := by
  have e : (l.map Int.ofNat).map Int.natAbs = l := by
    rw [List.map_map]; exact (List.map_congr_left fun x _ => Int.natAbs_natCast x).trans (List.map_id l)
  rw [wireRoundTrip_eq, e, List.length_map]
  simp only [List.forall_mem_map, Int.ofNat_eq_natCast, ne_eq, Int.natCast_eq_zero]
  split_ifs with h
  · exact ⟨fun _ => h, fun _ => rfl⟩
  · exact ⟨nofun, fun h' => absurd h' h⟩

/-- **the sign is lost**: whenever the round trip succeeds it returns absolute values; a negative part `p`
comes back as `-p ≠ p`. This is why a negative `v` of `facproof` (possible, with negligible probability)
does not survive the wire. -/
theorem wire_drops_sign (parts : List Int) (n : Nat) (l : List Nat) (h : wireRoundTrip parts n = some l) :
    l = parts.map Int.natAbs ∧
    ∀ i (hi : i < parts.length), parts[i] < 0 → ((l.getD i 0 : Nat) : Int) = -parts[i] ∧
      ((l.getD i 0 : Nat) : Int) ≠ parts[i] := by
  rw [wire_roundtrip_general] at h
  split at h
  · injection h with h
    subst h
    refine ⟨rfl, fun i hi hneg => ?_⟩
    have : (parts.map Int.natAbs).getD i 0 = parts[i].natAbs := by
      rw [getD_of_lt _ _ _ (by simpa using hi)]; simp
    rw [this]
    omega
  · cases h

/-- the three-part list `[5, −32, 7]` comes back as `[5, 32, 7]` -/
example : wireRoundTrip [5, -32, 7] 3 = some [5, 32, 7] := by
  rw [wire_roundtrip_general]; decide

/-- the Schnorr proof `(α, t)` travels as the three parts `α.x, α.y, t`: it comes back unchanged iff none is zero
(instance of `wire_roundtrip_nat`; likewise `(α, t, u)` for Schnorr-V, the 13 values of the Paillier key proof,
and `w, x_1…x_80, a, b, z_1…z_80` for `modproof`) -/
example (alpha : ECPoint) (t : Nat) :
    wireRoundTrip ([alpha.1, alpha.2, t].map Int.ofNat) 3 = some [alpha.1, alpha.2, t] ↔
      alpha.1 ≠ 0 ∧ alpha.2 ≠ 0 ∧ t ≠ 0 := by
  rw [wire_roundtrip_nat]; simp

/-- strictly positive parts come back unchanged -/
theorem wire_roundtrip_pos (parts : List Int) (n : Nat) (hlen : parts.length = n) (hn : n ≠ 0)
    (h : ∀ p ∈ parts, 0 < p) :
    (wireRoundTrip parts n).map (fun l => l.map Int.ofNat) = some parts := by
  rw [wireRoundTrip_eq, if_pos ⟨hlen, hn, fun p hp => by have := h p hp; omega⟩]
  simp only [Option.map_some, List.map_map, Option.some.injEq]
  conv_rhs => rw [← List.map_id parts]
  apply List.map_congr_left
  intro p hp
  have := h p hp
  show ((p.natAbs : Nat) : Int) = p
  omega

/-- `Serialize` then `UnmarshalDLNProof` on proofs with exactly `Iterations` entries per array
(through `C16.builder_roundtrip`) -/
theorem dln_serialize_roundtrip (alpha t : List Int) (ha : alpha.length = dlnIterations)
    (ht : t.length = dlnIterations) :
    (dlnSerialize alpha t >>= fun s => dlnUnmarshal Ops16.curParse s) = .ok (alpha, t) := by
  obtain ⟨s, hs, hp⟩ := C16L.builder_roundtrip_aux [alpha, t] (by simp [partsCap])
    (by
      intro p hp
      simp only [List.mem_cons, List.not_mem_nil, or_false] at hp
      rcases hp with rfl | rfl
      · rw [ha]; decide
      · rw [ht]; decide)
    (by simp [ha, ht, dlnIterations])
  unfold dlnSerialize
  rw [hs, Outcome.ok_bind]
  unfold dlnUnmarshal
  have : Ops16.curParse = ⟨true, true⟩ := rfl
  rw [this, hp]
  simp [ha, ht]

/-- a proof record sent as `k` wire parts and parsed back (`toList`/`ofList` are the field lists of
`Core/OpsZk.lean`) -/
def viaWire {α : Type} (toList : α → List Int) (ofList : List Int → Option α) (k : Nat) (pf : α) : Option α :=
  (wireRoundTrip (toList pf) k).bind fun l => ofList (l.map Int.ofNat)

theorem viaWire_pos {α : Type} (toList : α → List Int) (ofList : List Int → Option α) (k : Nat) (pf : α)
    (hinv : ofList (toList pf) = some pf) (hlen : (toList pf).length = k) (hk : k ≠ 0)
    (hpos : ∀ p ∈ toList pf, 0 < p) : viaWire toList ofList k pf = some pf := by
  unfold viaWire
  have := wire_roundtrip_pos (toList pf) k hlen hk hpos
  cases hw : wireRoundTrip (toList pf) k with
  | none => rw [hw] at this; cases this
  | some l =>
    rw [hw] at this
    simp only [Option.map_some, Option.some.injEq] at this
    simp only [Option.bind_some, this, hinv]

/-- verify what arrives -/
def verifyWire {α : Type} (v : α → Outcome Bool) : Option α → Outcome Bool
  | some pf => v pf
  | none => .err "wire"

/-- all wire parts of the prover's output are strictly positive (decidable) -/
def WirePos {α : Type} (toList : α → List Int) : Outcome α → Prop
  | .ok pf => ∀ p ∈ toList pf, 0 < p
  | _ => True

instance {α : Type} (toList : α → List Int) (o : Outcome α) : Decidable (WirePos toList o) := by
  cases o <;> unfold WirePos <;> infer_instance

/-- a proof accepted in memory whose wire parts are all positive is still accepted after the wire; `proj`
selects the record that travels, the verifier may also use the rest of the prover's output -/
theorem complete_wire {α β : Type} (toList : β → List Int) (ofList : List Int → Option β) (k : Nat)
    (proj : α → β) (p : Outcome α) (v : α → β → Outcome Bool)
    (h : (p >>= fun a => v a (proj a)) = .ok true)
    (hinv : ∀ b, ofList (toList b) = some b) (hlen : ∀ b, (toList b).length = k) (hk : k ≠ 0)
    (hpos : WirePos (fun a => toList (proj a)) p) :
    (p >>= fun a => verifyWire (v a) (viaWire toList ofList k (proj a))) = .ok true := by
  obtain ⟨a, rfl, hv⟩ := Outcome.bind_eq_ok.1 h
  rw [Outcome.ok_bind, viaWire_pos _ _ k _ (hinv _) (hlen _) hk hpos]
  exact hv

/-- **after encoding, `facproof`**: if moreover all eleven parts of the prover's output are positive — in
particular `v > 0` — the proof is still accepted after `Bytes()` / `NewProofFromBytes`. -/
theorem fac_complete_wire (H : HashFn) (q : Nat) (sess : Bytes) (n0 ncap s t n0p n0q : Nat) (k : FacCoins)
    (hn0 : n0 = n0p * n0q) (hn0pos : 0 < n0) (hncap : 0 < ncap) (ht : Nat.Coprime t ncap)
    (hg : Fac.GoodCoins H q sess n0 ncap s t n0p n0q k)
    (hpos : WirePos OpsZk.facToList (facProve H q sess n0 ncap s t n0p n0q k)) :
    (facProve H q sess n0 ncap s t n0p n0q k >>= fun pf =>
      verifyWire (facVerify cur H q sess n0 ncap s t) (viaWire OpsZk.facToList OpsZk.facOfList 11 pf)) = .ok true :=
  complete_wire OpsZk.facToList OpsZk.facOfList 11 id _ (fun _ => facVerify cur H q sess n0 ncap s t)
    (fac_complete H q sess n0 ncap s t n0p n0q k hn0 hn0pos hncap ht hg) facOfList_toList (fun _ => rfl) (by decide) hpos

/-- **after encoding, range proof**: same with the six parts of `RangeProofAlice` -/
theorem range_complete_wire (H : HashFn) (q n c nt h1 h2 m r alpha beta gamma rho : Nat)
    (hn : 0 < n) (hnt : 0 < nt) (hr : Nat.Coprime r n)
    (hh1 : Nat.Coprime h1 nt) (hh2 : Nat.Coprime h2 nt)
    (hc : c ≡ (n + 1) ^ m * r ^ n [MOD n * n])
    (hg : Range.GoodCoins H q n c nt h1 h2 m r alpha beta gamma rho)
    (hpos : WirePos OpsZk.rangeToList (rangeProve H q n c nt h1 h2 m r alpha beta gamma rho)) :
    (rangeProve H q n c nt h1 h2 m r alpha beta gamma rho >>= fun pf =>
      verifyWire (rangeVerify cur H q n nt h1 h2 c) (viaWire OpsZk.rangeToList OpsZk.rangeOfList 6 pf)) = .ok true :=
  complete_wire OpsZk.rangeToList OpsZk.rangeOfList 6 id _ (fun _ => rangeVerify cur H q n nt h1 h2 c)
    (range_complete H q n c nt h1 h2 m r alpha beta gamma rho hn hnt hr hh1 hh2 hc hg) rangeOfList_toList
    (fun _ => rfl) (by decide) hpos

/-- **after encoding, Bob's proof**: same with the ten parts of `ProofBob` (the point `U` of `ProofBobWC`
travels as two further parts, which are naturals: `wire_roundtrip_nat`) -/
theorem bob_complete_wire (hC : C.Lawful) (H : HashFn) (sess : Bytes) (n ntilde h1 h2 c1 c2 x y r : Nat)
    (X : Option ECPoint) (k : BobCoins)
    (hn : 1 < n) (hnt : 0 < ntilde)
    (hh1 : Nat.Coprime h1 ntilde) (hh2 : Nat.Coprime h2 ntilde)
    (hc1 : Nat.Coprime c1 n) (hr : Nat.Coprime r n)
    (hc2 : c2 ≡ c1 ^ x * (n + 1) ^ y * r ^ n [MOD n * n])
    (hX : ∀ Xp, X = some Xp → C.toAffine (C.smul x C.base) = some Xp)
    (hg : Bob.GoodCoins C H sess n ntilde h1 h2 c1 c2 x y r X k)
    (hpos : WirePos (fun pu : BobProof × Option ECPoint => OpsZk.bobToList pu.1)
      (bobProve C H sess n ntilde h1 h2 c1 c2 x y r X k)) :
    (bobProve C H sess n ntilde h1 h2 c1 c2 x y r X k >>= fun pu =>
      verifyWire (fun pf => bobVerify C H cur sess n ntilde h1 h2 c1 c2 pf (bobXU X pu.2))
        (viaWire OpsZk.bobToList OpsZk.bobOfList 10 pu.1)) = .ok true :=
  complete_wire OpsZk.bobToList OpsZk.bobOfList 10 Prod.fst _
    (fun pu pf => bobVerify C H cur sess n ntilde h1 h2 c1 c2 pf (bobXU X pu.2))
    (bob_complete hC H sess n ntilde h1 h2 c1 c2 x y r X k hn hnt hh1 hh2 hc1 hr hc2 hX hg) bobOfList_toList
    (fun _ => rfl) (by decide) hpos

/-! ## the hypotheses are satisfiable: tiny instances, every hypothesis (including `GoodCoins`) discharged -/
section examples

instance fact23 : Fact (Nat.Prime 23) := ⟨by decide⟩

/-- toy curves of order 23: with (`E`, like edwards25519) and without (`W`, like secp256k1) affine identity -/
abbrev E := zmodCurve 23
abbrev W := zmodCurveW 23
/-- a constant hash: every challenge is `3 mod q` -/
def H3 : HashFn := fun _ => [3]

/-- Schnorr: `x = 5`, `X = 5·G`, coin `a = 7`, challenge `3`, response `t = 7 + 3·5 = 22` -/
example : (schnorrProve W H3 [] 5 (5, 0) 7 >>= fun pf => schnorrVerify W H3 cur [] (5, 0) pf.1 pf.2) = .ok true :=
  schnorr_complete (zmodCurveW_lawful 23) H3 [] 5 (5, 0) 7 (by decide) (by decide)
example : (schnorrProve E H3 [] 5 (5, 0) 7 >>= fun pf => schnorrVerify E H3 cur [] (5, 0) pf.1 pf.2) = .ok true :=
  schnorr_complete (zmodCurve_lawful 23) H3 [] 5 (5, 0) 7 (by decide) (by decide)
/-- the model run agrees -/
example : (schnorrProve W H3 [] 5 (5, 0) 7 >>= fun pf => schnorrVerify W H3 cur [] (5, 0) pf.1 pf.2) = .ok true := by
  decide
/-- a bad coin: `a = 8` gives `t = 8 + 15 = 23 ≡ 0`, rejected -/
example : ¬ Schnorr.GoodCoins W H3 [] 5 (5, 0) 8 := by decide
example : (schnorrProve W H3 [] 5 (5, 0) 8 >>= fun pf => schnorrVerify W H3 cur [] (5, 0) pf.1 pf.2) = .ok false := by
  decide

/-- Schnorr-V: `R = 2·G`, `s = 3`, `l = 4`, `V = 3·R + 4·G = 10·G`, coins `a = 5`, `b = 7` -/
example : (schnorrVProve W H3 [] (10, 0) (2, 0) 3 4 5 7 >>= fun pf =>
    schnorrVVerify W H3 cur [] (10, 0) (2, 0) pf.1 pf.2.1 pf.2.2) = .ok true :=
  schnorrV_complete (zmodCurveW_lawful 23) H3 [] (10, 0) (2, 0) 2 3 4 5 7 (by decide) (by decide) (by decide)
    (by decide)
example : (schnorrVProve W H3 [] (10, 0) (2, 0) 3 4 5 7 >>= fun pf =>
    schnorrVVerify W H3 cur [] (10, 0) (2, 0) pf.1 pf.2.1 pf.2.2) = .ok true := by decide
/-- a bad coin pair on `W`: `b = 6` makes `t·R + u·G` the identity -/
example : ¬ SchnorrV.GoodCoins W H3 [] (10, 0) (2, 0) 2 3 4 5 6 := by decide

/-- DLN: `n = 35 = 5·7`, `p·q = 2·3`, `h1 = 4` (order 6), `x = 5`, `h2 = 4^5 mod 35 = 9`, all coins `4` -/
example : (dlnProve H3 4 9 5 2 3 35 (List.replicate 128 4) >>= fun pf =>
    dlnVerify H3 (pf.1.map Int.ofNat) (pf.2.map Int.ofNat) 4 9 35) = .ok true :=
  dln_complete H3 4 9 5 2 3 35 (List.replicate 128 4) (by decide) (by simp [dlnIterations]) (by decide)
    (by decide) (by decide +kernel)

/-- range proof: `n = 35`, `ntilde = 33`, `h1 = 2`, `h2 = 5`, `q = 5`, `m = 2`, `r = 3`,
coins `alpha = 4, beta = 2, gamma = 3, rho = 1`; `e = 3`, `s1 = 10`, `s2 = 6` -/
example : (rangeProve H3 5 35 (36 ^ 2 * 3 ^ 35 % 1225) 33 2 5 2 3 4 2 3 1 >>= fun pf =>
    rangeVerify cur H3 5 35 33 2 5 (36 ^ 2 * 3 ^ 35 % 1225 : Nat) pf) = .ok true :=
  range_complete H3 5 35 (36 ^ 2 * 3 ^ 35 % 1225) 33 2 5 2 3 4 2 3 1 (by decide) (by decide) (by decide)
    (by decide) (by decide) (Nat.mod_modEq _ _) (by decide)
example : (rangeProve H3 5 35 (36 ^ 2 * 3 ^ 35 % 1225) 33 2 5 2 3 4 2 3 1 >>= fun pf =>
    rangeVerify cur H3 5 35 33 2 5 (36 ^ 2 * 3 ^ 35 % 1225 : Nat) pf) = .ok true := by decide
/-- … and it survives the wire (all six parts positive) -/
example : (rangeProve H3 5 35 (36 ^ 2 * 3 ^ 35 % 1225) 33 2 5 2 3 4 2 3 1 >>= fun pf =>
    verifyWire (rangeVerify cur H3 5 35 33 2 5 (36 ^ 2 * 3 ^ 35 % 1225 : Nat))
      (viaWire OpsZk.rangeToList OpsZk.rangeOfList 6 pf)) = .ok true :=
  range_complete_wire H3 5 35 (36 ^ 2 * 3 ^ 35 % 1225) 33 2 5 2 3 4 2 3 1 (by decide) (by decide) (by decide)
    (by decide) (by decide) (Nat.mod_modEq _ _) (by decide) (by decide)

/-- Paillier key proof: `P = 1009`, `Q = 1013` -/
example : (Paillier.proof H3 ⟨1009 * 1013, 0, 1008 * 1012, 1009, 1013⟩ 1 (1, 2) >>= fun pf =>
    Paillier.proofVerify ⟨true⟩ H3 (pf.map Int.ofNat) ((1009 * 1013 : Nat) : Int) 1 (1, 2)) = .ok true :=
  paillierKey_complete ⟨true⟩ H3 ⟨1009 * 1013, 0, 1008 * 1012, 1009, 1013⟩ 1 (1, 2) 1009 1013
    (by norm_num) (by norm_num) (by decide) rfl rfl (by decide)
    (no_small_factor (by norm_num) (by norm_num) (by decide) (by decide)) (by decide)

/-- `facproof`: `q = 11`, `N0 = 15 = 3·5`, `NCap = 35`, `s = 2`, `t = 3`; here `v = −32 < 0` -/
example : (facProve H3 11 [] 15 35 2 3 3 5 ⟨1, 2, 1, 4, 1, 1, 1, 1⟩ >>= fun pf =>
    facVerify cur H3 11 [] 15 35 2 3 pf) = .ok true :=
  fac_complete H3 11 [] 15 35 2 3 3 5 ⟨1, 2, 1, 4, 1, 1, 1, 1⟩ (by decide) (by decide) (by decide) (by decide)
    (by decide)
/-- … accepted in memory, but NOT after the wire: the sign of `v` is lost -/
example : (facProve H3 11 [] 15 35 2 3 3 5 ⟨1, 2, 1, 4, 1, 1, 1, 1⟩ >>= fun pf =>
    verifyWire (facVerify cur H3 11 [] 15 35 2 3) (viaWire OpsZk.facToList OpsZk.facOfList 11 pf)) = .ok false := by
  simp only [viaWire, wire_roundtrip_general]
  decide
/-- with `sigma = 20` instead, `v = 3·(20 − 12) + 1 = 25 > 0` and the proof survives the wire -/
example : (facProve H3 11 [] 15 35 2 3 3 5 ⟨1, 2, 1, 4, 20, 1, 1, 1⟩ >>= fun pf =>
    verifyWire (facVerify cur H3 11 [] 15 35 2 3) (viaWire OpsZk.facToList OpsZk.facOfList 11 pf)) = .ok true :=
  fac_complete_wire H3 11 [] 15 35 2 3 3 5 ⟨1, 2, 1, 4, 20, 1, 1, 1⟩ (by decide) (by decide) (by decide)
    (by decide) (by decide) (by decide)

/-- `modproof`: `n = 77 = 7·11` (Blum, `gcd(77, 60) = 1`), `w = 2` (Jacobi symbol −1), all challenges `3` -/
example : (modProve H3 [] 77 7 11 2 >>= fun pf =>
    modVerify cur H3 [] (pf.1 : Int) (pf.2.1.map Int.ofNat) (pf.2.2.1 : Int) (pf.2.2.2.1 : Int)
      (pf.2.2.2.2.map Int.ofNat) ((77 : Nat) : Int)) = .ok true :=
  mod_complete_77'
/-- the same through `mod_complete_partial`, `FourthRootFact 77 7 11 2` checked by evaluation -/
example : (modProve H3 [] 77 7 11 2 >>= fun pf =>
    modVerify cur H3 [] (pf.1 : Int) (pf.2.1.map Int.ofNat) (pf.2.2.1 : Int) (pf.2.2.2.1 : Int)
      (pf.2.2.2.2.map Int.ofNat) ((77 : Nat) : Int)) = .ok true :=
  mod_complete_77

/-- Bob, without check on `E` and with check on `W` (`X = 4·G`) -/
example : (bobProve E H3 [] 35 33 2 5 2 1032 4 6 3 none ⟨20, 7, 5, 11, 10, 2, 9⟩ >>= fun pu =>
    bobVerify E H3 cur [] 35 33 2 5 2 1032 pu.1
      (bobXU none pu.2)) = .ok true :=
  bob_complete (zmodCurve_lawful 23) H3 [] 35 33 2 5 2 1032 4 6 3 none ⟨20, 7, 5, 11, 10, 2, 9⟩
    (by decide) (by decide) (by decide) (by decide) (by decide) (by decide) (by decide)
    (fun _ h => by cases h) (by decide)
example : (bobProve W H3 [] 35 33 2 5 2 1032 4 6 3 (some (4, 0)) ⟨20, 7, 5, 11, 10, 2, 9⟩ >>= fun pu =>
    bobVerify W H3 cur [] 35 33 2 5 2 1032 pu.1
      (bobXU (some (4, 0)) pu.2)) = .ok true :=
  bob_complete (zmodCurveW_lawful 23) H3 [] 35 33 2 5 2 1032 4 6 3 (some (4, 0)) ⟨20, 7, 5, 11, 10, 2, 9⟩
    (by decide) (by decide) (by decide) (by decide) (by decide) (by decide) (by decide)
    (fun Xp h => by cases h; decide) (by decide)

end examples

end TssVerif.C10
