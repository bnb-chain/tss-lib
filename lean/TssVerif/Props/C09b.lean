import TssVerif.Gen.Facts
/-! C09, source-derived part: the lock discipline of the party entry points, as facts regenerated from `/repo`
(`tss/party.go`, the six `local_party.go`) by `vh facts` on every run, against the shape the serialisation
theorems of `Props/C09.lean` assume: every entry point takes the party lock before it touches the party, never
with `TryLock`, and releases it on every way out; the per-protocol wrappers only delegate to them (and wrap a
parse error through `BaseWrapError`, which takes the lock, not through `p.WrapError`, which reads the round
unlocked). A rewrite of these functions that keeps the property may still break these obligations; the check then
looks for a failing concurrent run and reports what it found. -/
namespace TssVerif.C09b
open TssVerif.Gen

/-- what the serialisation argument needs of one entry point -/
def LockOk (f : LockFact) : Bool :=
  f.found && f.beforeLock.isEmpty && decide (1 ≤ f.locks) && f.tryLocks == 0 && (f.deferUnlock || f.unguardedExits == 0)

/-- `BaseStart`, `BaseUpdate`, `BaseWrapError` and `WaitingFor` are the functions analysed … -/
theorem entry_points_listed : lockFacts.map (·.fn) = ["BaseStart", "BaseUpdate", "BaseWrapError", "WaitingFor"] := rfl

/-- … and each of them holds the lock from its first touch of the party to every exit -/
theorem entry_points_hold_the_lock : lockFacts.all LockOk = true := rfl

/-- what a per-protocol wrapper may do -/
def WrapperOk : String × String × List String → Bool
  | (_, "Start", cs) => cs.contains "tss.BaseStart" && !cs.contains "p.WrapError"
  | (_, "Update", cs) => cs == ["tss.BaseUpdate"]
  | (_, "UpdateFromBytes", cs) => cs == ["tss.ParseWireMessage", "tss.BaseWrapError", "p.Update"]
  | _ => false

/-- all six protocols, three wrappers each -/
theorem wrappers_listed : wrapperCalls.map (fun w => (w.1, w.2.1)) =
    (["ecdsa/keygen", "ecdsa/signing", "ecdsa/resharing", "eddsa/keygen", "eddsa/signing", "eddsa/resharing"].flatMap
      fun p => [(p, "Start"), (p, "Update"), (p, "UpdateFromBytes")]) := rfl

theorem wrappers_delegate : wrapperCalls.all WrapperOk = true := rfl

/-- the predicate is not vacuous: an entry point that reads the party before locking, or uses `TryLock`, fails it -/
example : LockOk ⟨"BaseStart", true, ["hadPreStart"], 1, 0, true, 9⟩ = false := by decide
example : LockOk ⟨"WaitingFor", true, [], 0, 1, true, 2⟩ = false := by decide
example : LockOk ⟨"BaseUpdate", true, [], 1, 0, false, 1⟩ = false := by decide

end TssVerif.C09b
