import TssVerif.Props.C14
/-! # C14 (continued) — the affine chain `HomoAdd(HomoMult(b, Enc a), Enc β)` and symmetry of `HomoAdd`

Property theorems only, over the same executable definitions (`Core/Paillier.lean`) as `Props/C14.lean`. -/
namespace TssVerif.C14
open TssVerif TssVerif.Paillier TssVerif.PaillierL

/-- **the chain MtA runs on the responder's side decrypts to `b·a + β (mod n)`**:
`Decrypt(HomoAdd(HomoMult(b, Enc a), Enc β)) = (b·a + β) mod n`, stated on the three real calls in
sequence (every intermediate result passes the next call's domain checks) -/
theorem homo_affine {P Q : Nat} (hP : P.Prime) (hQ : Q.Prime) (hne : P ≠ Q)
    (hlam : Nat.gcd (Nat.lcm (P - 1) (Q - 1)) (P * Q) = 1)
    (sk : PrivateKey) (hn : sk.n = P * Q) (hl : sk.lambdaN = Nat.lcm (P - 1) (Q - 1))
    {a b β x1 x2 ca cβ : Nat} (hb : b < P * Q)
    (hx1 : Nat.gcd x1 (P * Q) = 1) (hx2 : Nat.gcd x2 (P * Q) = 1)
    (h1 : encryptWith (P * Q) (a : Int) x1 = .ok ca) (h2 : encryptWith (P * Q) (β : Int) x2 = .ok cβ) :
    (homoMult (P * Q) (b : Int) (ca : Int) >>= fun c1 =>
      homoAdd (P * Q) (c1 : Int) (cβ : Int) >>= fun c2 => decrypt sk (c2 : Int)) =
      .ok ((b * a + β) % (P * Q)) := by
  have hN := one_lt_mul_primes hP hQ
  have i1 := (isCt_of_encryptWith hN hx1 h1).homoMult hN b
  have i2 := isCt_of_encryptWith hN hx2 h2
  rw [homoMult_eq hb (isCt_of_encryptWith hN hx1 h1).1, Outcome.ok_bind, homoAdd_eq i1.1 i2.1, Outcome.ok_bind]
  exact decrypt_of_key hP hQ hne hlam hn hl (i1.homoAdd hN i2)

/-- `HomoAdd` is symmetric in its two ciphertexts on accepted inputs -/
theorem homoAdd_comm_ok (n : Nat) {c1 c2 : Int} {c : Nat} (h : homoAdd n c1 c2 = .ok c) :
    homoAdd n c2 c1 = .ok c := by
  rw [homoAdd_ok_iff] at h ⊢
  obtain ⟨⟨h1, h2, h3, h4⟩, rfl⟩ := h
  exact ⟨⟨h3, h4, h1, h2⟩, by rw [Nat.mul_comm]⟩

/-- `HomoAdd` refuses in one order exactly when it refuses in the other -/
theorem homoAdd_comm_refuses (n : Nat) (c1 c2 : Int) :
    (∃ c, homoAdd n c1 c2 = .ok c) ↔ (∃ c, homoAdd n c2 c1 = .ok c) :=
  ⟨fun ⟨c, h⟩ => ⟨c, homoAdd_comm_ok n h⟩, fun ⟨c, h⟩ => ⟨c, homoAdd_comm_ok n h⟩⟩

/-! ## hypotheses are satisfiable; the chain evaluated on the executable model

`Dec(HomoAdd(HomoMult(7, Enc 200), Enc 800)) = (7·200 + 800) mod 899 = 402` -/
example : (do let ca ← encryptWith 899 200 5
              let cb ← encryptWith 899 800 3
              let c1 ← homoMult 899 7 ca
              let c2 ← homoAdd 899 c1 cb
              decrypt (keyOf 29 31) c2) = .ok 402 := by decide
example : (7 * 200 + 800) % (29 * 31) = 402 := by decide

end TssVerif.C14
