import TssVerif.Lemmas.C05Loss
import TssVerif.Props.C04b
import TssVerif.Props.C05f
/-! # C05g — the last clause of C05 ("the honest ones do not lose the key"): false for ECDSA resharing, what holds

Property C05 ends with the clause

  "In resharing a single deviating participant cannot make the honest ones lose the key: if an honest old
  member's share has been erased then, once all sent messages are delivered, every honest new member has emitted
  valid key data."

On the running code the clause is FALSE for ECDSA resharing (recorded as a known finding): the new members'
no-small-factor proofs travel with the acknowledgement (`DGRound4Message1`, round 4) and are verified only in the
final round 5 (`round_5_new_step_3.go`) — after every new member has acknowledged, hence after the old members
erase. A new member that sends ANOTHER new member a bad proof makes that honest member return an error in round 5
without emitting key data, while every old member has already erased its share. The final round of an EdDSA new
member checks nothing, so there the clause holds.

Two models each describe one half of a new member's final round: the two-committee round engine
(`Core/Engine2.lean`, `Props/C04b.lean`: WHEN the final round is started — "ended"/"final round" there means "the
round that saves has been started") and `BlameEc.rsRound5Fac` (`Core/BlameEc5.lean`, `Props/C05f.lean`: WHAT the
ECDSA new member checks there; `.ok none` = emit, `.ok (some (j, why))` = error naming `j`). The glue is a
definition in `Lemmas/C05Loss.lean`:

* `inFinalRound p` := `p.rnd = 5 ∧ p.ended = 1` (old member: has erased; new member: is in the saving round);
* `round5Check C H zcfg view i` := `rsRound5Fac` of new member `i` (verifier index `i`) on `view i : R5View` (its
  own ring-Pedersen parameters, ssid, tolerance flag, and the records the other new members sent it);
* `newMemberEmits C H zcfg P view s i` := `inFinalRound (s.new i) ∧ (hasRound5Check P = true → round5Check … i =
  .ok none)`, where `hasRound5Check P` = "the new-role table of `P` has a new-to-new point-to-point emission"
  (ECDSA: true, EdDSA: false). So for ECDSA: final round reached AND the check says emit; for EdDSA: final round
  reached (`emits_ecdsa_iff`, `emits_eddsa_iff`);
* `LastClause C H zcfg P nOld nNew`: the clause itself, quantified over reachable quiescent states with an erased
  old share, over the deviator `dev` and over everything `dev` may have sent.

The three theorems.

1. `c05_last_clause_false_witness` (the negation, concrete): ECDSA resharing, 2 old + 2 new members, the explicit
   schedule `lossRun` (30 events: 4 starts, 26 deliveries — every emitted message to everybody who needs it; the
   state is `lossState = exec … lossRun`, reachable by `reach2_exec`, and every delivery was enabled: the logs hold
   all 26). In that state everybody has started, nothing is left to deliver, BOTH old members have erased, both new
   members are in the final round, and the round-5 check of the honest new member 1 on the rejected proof of
   `C05f.rs5_reject_witness` (sent by new member 0, the only deviator) is `.ok (some (0, "facProof verify
   failed"))`: new member 1 does not emit. `c05_last_clause_false_witness_1_2` is the same with ONE old member;
   `c05_last_clause_ecdsa_false : ¬ LastClause T2 Hone Zk.cur ecdsaResharing 2 2` is the clause negated.
2. `c05_last_clause_partial` (what does hold; both library protocols, any committee sizes, any reachable state): if
   an old member has erased and nothing is left to deliver then every new member has reached its final round.
   Hypotheses beyond the clause's own: `strict = true` in `Reach2` (`Start` runs the advance loop when a message was
   stored before it, as the library does — `no_deadlock2` needs it). NOT needed: `AllStarted` (derived: an erased
   old share means every new member acknowledged, `erase_after_all_acks`, which means every old member sent its
   shares, `ack_after_shares`), `0 < nOld` (given by the old member), `0 < nNew` (the conclusion is void without
   new members). `c05_last_clause_all_final` adds: every old member has erased too (needs `0 < nNew`).
3. Consequences: `c05_last_clause_eddsa` (EdDSA: every new member emits — `LastClause` holds,
   `c05_last_clause_eddsa_holds`), `c05_last_clause_ecdsa_iff` (ECDSA: a new member emits iff its round-5 check
   passes), `c05_last_clause_ecdsa_single_deviator` (with `C05f`: with one deviator `dev`, an honest new member emits
   iff it accepts every record `dev` sent it, and otherwise its error names `dev` and nobody else). -/
set_option autoImplicit false
namespace TssVerif.C05g
open TssVerif TssVerif.Engine2 TssVerif.E2L TssVerif.BlameEc TssVerif.C05LossL

/-- ECDSA: a new member emits key data iff it has reached its final round AND its round-5 check says "emit" -/
theorem emits_ecdsa_iff {Pt : Type} (C : Curve Pt) (H : HashFn) (zcfg : Zk.Cfg) (view : Nat → R5View) (s : Sys2)
    (i : Nat) :
    newMemberEmits C H zcfg ecdsaResharing view s i ↔
      inFinalRound (s.new i) ∧
      rsRound5Fac C H zcfg (view i).noFac i (view i).ssid (view i).nTilde (view i).h1 (view i).h2 (view i).peers =
        .ok none :=
  newMemberEmits_ecdsa_iff C H zcfg view s i

/-- EdDSA: iff it has reached its final round -/
theorem emits_eddsa_iff {Pt : Type} (C : Curve Pt) (H : HashFn) (zcfg : Zk.Cfg) (view : Nat → R5View) (s : Sys2)
    (i : Nat) : newMemberEmits C H zcfg eddsaResharing view s i ↔ inFinalRound (s.new i) :=
  newMemberEmits_eddsa_iff C H zcfg view s i

/-- what the new members hold in round 5 of the run `lossRun`: new member 1 (honest; the verifier of
`C05f.rs5_reject_witness`: ssid `[7]`, `NTilde = 5`, `h1 = 1`, `h2 = 0`) holds the rejected proof `C05f.badProof`
from new member 0; new member 0 (the deviator) holds the accepted proof `C05f.okProof` from new member 1 -/
def lossView : Nat → R5View := fun i =>
  if i = 1 then ⟨false, [7], 5, 1, 0, [⟨0, 9, C05f.badProof⟩]⟩ else ⟨false, [7], 5, 1, 0, [⟨1, 9, C05f.okProof⟩]⟩

/-- the round-5 check of the honest new member 1 names the deviator (the record is the one of
`C05f.rs5_reject_witness`; the sender index plays no role in the judgement, `C05f.rs5_sender_index_irrelevant`) -/
theorem lossView_rejected :
    round5Check C05f.T2 C05f.Hone Zk.cur lossView 1 = .ok (some (0, "facProof verify failed")) :=
  C05Rs5L.rsRound5Fac_cons_some C05f.T2 C05f.Hone Zk.cur false 1 [7] 5 1 0 ⟨0, 9, C05f.badProof⟩ [] _
    C05f.rs5_reject_witness

/-- so new member 1 does not emit, whatever the state of the engine -/
theorem lossView_not_emits (s : Sys2) : ¬ newMemberEmits C05f.T2 C05f.Hone Zk.cur ecdsaResharing lossView s 1 := by
  intro h
  have h2 := ((emits_ecdsa_iff _ _ _ _ _ _).mp h).2
  have h3 := lossView_rejected
  unfold round5Check at h3
  rw [h3] at h2
  cases h2

/-- **the last clause of C05 fails for ECDSA resharing** (2 old + 2 new members, one deviator: new member 0).
The state `lossState` is reachable in the closed system (by the explicit schedule `lossRun`), every member of both
committees has been started, nothing is left to deliver, every old member has erased its share, every new member is
in its final round — and the round-5 check of the honest new member 1 returns an error naming new member 0, so new
member 1 does not emit key data, and it never will: it has ended, and no message is outstanding. The only rejected
record in the system is the deviator's (the view of new member 1 has no other record; the deviator's own check of
the honest member's proof passes). -/
theorem c05_last_clause_false_witness :
    Reach2 ecdsaResharing 2 2 true lossState ∧
    AllStarted 2 2 lossState ∧ Quiescent2 ecdsaResharing 2 2 lossState ∧
    (∀ i, i < 2 → inFinalRound (lossState.old i)) ∧
    (∀ j, j < 2 → inFinalRound (lossState.new j)) ∧
    round5Check C05f.T2 C05f.Hone Zk.cur lossView 1 = .ok (some (0, "facProof verify failed")) ∧
    (∀ p ∈ (lossView 1).peers, p.idx ≠ 0 → peerAccepted C05f.T2 C05f.Hone Zk.cur lossView 1 p) ∧
    ¬ newMemberEmits C05f.T2 C05f.Hone Zk.cur ecdsaResharing lossView lossState 1 := by
  refine ⟨lossState_reachable, lossState_quiescent.2.1, lossState_quiescent.2.2, lossState_final.1, lossState_final.2.1,
    lossView_rejected, ?_, lossView_not_emits _⟩
  intro p hp hne
  have : p = ⟨0, 9, C05f.badProof⟩ := by simpa [lossView] using hp
  subst this
  exact absurd rfl hne

/-- the same with ONE old member (1 + 2, the smallest committees with a new-to-new message) -/
theorem c05_last_clause_false_witness_1_2 :
    Reach2 ecdsaResharing 1 2 true lossState12 ∧
    AllStarted 1 2 lossState12 ∧ Quiescent2 ecdsaResharing 1 2 lossState12 ∧
    inFinalRound (lossState12.old 0) ∧
    (∀ j, j < 2 → inFinalRound (lossState12.new j)) ∧
    round5Check C05f.T2 C05f.Hone Zk.cur lossView 1 = .ok (some (0, "facProof verify failed")) ∧
    ¬ newMemberEmits C05f.T2 C05f.Hone Zk.cur ecdsaResharing lossView lossState12 1 :=
  ⟨lossState12_reachable, lossState12_quiescent.2.1, lossState12_quiescent.2.2, lossState12_final.1, lossState12_final.2.1,
    lossView_rejected, lossView_not_emits _⟩

/-- **the clause, as a statement, is false for ECDSA resharing** -/
theorem c05_last_clause_ecdsa_false : ¬ LastClause C05f.T2 C05f.Hone Zk.cur ecdsaResharing 2 2 := by
  intro h
  obtain ⟨hr, _, hq, ho, _, _, hacc, hno⟩ := c05_last_clause_false_witness
  refine hno (h lossState lossView 0 hr hq ⟨0, by omega, (ho 0 (by omega)).2⟩ ?_ 1 (by omega) (by omega))
  intro j hj hne p hp hidx
  have : j = 1 := by omega
  subst this
  exact hacc p hp hidx

/-- **an erased old share and a quiescent network ⟹ every new member has reached its final round.** Both library
protocols, any committee sizes, any reachable state of the closed system with the library's `Start`
(`strict = true`, needed by `no_deadlock2`). No `AllStarted`, no `0 < nNew` hypothesis. -/
theorem c05_last_clause_partial (P : Proto) (hP : IsLib P) (nOld nNew : Nat) (s : Sys2)
    (hreach : Reach2 P nOld nNew true s) (hq : Quiescent2 P nOld nNew s)
    (i : Nat) (hi : i < nOld) (he : (s.old i).ended = 1) :
    ∀ j, j < nNew → inFinalRound (s.new j) :=
  new_final_of_erased_quiescent hP hreach hq hi he

/-- … and every old member has erased (with at least one new member) -/
theorem c05_last_clause_all_final (P : Proto) (hP : IsLib P) (nOld nNew : Nat) (hN : 0 < nNew) (s : Sys2)
    (hreach : Reach2 P nOld nNew true s) (hq : Quiescent2 P nOld nNew s)
    (i : Nat) (hi : i < nOld) (he : (s.old i).ended = 1) :
    AllStarted nOld nNew s ∧ (∀ k, k < nOld → inFinalRound (s.old k)) ∧ (∀ j, j < nNew → inFinalRound (s.new j)) :=
  ⟨allStarted_of_erased (ackFacts_of_isLib hP) hN (reach2_inv hreach) he,
   all_final_of_erased_quiescent hP hN hreach hq hi he⟩

/-- **EdDSA resharing: every new member emits key data** -/
theorem c05_last_clause_eddsa {Pt : Type} (C : Curve Pt) (H : HashFn) (zcfg : Zk.Cfg) (view : Nat → R5View)
    (nOld nNew : Nat) (s : Sys2)
    (hreach : Reach2 eddsaResharing nOld nNew true s) (hq : Quiescent2 eddsaResharing nOld nNew s)
    (i : Nat) (hi : i < nOld) (he : (s.old i).ended = 1) :
    ∀ j, j < nNew → newMemberEmits C H zcfg eddsaResharing view s j := fun j hj =>
  (emits_eddsa_iff C H zcfg view s j).mpr (c05_last_clause_partial _ (Or.inl rfl) nOld nNew s hreach hq i hi he j hj)

/-- … so the clause holds for EdDSA resharing, whatever the committee sizes and whatever is "checked" -/
theorem c05_last_clause_eddsa_holds {Pt : Type} (C : Curve Pt) (H : HashFn) (zcfg : Zk.Cfg) (nOld nNew : Nat) :
    LastClause C H zcfg eddsaResharing nOld nNew := by
  intro s view dev hreach hq ⟨i, hi, he⟩ _ j hj _
  exact c05_last_clause_eddsa C H zcfg view nOld nNew s hreach hq i hi he j hj

/-- **ECDSA resharing: a new member emits key data iff its round-5 check passes** -/
theorem c05_last_clause_ecdsa_iff {Pt : Type} (C : Curve Pt) (H : HashFn) (zcfg : Zk.Cfg) (view : Nat → R5View)
    (nOld nNew : Nat) (s : Sys2)
    (hreach : Reach2 ecdsaResharing nOld nNew true s) (hq : Quiescent2 ecdsaResharing nOld nNew s)
    (i : Nat) (hi : i < nOld) (he : (s.old i).ended = 1) :
    ∀ j, j < nNew →
      (newMemberEmits C H zcfg ecdsaResharing view s j ↔
        rsRound5Fac C H zcfg (view j).noFac j (view j).ssid (view j).nTilde (view j).h1 (view j).h2 (view j).peers =
          .ok none) := fun j hj =>
  (emits_ecdsa_iff C H zcfg view s j).trans
    ⟨fun h => h.2, fun h => ⟨c05_last_clause_partial _ (Or.inr rfl) nOld nNew s hreach hq i hi he j hj, h⟩⟩

/-- **ECDSA resharing, one deviator `dev`**: if new member `j` accepts every record that does not carry `dev`'s
index, it emits iff it accepts every record `dev` sent it; and any error it returns instead names `dev`. -/
theorem c05_last_clause_ecdsa_single_deviator {Pt : Type} (C : Curve Pt) (H : HashFn) (zcfg : Zk.Cfg)
    (view : Nat → R5View) (nOld nNew : Nat) (s : Sys2)
    (hreach : Reach2 ecdsaResharing nOld nNew true s) (hq : Quiescent2 ecdsaResharing nOld nNew s)
    (i : Nat) (hi : i < nOld) (he : (s.old i).ended = 1) (j : Nat) (hj : j < nNew) (dev : Nat)
    (hothers : ∀ p ∈ (view j).peers, p.idx ≠ dev → peerAccepted C H zcfg view j p) :
    (newMemberEmits C H zcfg ecdsaResharing view s j ↔
      ∀ p ∈ (view j).peers, p.idx = dev → peerAccepted C H zcfg view j p) ∧
    (∀ c why, round5Check C H zcfg view j = .ok (some (c, why)) → c = dev) := by
  refine ⟨?_, ?_⟩
  · rw [c05_last_clause_ecdsa_iff C H zcfg view nOld nNew s hreach hq i hi he j hj]
    have := round5Check_none_iff C H zcfg view j
    unfold round5Check at this
    rw [this]
    constructor
    · intro h p hp _; exact h p hp
    · intro h p hp
      by_cases hd : p.idx = dev
      · exact h p hp hd
      · exact hothers p hp hd
  · exact (C05f.rs5_single_deviator C H zcfg (view j).noFac j (view j).ssid (view j).nTilde (view j).h1 (view j).h2
      (view j).peers dev hothers).1

/-- the hypotheses of `c05_last_clause_partial` / `c05_last_clause_ecdsa_iff` hold in the state of the
counterexample (so the theorems are not vacuous) — and there the deviator, whose own check passes, does emit -/
example : Reach2 ecdsaResharing 2 2 true lossState ∧ Quiescent2 ecdsaResharing 2 2 lossState ∧
    (lossState.old 0).ended = 1 ∧ newMemberEmits C05f.T2 C05f.Hone Zk.cur ecdsaResharing lossView lossState 0 := by
  have hq := lossState_quiescent.2.2
  have he := (lossState_final.1 0 (by omega)).2
  refine ⟨lossState_reachable, hq, he, ?_⟩
  rw [c05_last_clause_ecdsa_iff _ _ _ _ 2 2 lossState lossState_reachable hq 0 (by omega) he 0 (by omega)]
  refine C05Rs5L.rsRound5Fac_cons_none C05f.T2 C05f.Hone Zk.cur false 0 [7] 5 1 0 ⟨1, 9, C05f.okProof⟩ [] ?_ |>.trans rfl
  rw [C05f.rsFacPeer_none_iff]
  exact Or.inl ⟨⟨1, 1, 1, 1, 1, 0, 0, 0, 0, 0, 0⟩, by decide, by decide⟩

/-- an honest EdDSA run (the schedule of `Props/C04b.lean`): the hypotheses of `c05_last_clause_eddsa` hold -/
example : Reach2 eddsaResharing 2 2 true (exec eddsaResharing 2 2 true (C04b.honest eddsaResharing)) :=
  reach2_exec _ _ _ _ _
set_option maxRecDepth 100000 in
example : Quiescent2 eddsaResharing 2 2 (exec eddsaResharing 2 2 true (C04b.honest eddsaResharing)) ∧
    ((exec eddsaResharing 2 2 true (C04b.honest eddsaResharing)).old 0).ended = 1 :=
  ⟨quiescentB_spec C04b.honest_eddsa_end.2.1, C04b.honest_eddsa_end.2.2.1⟩

end TssVerif.C05g
