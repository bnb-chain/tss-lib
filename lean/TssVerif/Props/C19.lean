import TssVerif.Lemmas.MiscPrimes
import TssVerif.Lemmas.MiscShape
import TssVerif.Props.C14
import Mathlib.Tactic.NormNum.Prime
/-! # C19 — generated primes and pre-parameters have the structure the proofs assume

Model: `TssVerif/Core/Primes.lean` (`common/safe_prime.go`, `common/random.go`, `ecdsa/keygen/prepare.go`).

* `candidate_shape` — the byte masking of the generator: odd `q` of exactly `pBitLen − 1` bits with its two top
  bits set, hence `p = 2q+1` has exactly `pBitLen` bits, two top bits set, and `p ≡ 3 (mod 4)`;
* `pocklington_2q1`, `pocklington_code`, `emitted_pair_validates`, `emitted_pair_pocklington` — what an emitted
  pair has passed, and why the Pocklington test with witness 2 proves `p` prime once `q` is;
* `sampler_*` / `sampler_ranges` — range and coprimality contracts of the samplers, for every bound and every
  candidate stream, with the exact liveness condition (`*_returns_iff`) and the `n = 1` dead loop;
* `preparams_algebra`, `preparams_h2_square`, `ntilde_bits` — `h2 = h1^alpha`, `h1 = h2^beta`, `alpha·beta ≡ 1 (mod pq)`,
  both are squares, `Ñ` has exactly `2k` bits. -/
set_option autoImplicit false
namespace TssVerif.C19
open TssVerif TssVerif.Primes TssVerif.MiscL
open scoped NumberTheorySymbols

/-- **shape of the candidate** for every requested length `pBitLen ≥ 6` (the generator's minimum) and every
random byte string of the length the generator reads -/
theorem candidate_shape (pBitLen : Nat) (bytes : List UInt8) (hp : 6 ≤ pBitLen)
    (hlen : bytes.length = (pBitLen - 1 + 7) / 8) :
    shapeCandidate pBitLen bytes % 2 = 1 ∧
    bitLen (shapeCandidate pBitLen bytes) = pBitLen - 1 ∧
    3 * 2 ^ (pBitLen - 3) ≤ shapeCandidate pBitLen bytes ∧
    shapeCandidate pBitLen bytes < 2 ^ (pBitLen - 1) ∧
    bitLen (safePrimeOf (shapeCandidate pBitLen bytes)) = pBitLen ∧
    3 * 2 ^ (pBitLen - 2) ≤ safePrimeOf (shapeCandidate pBitLen bytes) ∧
    safePrimeOf (shapeCandidate pBitLen bytes) < 2 ^ pBitLen ∧
    safePrimeOf (shapeCandidate pBitLen bytes) % 4 = 3 := by
  obtain ⟨qB, rfl⟩ : ∃ qB, pBitLen = qB + 1 := ⟨pBitLen - 1, by omega⟩
  simp only [Nat.add_sub_cancel] at hlen ⊢
  cases bytes with
  | nil => simp only [List.length_nil] at hlen; omega
  | cons b0 rest =>
    simp only [List.length_cons] at hlen
    obtain ⟨h1, h2, h3⟩ := shape_core qB b0 rest (by omega) hlen
    obtain ⟨g1, g2, g3⟩ := safePrime_shape (k := qB) (by omega) h2 h3
    rw [show qB + 1 - 3 = qB - 2 by omega, show qB + 1 - 2 = qB - 1 by omega]
    rw [show qB + 1 - 2 = qB - 1 by omega] at g1
    refine ⟨h1, bitLen_of_top_bits (by omega) h2 h3, h2, h3, g3, g1, g2, ?_⟩
    unfold safePrimeOf
    omega

/-- **Pocklington's criterion for `p = 2q+1`, witness 2.** Stronger than the usual statement: the side
condition `3 ∤ p` (i.e. `gcd(2² − 1, p) = 1`) is not needed, a factor 3 is excluded by the order of 2 modulo 9. -/
theorem pocklington_2q1 {q p : Nat} (hq : q.Prime) (hp : p = 2 * q + 1)
    (hpow : 2 ^ (p - 1) % p = 1) : p.Prime :=
  MiscL.pocklington_2q1 hq hp hpow

/-- primality of `q` IS needed: `q = 170`, `p = 341 = 11 · 31` passes the congruence -/
example : 2 ^ (341 - 1) % 341 = 1 ∧ 341 = 2 * 170 + 1 ∧ ¬ Nat.Prime 341 := by
  refine ⟨by decide +kernel, rfl, by norm_num⟩

/-- the code's `isPocklingtonCriterionSatisfied` is exactly that congruence -/
theorem pocklington_code (p : Nat) : pocklington p = true ↔ 2 ^ (p - 1) % p = 1 :=
  pocklington_iff p

/-- the conjunction an emitted pair has passed, unfolded -/
theorem emitted_pair_checks (prime : Nat → Bool) (qBitLen q p : Nat) :
    emittedPairOk prime qBitLen q p = true ↔
      prime q = true ∧ 2 ^ (p - 1) % p = 1 ∧ bitLen q = qBitLen ∧ p = 2 * q + 1 ∧ prime p = true := by
  unfold emittedPairOk safePrimeOf
  simp only [Bool.and_eq_true, beq_iff_eq, pocklington_iff, and_assoc]

/-- with a sound primality test both members are prime, `p = 2q+1`, `q` has exactly the requested length -/
theorem emitted_pair_validates (prime : Nat → Bool) (hsound : ∀ n, prime n = true → Nat.Prime n)
    (qBitLen q p : Nat) (h : emittedPairOk prime qBitLen q p = true) :
    p = 2 * q + 1 ∧ bitLen q = qBitLen ∧ Nat.Prime q ∧ Nat.Prime p := by
  obtain ⟨h1, _, h3, h4, h5⟩ := (emitted_pair_checks prime qBitLen q p).1 h
  exact ⟨h4, h3, hsound q h1, hsound p h5⟩

/-- the test only has to be trusted on `q`: the Pocklington check then PROVES `p` prime -/
theorem emitted_pair_pocklington (prime : Nat → Bool) (qBitLen q p : Nat)
    (h : emittedPairOk prime qBitLen q p = true) (hq : Nat.Prime q) :
    p = 2 * q + 1 ∧ bitLen q = qBitLen ∧ Nat.Prime p := by
  obtain ⟨_, h2, h3', h4, _⟩ := (emitted_pair_checks prime qBitLen q p).1 h
  exact ⟨h4, h3', MiscL.pocklington_2q1 hq h4 h2⟩

theorem sampler_mustGetRandomInt {bits raw v : Nat} (h : mustGetRandomInt bits raw = some v) :
    v < 2 ^ bits - 1 ∧ v = raw % 2 ^ bits :=
  ⟨(mustGetRandomInt_some h).2, (mustGetRandomInt_some h).1⟩

theorem sampler_positive {b : Nat} {cs : List Nat} {v : Nat} (h : getRandomPositiveInt b cs = some v) :
    v < b :=
  (getRandomPositiveInt_some h).1

theorem sampler_relprime {n : Nat} {cs : List Nat} {v : Nat} (h : getRandomRelPrime n cs = some v) :
    1 ≤ v ∧ v < n ∧ Nat.gcd v n = 1 :=
  ⟨(getRandomRelPrime_some h).1, (getRandomRelPrime_some h).2.1, (getRandomRelPrime_some h).2.2.1⟩

theorem sampler_qnr {n : Nat} {cs : List Nat} {w : Nat} (h : getRandomQNR n cs = .ok (some w)) :
    n % 2 = 1 ∧ w < n ∧ J((w : Int) | n) = -1 :=
  ⟨(getRandomQNR_some h).1, (getRandomQNR_some h).2.1, (getRandomQNR_some h).2.2.1⟩

/-- **all range contracts at once**, for every bound and every candidate stream -/
theorem sampler_ranges (bound n bits raw : Nat) (cs : List Nat) :
    (∀ v, mustGetRandomInt bits raw = some v → v < 2 ^ bits - 1) ∧
    (∀ v, getRandomPositiveInt bound cs = some v → v < bound) ∧
    (∀ v, getRandomRelPrime n cs = some v → 1 ≤ v ∧ v < n ∧ Nat.gcd v n = 1) ∧
    (∀ w, getRandomQNR n cs = .ok (some w) → w < n ∧ J((w : Int) | n) = -1) :=
  ⟨fun _ h => (sampler_mustGetRandomInt h).1, fun _ h => sampler_positive h,
    fun _ h => sampler_relprime h, fun _ h => (sampler_qnr h).2⟩

/-- every returned value is one of the offered candidates, masked to the bit length of the bound -/
theorem sampler_from_stream (bound n : Nat) (cs : List Nat) :
    (∀ v, getRandomPositiveInt bound cs = some v → ∃ raw ∈ cs, v = raw % 2 ^ bitLen bound) ∧
    (∀ v, getRandomRelPrime n cs = some v → ∃ raw ∈ cs, v = raw % 2 ^ bitLen n) ∧
    (∀ w, getRandomQNR n cs = .ok (some w) → ∃ raw ∈ cs, w = raw % 2 ^ bitLen n) :=
  ⟨fun _ h => (getRandomPositiveInt_some h).2, fun _ h => (getRandomRelPrime_some h).2.2.2,
    fun _ h => (getRandomQNR_some h).2.2.2⟩

/-- liveness, exactly: the samplers answer iff the stream contains a qualifying candidate -/
theorem sampler_positive_returns_iff (b : Nat) (cs : List Nat) :
    (getRandomPositiveInt b cs).isSome ↔
      ∃ raw ∈ cs, raw % 2 ^ bitLen b < 2 ^ bitLen b - 1 ∧ raw % 2 ^ bitLen b < b := by
  unfold getRandomPositiveInt
  split
  · next h0 => subst h0; simp
  · rw [List.find?_isSome]
    constructor
    · rintro ⟨v, hv, hg⟩
      obtain ⟨raw, hraw, rfl, hlt⟩ := mem_filterMap_must hv
      exact ⟨raw, hraw, hlt, by simpa using hg⟩
    · rintro ⟨raw, hraw, hlt, a⟩
      refine ⟨raw % 2 ^ bitLen b, List.mem_filterMap.2 ⟨raw, hraw, ?_⟩, by simpa using a⟩
      unfold mustGetRandomInt
      simp only [hlt, if_true]

theorem sampler_relprime_returns_iff (n : Nat) (cs : List Nat) :
    (getRandomRelPrime n cs).isSome ↔
      ∃ raw ∈ cs, raw % 2 ^ bitLen n < 2 ^ bitLen n - 1 ∧ 1 ≤ raw % 2 ^ bitLen n ∧
        raw % 2 ^ bitLen n < n ∧ Nat.gcd (raw % 2 ^ bitLen n) n = 1 := by
  unfold getRandomRelPrime
  split
  · next h0 => subst h0; simp
  · rw [List.find?_isSome]
    constructor
    · rintro ⟨v, hv, hg⟩
      obtain ⟨raw, hraw, rfl, hlt⟩ := mem_filterMap_must hv
      obtain ⟨a, b, c⟩ := (inGroup_iff n _).1 hg
      exact ⟨raw, hraw, hlt, a, b, c⟩
    · rintro ⟨raw, hraw, hlt, a, b, c⟩
      refine ⟨raw % 2 ^ bitLen n, List.mem_filterMap.2 ⟨raw, hraw, ?_⟩, (inGroup_iff n _).2 ⟨a, b, c⟩⟩
      unfold mustGetRandomInt
      simp only [hlt, if_true]

/-- **the Go loop never ends for `n = 1`** (and for `n = 0`): no stream makes the sampler return -/
theorem relprime_one_never_returns (cs : List Nat) :
    getRandomRelPrime 1 cs = none ∧ getRandomRelPrime 0 cs = none :=
  ⟨getRandomRelPrime_one cs, rfl⟩

/-- by contrast `GetRandomPositiveInt` with bound 1 does return: `MustGetRandomInt(1)` draws below
`2^1 − 1 = 1`, so the only value it can return is 0 -/
theorem positive_one_returns_zero (cs : List Nat) (v : Nat) (h : getRandomPositiveInt 1 cs = some v) :
    v = 0 := by
  have := sampler_positive h
  omega

/-- the quadratic-non-residue sampler panics exactly on a positive even modulus -/
theorem qnr_panics_iff (n : Nat) (cs : List Nat) :
    (∃ e, getRandomQNR n cs = .panic e) ↔ n ≠ 0 ∧ n % 2 = 0 := by
  unfold getRandomQNR
  by_cases h0 : n = 0
  · simp [h0]
  · by_cases h2 : n % 2 = 0 <;> simp [h0, h2]

/-- **`h1`, `h2`, `alpha`, `beta`**: for safe primes `P = 2p+1 ≠ Q = 2q+1`, `f1` a unit modulo `Ñ = PQ` and
`alpha` a unit modulo `pq`. (Primality of `p`, `q` themselves is not needed for these relations.) -/
theorem preparams_algebra {P Q p q f1 alpha : Nat} (hP : P.Prime) (hQ : Q.Prime)
    (hPp : P = 2 * p + 1) (hQq : Q = 2 * q + 1) (hpq : p ≠ q)
    (hf : Nat.Coprime f1 (P * Q)) (ha : Nat.gcd alpha (p * q) = 1) :
    (preParams p q f1 alpha).ntilde = P * Q ∧
    (preParams p q f1 alpha).h1 = f1 ^ 2 % (P * Q) ∧
    (preParams p q f1 alpha).h2 = (preParams p q f1 alpha).h1 ^ alpha % (P * Q) ∧
    ∃ b, (preParams p q f1 alpha).beta = some b ∧ b < p * q ∧ alpha * b ≡ 1 [MOD p * q] ∧
      (preParams p q f1 alpha).h1 = (preParams p q f1 alpha).h2 ^ b % (P * Q) := by
  have hp1 : 1 ≤ p := by have := hP.two_le; omega
  have hq1 : 1 ≤ q := by have := hQ.two_le; omega
  have hpq2 : 1 < p * q := by
    rcases Nat.lt_or_gt_of_ne hpq with h | h
    · calc 1 < q := by omega
        _ = 1 * q := (Nat.one_mul q).symm
        _ ≤ p * q := Nat.mul_le_mul_right q hp1
    · calc 1 < p := by omega
        _ = p * 1 := (Nat.mul_one p).symm
        _ ≤ p * q := Nat.mul_le_mul_left p hq1
  have hne : P ≠ Q := by omega
  have hnt : safePrimeOf p * safePrimeOf q = P * Q := by rw [hPp, hQq]; rfl
  obtain ⟨b, hb, hinv, hblt⟩ := modInverse_exists (a := (alpha : Int)) (n := p * q) (by omega)
    (by rw [Int.gcd_natCast_natCast]; exact ha)
  have hinv' : alpha * b ≡ 1 [MOD p * q] := by
    have : ((alpha * b : ℕ) : Int) % ((p * q : ℕ) : Int) = ((1 : ℕ) : Int) % ((p * q : ℕ) : Int) := by
      push_cast; push_cast at hinv; exact hinv
    exact_mod_cast this
  unfold preParams
  simp only [hnt, modPow_spec]
  refine ⟨trivial, by rw [pow_two], trivial, b, hb, hblt, hinv', ?_⟩
  have hx : (f1 * f1 % (P * Q)) ^ (p * q) ≡ 1 [MOD P * Q] :=
    ((Nat.mod_modEq _ _).pow _).trans (sq_pow_modEq_one hP hQ hPp hQq hne hf)
  have key : (f1 * f1 % (P * Q)) ^ (alpha * b) ≡ f1 * f1 % (P * Q) [MOD P * Q] :=
    pow_of_exp_modEq_one hpq2 hx hinv'
  rw [← Nat.pow_mod, ← pow_mul]
  have := key
  rw [Nat.ModEq, Nat.mod_mod] at this
  exact this.symm

/-- `h2` is a square too -/
theorem preparams_h2_square (p q f1 alpha : Nat) :
    (preParams p q f1 alpha).h2 = (f1 ^ alpha) ^ 2 % (preParams p q f1 alpha).ntilde := by
  unfold preParams
  simp only [modPow_spec]
  rw [← Nat.pow_mod, ← pow_two, ← pow_mul, ← pow_mul, Nat.mul_comm]

/-- without a unit `alpha` there is no `beta`: Go's `ModInverse` returns nil -/
theorem preparams_beta_none_iff (p q f1 alpha : Nat) :
    (preParams p q f1 alpha).beta = none ↔ p * q = 0 ∨ Nat.gcd alpha (p * q) ≠ 1 := by
  show modInverse (alpha : Int) (p * q) = none ↔ _
  rw [modInverse_eq_none_iff, Int.gcd_natCast_natCast]

/-- two `k`-bit factors with their two top bits set give a modulus of exactly `2k` bits -/
theorem ntilde_bits {P Q k : Nat} (hk : 2 ≤ k) (hPlo : 3 * 2 ^ (k - 2) ≤ P) (hPhi : P < 2 ^ k)
    (hQlo : 3 * 2 ^ (k - 2) ≤ Q) (hQhi : Q < 2 ^ k) : bitLen (P * Q) = 2 * k :=
  (C14.keygen_shape hk hPlo hPhi hQlo hQhi).2.2.2.2.1

/-- the production size -/
theorem ntilde_bits_2048 {P Q : Nat} (hPlo : 3 * 2 ^ 1022 ≤ P) (hPhi : P < 2 ^ 1024)
    (hQlo : 3 * 2 ^ 1022 ≤ Q) (hQhi : Q < 2 ^ 1024) : bitLen (P * Q) = 2048 := by
  have h := ntilde_bits (P := P) (Q := Q) (k := 1024) (by omega)
  simp only [Nat.reduceSub, Nat.reduceMul] at h
  exact h hPlo hPhi hQlo hQhi

/-- end to end: whatever bytes the generator reads, the product of two emitted `p` has exactly `2·pBitLen` bits -/
theorem ntilde_bits_of_candidates (pBitLen : Nat) (bytes1 bytes2 : List UInt8) (hp : 6 ≤ pBitLen)
    (h1 : bytes1.length = (pBitLen - 1 + 7) / 8) (h2 : bytes2.length = (pBitLen - 1 + 7) / 8) :
    bitLen (safePrimeOf (shapeCandidate pBitLen bytes1) * safePrimeOf (shapeCandidate pBitLen bytes2)) =
      2 * pBitLen := by
  obtain ⟨_, _, _, _, _, a1, a2, _⟩ := candidate_shape pBitLen bytes1 hp h1
  obtain ⟨_, _, _, _, _, b1, b2, _⟩ := candidate_shape pBitLen bytes2 hp h2
  exact ntilde_bits (by omega) a1 a2 b1 b2

/-! ## the hypotheses are satisfiable; concrete evaluations -/

section examples

/-- minimum size, all-zero and all-one entropy: `q = 25, p = 51` and `q = 31, p = 63` (6 bits, top bits set) -/
example : shapeCandidate 6 [0x00] = 25 ∧ shapeCandidate 6 [0xff] = 31 := by decide
/-- `qBitLen = 9`: one bit in the first byte, the second top bit goes to the next byte -/
example : shapeCandidate 10 [0x00, 0x00] = 0x181 ∧ shapeCandidate 10 [0xfe, 0x7e] = 0x1ff := by decide
example : shapeCandidate 17 [0x12, 0x34] = 0xd235 := by decide

example : pocklington 23 = true ∧ pocklington 15 = false := by
  constructor
  · rw [pocklington_code]; norm_num
  · rw [Bool.eq_false_iff, Ne, pocklington_code]; norm_num

/-- `q = 11`, `p = 23` passes everything (with trial division as the sound test) -/
example : Nat.Prime 23 :=
  pocklington_2q1 (q := 11) (by norm_num) rfl (by norm_num)

/-- a safe-prime toy instance of `preparams_algebra`: `P = 23`, `Q = 47`, `p = 11`, `q = 23`, `f1 = 2`, `alpha = 3` -/
example : ∃ b, (preParams 11 23 2 3).beta = some b ∧ 3 * b ≡ 1 [MOD 11 * 23] ∧
    (preParams 11 23 2 3).h1 = (preParams 11 23 2 3).h2 ^ b % (23 * 47) := by
  obtain ⟨-, -, -, b, hb, -, hinv, hh⟩ := preparams_algebra (P := 23) (Q := 47) (p := 11) (q := 23)
    (f1 := 2) (alpha := 3) (by norm_num) (by norm_num) rfl rfl (by decide) (by decide) (by decide)
  exact ⟨b, hb, hinv, hh⟩

example : getRandomRelPrime 15 [0, 3, 5, 15, 7, 2] = some 7 := by decide
example : getRandomPositiveInt 10 [15, 12, 9, 3] = some 9 := by decide
example : getRandomRelPrime 1 [0, 1, 2, 3] = none := (relprime_one_never_returns _).1

end examples

end TssVerif.C19
