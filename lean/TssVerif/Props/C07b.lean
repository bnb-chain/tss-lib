import TssVerif.Props.C07
/-! # C07 (continued) — the named delivery schedules of the harness as instances of schedule independence

Corollaries of `Props/C07.lean`. The correspondence drives the real parties under
FIFO, LIFO (newest first), rotated and duplicate-everything schedules; each is here an instance of
`schedule_independent` / `schedule_independent_up_to_duplicates`, for every table, message list and state. -/
set_option autoImplicit false
namespace TssVerif.C07
open TssVerif TssVerif.Engine TssVerif.EngineL

/-- **LIFO equals FIFO**: delivering the messages newest-first leads to the same state -/
theorem lifo_equals_fifo (tbl : List RoundSpec) (ms : List Msg) (p : Party)
    (hg : GoodList tbl p.self ms) (hc : SlotConsistent ms) :
    delivers tbl ms.reverse p = delivers tbl ms p :=
  (schedule_independent tbl ms ms.reverse p (List.reverse_perm ms).symm hg hc).symm

/-- **a rotated schedule** (some suffix of the traffic overtakes the rest) leads to the same state -/
theorem rotated_equals_fifo (tbl : List RoundSpec) (pre suf : List Msg) (p : Party)
    (hg : GoodList tbl p.self (pre ++ suf)) (hc : SlotConsistent (pre ++ suf)) :
    delivers tbl (suf ++ pre) p = delivers tbl (pre ++ suf) p :=
  (schedule_independent tbl (pre ++ suf) (suf ++ pre) p List.perm_append_comm hg hc).symm

/-- **duplicate-everything**: delivering the whole traffic twice leads to the same state as once -/
theorem duplicate_everything (tbl : List RoundSpec) (ms : List Msg) (p : Party)
    (hg : GoodList tbl p.self ms) (hc : SlotConsistent ms) :
    delivers tbl (ms ++ ms) p = delivers tbl ms p :=
  (schedule_independent_up_to_duplicates tbl ms (ms ++ ms) p (fun m => by simp) hg hc).symm

/-- **replay of a prefix at the end** (a retransmission after the fact) changes nothing -/
theorem late_retransmission (tbl : List RoundSpec) (pre suf : List Msg) (p : Party)
    (hg : GoodList tbl p.self (pre ++ suf)) (hc : SlotConsistent (pre ++ suf)) :
    delivers tbl (pre ++ suf ++ pre) p = delivers tbl (pre ++ suf) p :=
  (schedule_independent_up_to_duplicates tbl (pre ++ suf) (pre ++ suf ++ pre) p
    (fun m => by simp only [List.mem_append]; constructor
                 · intro h; exact Or.inl h
                 · rintro (h | h)
                   · exact h
                   · exact Or.inl h) hg hc).symm

end TssVerif.C07
