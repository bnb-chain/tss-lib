import TssVerif.Lemmas.C05Ec
/-! # C05b — one deviating participant in ECDSA key generation rounds 2 and 3: who is named

The objects are the round-level models of `Core/BlameEc.lean`: `round2` (`ecdsa/keygen/round_2.go`: sequential
structural checks on every stored round-1 message — the party's own included —, duplicate detection of
`h1`/`h2` across parties, then the verdicts of the DLN-proof jobs handed to the verifier pool) and
`checkPeer` / `round3` (`round_3.go`: per peer the de-commitment, the decoding of the commitment points, the
modulus proof, the Feldman share check, the no-small-factor proof; EVERY failing peer is named).

Everything holds for every hash function `H`, every parser configuration `pcfg` (the no-panic and
totality theorems are stated for the current one), every curve record `C` (`C.Lawful` only for
`r3_no_panic`), and unboundedly many messages / peers.

Round 2
* `r2_pass_iff`, `r2_scan_none_spawns_all` — the round passes iff no structural check fails and all DLN proofs
  are accepted (no hypothesis is needed: a result `.ok _` already means that every job returned a verdict);
* `r2_culprits_are_senders` — whoever is named sent one of the stored messages;
* `r2_structural_blames_sender`, `r2_duplicateCulprits` — a size/shape failure names the sender; a clash names
  the OTHER party when one of the two clashing messages is the reporting party's own, and nobody otherwise;
* `HonestOthers` — the hypotheses "every party except `dev` is honest" as far as round 2 sees them;
  `r2_single_deviator` (errors name nobody but the deviator), `r2_covered_alteration_blamed` (an invalid DLN
  proof), `r2_bad_size_blamed`, `r2_duplicate_with_own_blames_other`, `r2_duplicate_with_third_names_nobody`
  (both in either order of the two messages), `r2_duplicate_general`;
* `r2_no_panic`, `r2_dev_jobs_return`, `r2_returns` — on the current tree the pool jobs and the round always
  return a verdict.

Round 3
* `r3_culprit_iff`, `r3_culprits_sublist`, `r3_never_names_self`, `r3_single_deviator_blamed_exactly`;
* `checkPeer_pass_iff` and the four covered-alteration theorems `r3_bad_decommit_blamed`, `r3_bad_mod_blamed`,
  `r3_bad_share_blamed`, `r3_bad_fac_blamed`, collected in `r3_covered_alteration_blamed`;
* `r3_no_panic` (hypotheses: `C.Lawful`, cofactor 1 on a curve whose identity has no affine form, non-empty
  de-commitments — needed: `r3_empty_decommitment_panics_witness`). -/
set_option autoImplicit false
namespace TssVerif.C05b
open TssVerif BlameEc C05EcL C06L

/-! ## Round 2 -/
section r2
variable (H : HashFn) (pcfg : ParseCfg)

/-- the round passes iff the loop finds no structural failure and both DLN proofs of every message
handed to the pool are accepted. (The side condition "every job returns a verdict" is not needed, it follows
from either side.) -/
theorem r2_pass_iff (own : Nat) (msgs : List R1Msg) :
    round2 H pcfg own msgs = .ok .pass ↔
      (scan own [] msgs).2 = none ∧
      ∀ m ∈ (scan own [] msgs).1, dlnCheck H pcfg m.dln1 m.h1 m.h2 m.nTilde = .ok true ∧
        dlnCheck H pcfg m.dln2 m.h2 m.h1 m.nTilde = .ok true := by
  rw [round2_eq, poolRound_pass_iff, forall_mem_pair]
  exact ⟨fun ⟨h, h1, h2⟩ => ⟨h, fun m hm => ⟨h1 m hm, h2 m hm⟩⟩,
    fun ⟨h, h12⟩ => ⟨h, fun m hm => (h12 m hm).1, fun m hm => (h12 m hm).2⟩⟩

/-- without a structural failure every stored message is handed to the pool -/
theorem r2_scan_none_spawns_all (own : Nat) (msgs : List R1Msg) (h : (scan own [] msgs).2 = none) :
    (scan own [] msgs).1 = msgs :=
  scan_none_spawns_all own msgs h

/-- … so: pass ⟺ no structural failure and every stored message (the party's own too) has two valid proofs -/
theorem r2_pass_iff_all (own : Nat) (msgs : List R1Msg) :
    round2 H pcfg own msgs = .ok .pass ↔
      (scan own [] msgs).2 = none ∧
      ∀ m ∈ msgs, dlnCheck H pcfg m.dln1 m.h1 m.h2 m.nTilde = .ok true ∧
        dlnCheck H pcfg m.dln2 m.h2 m.h1 m.nTilde = .ok true := by
  rw [r2_pass_iff]
  constructor
  · rintro ⟨h1, h2⟩
    exact ⟨h1, by rw [r2_scan_none_spawns_all own msgs h1] at h2; exact h2⟩
  · rintro ⟨h1, h2⟩
    exact ⟨h1, by rw [r2_scan_none_spawns_all own msgs h1]; exact h2⟩

/-- every culprit is the sender of one of the stored messages -/
theorem r2_culprits_are_senders (own : Nat) (msgs : List R1Msg) (why : String) (cs : List Nat)
    (h : round2 H pcfg own msgs = .ok (.fail why cs)) : ∀ c ∈ cs, ∃ m ∈ msgs, m.idx = c := by
  rw [round2_eq] at h
  rcases poolRound_fail_inv _ _ _ _ h with hf | ⟨_, _, c, rfl, _, _, m, hm, hi, _⟩
  · exact scan_failure_senders own msgs _ _ hf
  · intro c' hc'
    rw [List.mem_singleton.1 hc']
    exact ⟨m, scan_spawned_subset own msgs [] m hm, hi⟩

/-- the three size/shape failures name the sender of the message -/
theorem r2_structural_blames_sender (own : Nat) (seen : List (Nat × Nat)) (m : R1Msg) (why : String)
    (cs : List Nat) (h : structural own seen m = some (why, cs))
    (hw : why = "got paillier modulus with insufficient bits for this party" ∨
      why = "h1j and h2j were equal for this party" ∨
      why = "got NTildej with insufficient bits for this party") : cs = [m.idx] := by
  rcases structural_some_cases own seen m why cs h with ⟨_, hcs, _⟩ | ⟨_, hd, _⟩
  · exact hcs
  · exfalso
    rcases hd with hd | hd <;> rcases hw with hw | hw | hw <;>
      exact absurd (hd.symm.trans hw) (by decide)

/-- … and conversely a failure is either one of these three (culprit: the sender) or a duplicate (culprits:
`duplicateCulprits` of the sender and the index stored with the clashing value) -/
theorem r2_structural_failure_cases (own : Nat) (seen : List (Nat × Nat)) (m : R1Msg) (why : String)
    (cs : List Nat) (h : structural own seen m = some (why, cs)) :
    (cs = [m.idx] ∧ (why = "got paillier modulus with insufficient bits for this party" ∨
      why = "h1j and h2j were equal for this party" ∨
      why = "got NTildej with insufficient bits for this party")) ∨
    ((why = "this h1j was already used by another party" ∨
        why = "this h2j was already used by another party") ∧
      ∃ k, ((m.h1, k) ∈ seen ∨ (m.h2, k) ∈ seen) ∧ cs = duplicateCulprits own m.idx k) := by
  rcases structural_some_cases own seen m why cs h with ⟨_, hcs, hw⟩ | ⟨_, hd, hk⟩
  · exact Or.inl ⟨hcs, hw⟩
  · exact Or.inr ⟨hd, hk⟩

/-- `duplicateCulprits own j k`: a subset of `{j, k}` that never contains `own` (whether or not
`j = k`); it is `[k]` when `j = own ≠ k`, `[j]` when `k = own ≠ j`, and empty otherwise -/
theorem r2_duplicateCulprits (own j k : Nat) :
    (∀ c ∈ duplicateCulprits own j k, c = j ∨ c = k) ∧
    own ∉ duplicateCulprits own j k ∧
    (j = own → k ≠ own → duplicateCulprits own j k = [k]) ∧
    (k = own → j ≠ own → duplicateCulprits own j k = [j]) ∧
    (j ≠ own → k ≠ own → duplicateCulprits own j k = []) ∧
    (j = own → k = own → duplicateCulprits own j k = []) :=
  ⟨dup_subset own j k, dup_not_own own j k, fun hj hk => by subst hj; exact dup_own_left hk,
    fun hk hj => by subst hk; exact dup_own_right hj, fun hj hk => dup_neither hj hk,
    fun hj hk => by subst hj hk; exact dup_both⟩

/-! ### one deviator -/

/-- **every party other than `dev` is honest**, as far as round 2 of the party `own` sees it: the indices of
the stored messages are pairwise distinct; every message not from `dev` (so also `own`'s) has a 2048-bit
Paillier modulus, `h1 ≠ h2`, a 2048-bit `NTilde` and two DLN proofs that the pool accepts; and no two such
messages share a value `h1`/`h2` -/
structure HonestOthers (own dev : Nat) (msgs : List R1Msg) : Prop where
  dev_ne_own : dev ≠ own
  idx_distinct : (msgs.map (·.idx)).Nodup
  sizes : ∀ m ∈ msgs, m.idx ≠ dev → bitLen m.paillierN = 2048 ∧ m.h1 ≠ m.h2 ∧ bitLen m.nTilde = 2048
  no_clash : ∀ m ∈ msgs, ∀ m' ∈ msgs, m.idx ≠ dev → m'.idx ≠ dev → m.idx ≠ m'.idx →
    m.h1 ≠ m'.h1 ∧ m.h1 ≠ m'.h2 ∧ m.h2 ≠ m'.h1 ∧ m.h2 ≠ m'.h2
  dln : ∀ m ∈ msgs, m.idx ≠ dev → dlnCheck H pcfg m.dln1 m.h1 m.h2 m.nTilde = .ok true ∧
    dlnCheck H pcfg m.dln2 m.h2 m.h1 m.nTilde = .ok true

/-- the two pool jobs on the deviator's message return a verdict (they always do on the current tree,
`r2_dev_jobs_return`: a proof that does not decode counts as invalid and the verifier only answers yes or no) -/
def DevJobsReturn (dev : Nat) (msgs : List R1Msg) : Prop :=
  ∀ m ∈ msgs, m.idx = dev → (∃ b, dlnCheck H pcfg m.dln1 m.h1 m.h2 m.nTilde = .ok b) ∧
    ∃ b, dlnCheck H pcfg m.dln2 m.h2 m.h1 m.nTilde = .ok b

variable {H pcfg}

theorem HonestOthers.oneDev {own dev : Nat} {msgs : List R1Msg} (h : HonestOthers H pcfg own dev msgs) :
    OneDev own dev msgs :=
  ⟨h.dev_ne_own, h.idx_distinct, h.sizes,
    fun m hm m' hm' h1 h2 h3 => C05L.not_or₄ (h.no_clash m hm m' hm' h1 h2 h3)⟩

theorem HonestOthers.dlnOk {own dev : Nat} {msgs : List R1Msg} (h : HonestOthers H pcfg own dev msgs)
    (hj : DevJobsReturn H pcfg dev msgs) : DlnOk H pcfg dev msgs := ⟨h.dln, hj⟩

/-- **errors name nobody but the deviator**: the round passes, or fails naming at most `dev` -/
theorem r2_single_deviator {own dev : Nat} {msgs : List R1Msg} (hh : HonestOthers H pcfg own dev msgs)
    (hj : DevJobsReturn H pcfg dev msgs) :
    round2 H pcfg own msgs = .ok .pass ∨
      ∃ why cs, round2 H pcfg own msgs = .ok (.fail why cs) ∧ ∀ c ∈ cs, c = dev := by
  have hk := hh.dlnOk hj
  cases hf : (scan own [] msgs).2 with
  | some f =>
    obtain ⟨why, cs⟩ := f
    exact Or.inr ⟨why, cs, hk.round2_of_scan_some hf, hh.oneDev.scan_failure_dev hf⟩
  | none =>
    rw [round2_eq, hf]
    rcases poolRound_of_dev _ _ _ (hk.jobs (own := own)).1 hk.jobs.2 with h | h
    · exact Or.inl h
    · exact Or.inr ⟨_, _, h, fun c hc => List.mem_singleton.1 hc⟩

set_option linter.unusedVariables false in
/-- **an invalid DLN proof is blamed on its sender**: no structural failure, and one of the two jobs on
the deviator's message says "invalid". (Of `HonestOthers` only the field `dln` is used, and `hdev` not at all: by
`dln` a message with an invalid proof can only be the deviator's.) -/
theorem r2_covered_alteration_blamed {own dev : Nat} {msgs : List R1Msg}
    (hh : HonestOthers H pcfg own dev msgs) (hj : DevJobsReturn H pcfg dev msgs)
    (hscan : (scan own [] msgs).2 = none) (md : R1Msg) (hmd : md ∈ msgs) (hdev : md.idx = dev)
    (hbad : dlnCheck H pcfg md.dln1 md.h1 md.h2 md.nTilde = .ok false ∨
      dlnCheck H pcfg md.dln2 md.h2 md.h1 md.nTilde = .ok false) :
    round2 H pcfg own msgs = .ok (.fail "dln proof verification failed" [dev]) := by
  have hk := hh.dlnOk hj
  rw [round2_eq, hscan]
  have hmd' : md ∈ (scan own [] msgs).1 := by rw [scan_none_spawns_all own msgs hscan]; exact hmd
  rcases hbad with hb | hb
  · exact poolRound_bad_job _ _ _ (hk.jobs (own := own)).1 hk.jobs.2 (List.mem_cons_self ..) hmd' hb
  · exact poolRound_bad_job _ _ _ (hk.jobs (own := own)).1 hk.jobs.2
      (List.mem_cons_of_mem _ (List.mem_cons_self ..)) hmd' hb

/-- **a wrong size or `h1 = h2` is blamed on its sender** (no hypothesis on the deviator's proofs: they
are never handed to the pool) -/
theorem r2_bad_size_blamed {own dev : Nat} {msgs : List R1Msg} (hh : HonestOthers H pcfg own dev msgs)
    (md : R1Msg) (hmd : md ∈ msgs) (hdev : md.idx = dev)
    (hbad : bitLen md.paillierN ≠ 2048 ∨ md.h1 = md.h2 ∨ bitLen md.nTilde ≠ 2048) :
    ∃ why, round2 H pcfg own msgs = .ok (.fail why [dev]) ∧
      (why = "got paillier modulus with insufficient bits for this party" ∨
        why = "h1j and h2j were equal for this party" ∨
        why = "got NTildej with insufficient bits for this party") :=
  round2_bad_size hh.oneDev hh.dln hmd hdev (fun ⟨a, b, c⟩ => by
    rcases hbad with h | h | h
    · exact h a
    · exact b h
    · exact h c)

/-- **general form**: the deviator's (structurally fine) message shares a value with an honest one.
Then the round fails with a duplicate error whose culprits are `duplicateCulprits` applied to `dev` and the
index of an honest message `other` sharing a value with the deviator's — in the order in which the loop met
the two -/
theorem r2_duplicate_general {own dev : Nat} {msgs : List R1Msg} (hh : HonestOthers H pcfg own dev msgs)
    (hj : DevJobsReturn H pcfg dev msgs) (md mx : R1Msg) (hmd : md ∈ msgs) (hdev : md.idx = dev)
    (hsz : bitLen md.paillierN = 2048 ∧ md.h1 ≠ md.h2 ∧ bitLen md.nTilde = 2048)
    (hmx : mx ∈ msgs) (hx : mx.idx ≠ dev)
    (hc : md.h1 = mx.h1 ∨ md.h1 = mx.h2 ∨ md.h2 = mx.h1 ∨ md.h2 = mx.h2) :
    ∃ why cs other, round2 H pcfg own msgs = .ok (.fail why cs) ∧
      (why = "this h1j was already used by another party" ∨
        why = "this h2j was already used by another party") ∧
      other ∈ msgs ∧ other.idx ≠ dev ∧
      (md.h1 = other.h1 ∨ md.h1 = other.h2 ∨ md.h2 = other.h1 ∨ md.h2 = other.h2) ∧
      (cs = duplicateCulprits own dev other.idx ∨ cs = duplicateCulprits own other.idx dev) := by
  obtain ⟨why, cs, other, hr, rest⟩ := hh.oneDev.scan_clash (own := own) hmd hdev hsz hmx hx hc
  exact ⟨why, cs, other, (hh.dlnOk hj).round2_of_scan_some hr, rest⟩

/-- **copying a value of the reporting party is blamed on the copier**, whichever of the two messages
is stored first. `hthird`: the deviator's message shares no value with a third party's (otherwise the
lookup may find that one first, see `r2_duplicate_with_third_names_nobody`) -/
theorem r2_duplicate_with_own_blames_other {own dev : Nat} {msgs : List R1Msg}
    (hh : HonestOthers H pcfg own dev msgs) (hj : DevJobsReturn H pcfg dev msgs)
    (md mo : R1Msg) (hmd : md ∈ msgs) (hdev : md.idx = dev)
    (hsz : bitLen md.paillierN = 2048 ∧ md.h1 ≠ md.h2 ∧ bitLen md.nTilde = 2048)
    (hmo : mo ∈ msgs) (hown : mo.idx = own)
    (hc : md.h1 = mo.h1 ∨ md.h1 = mo.h2 ∨ md.h2 = mo.h1 ∨ md.h2 = mo.h2)
    (hthird : ∀ m ∈ msgs, m.idx ≠ dev → m.idx ≠ own →
      md.h1 ≠ m.h1 ∧ md.h1 ≠ m.h2 ∧ md.h2 ≠ m.h1 ∧ md.h2 ≠ m.h2) :
    ∃ why, round2 H pcfg own msgs = .ok (.fail why [dev]) ∧
      (why = "this h1j was already used by another party" ∨
        why = "this h2j was already used by another party") := by
  obtain ⟨why, hr, hw⟩ := hh.oneDev.scan_clash_with_own hmd hdev hsz hmo hown hc
    (fun m hm h1 h2 => C05L.not_or₄ (hthird m hm h1 h2))
  exact ⟨why, (hh.dlnOk hj).round2_of_scan_some hr, hw⟩

/-- **copying a value of a third party names nobody** — whether the third party's message is stored
before or after the deviator's. `hnown`: the deviator's message shares no value with the reporting party's -/
theorem r2_duplicate_with_third_names_nobody {own dev : Nat} {msgs : List R1Msg}
    (hh : HonestOthers H pcfg own dev msgs) (hj : DevJobsReturn H pcfg dev msgs)
    (md mt : R1Msg) (hmd : md ∈ msgs) (hdev : md.idx = dev)
    (hsz : bitLen md.paillierN = 2048 ∧ md.h1 ≠ md.h2 ∧ bitLen md.nTilde = 2048)
    (hmt : mt ∈ msgs) (ht : mt.idx ≠ dev)
    (hc : md.h1 = mt.h1 ∨ md.h1 = mt.h2 ∨ md.h2 = mt.h1 ∨ md.h2 = mt.h2)
    (hnown : ∀ m ∈ msgs, m.idx = own → md.h1 ≠ m.h1 ∧ md.h1 ≠ m.h2 ∧ md.h2 ≠ m.h1 ∧ md.h2 ≠ m.h2) :
    ∃ why, round2 H pcfg own msgs = .ok (.fail why []) ∧
      (why = "this h1j was already used by another party" ∨
        why = "this h2j was already used by another party") := by
  obtain ⟨why, hr, hw⟩ := hh.oneDev.scan_clash_with_third hmd hdev hsz hmt ht hc
    (fun m hm h1 => C05L.not_or₄ (hnown m hm h1))
  exact ⟨why, (hh.dlnOk hj).round2_of_scan_some hr, hw⟩

/-- **round 2 never crashes** on the current tree, whatever is stored -/
theorem r2_no_panic (H : HashFn) (own : Nat) (msgs : List R1Msg) (tag : String) :
    round2 H Ops16.curParse own msgs ≠ .panic tag := by
  rw [round2_eq]
  exact poolRound_noPanic _ _ _ _ (forall_mem_pair.2
    ⟨fun _ _ => dlnCheck_noPanic H _ _ _ _, fun _ _ => dlnCheck_noPanic H _ _ _ _⟩) tag

/-- … more: every pool job returns a verdict (a proof that does not decode counts as invalid, the verifier
answers yes or no), so `DevJobsReturn` always holds on the current tree and the round always returns -/
theorem r2_dev_jobs_return (H : HashFn) (dev : Nat) (msgs : List R1Msg) :
    DevJobsReturn H Ops16.curParse dev msgs :=
  fun _ _ _ => ⟨dlnCheck_total H _ _ _ _, dlnCheck_total H _ _ _ _⟩

theorem r2_returns (H : HashFn) (own : Nat) (msgs : List R1Msg) :
    ∃ v, round2 H Ops16.curParse own msgs = .ok v :=
  ⟨_, round2_of_checks_ok H _ own msgs (fun _ _ => dlnCheck_total H _ _ _ _)
    (fun _ _ => dlnCheck_total H _ _ _ _)⟩

end r2

/-! ## Round 3 -/
section r3
variable {P : Type} (C : Curve P) (H : HashFn)
variable (zcfg : Zk.Cfg) (vcfg : Vss.VerifyCfg) (noMod noFac : Bool) (threshold ownId : Nat) (ssid : Bytes)
  (nt h1 h2 : Nat)

/-- **exactly the failing peers are named** -/
theorem r3_culprit_iff (peers : List R2Peer) (cs : List Nat)
    (h : round3 C H zcfg vcfg noMod noFac threshold ownId ssid nt h1 h2 peers = .ok cs) (j : Nat) :
    j ∈ cs ↔ ∃ p ∈ peers, p.idx = j ∧
      ∃ why, checkPeer C H zcfg vcfg noMod noFac threshold ownId ssid nt h1 h2 p = .ok (some why) := by
  simp only [round3_ok C H zcfg vcfg noMod noFac threshold ownId ssid nt h1 h2 peers cs h, C05SgL.mem_named,
    ok_isSome_iff]

/-- **the names are a sub-list of the peer indices** (peer order is preserved; no duplicates when the
indices are distinct) -/
theorem r3_culprits_sublist (peers : List R2Peer) (cs : List Nat)
    (h : round3 C H zcfg vcfg noMod noFac threshold ownId ssid nt h1 h2 peers = .ok cs) :
    cs.Sublist (peers.map (·.idx)) ∧ ((peers.map (·.idx)).Nodup → cs.Nodup) := by
  have hsub : cs.Sublist (peers.map (·.idx)) := by
    rw [round3_ok C H zcfg vcfg noMod noFac threshold ownId ssid nt h1 h2 peers cs h]
    exact C05SgL.named_sublist _ _ _ _
  exact ⟨hsub, fun hnd => hnd.sublist hsub⟩

/-- in particular the party never names itself (its own index is not among the peers') -/
theorem r3_never_names_self (peers : List R2Peer) (cs : List Nat) (self : Nat)
    (hself : ∀ p ∈ peers, p.idx ≠ self)
    (h : round3 C H zcfg vcfg noMod noFac threshold ownId ssid nt h1 h2 peers = .ok cs) : self ∉ cs := by
  intro hm
  obtain ⟨p, hp, he⟩ := List.mem_map.1
    ((r3_culprits_sublist C H zcfg vcfg noMod noFac threshold ownId ssid nt h1 h2 peers cs h).1.subset hm)
  exact hself p hp he

/-- **exactly the deviator is named**: every peer other than `dev` passes; if `dev`'s record fails
(indices distinct) the round returns `[dev]`, if it passes too the round returns `[]` -/
theorem r3_single_deviator_blamed_exactly (peers : List R2Peer) (dev : Nat)
    (hothers : ∀ p ∈ peers, p.idx ≠ dev →
      checkPeer C H zcfg vcfg noMod noFac threshold ownId ssid nt h1 h2 p = .ok none) :
    (∀ d ∈ peers, d.idx = dev → (peers.map (·.idx)).Nodup →
      (∃ why, checkPeer C H zcfg vcfg noMod noFac threshold ownId ssid nt h1 h2 d = .ok (some why)) →
      round3 C H zcfg vcfg noMod noFac threshold ownId ssid nt h1 h2 peers = .ok [dev]) ∧
    ((∀ d ∈ peers, d.idx = dev →
      checkPeer C H zcfg vcfg noMod noFac threshold ownId ssid nt h1 h2 d = .ok none) →
      round3 C H zcfg vcfg noMod noFac threshold ownId ssid nt h1 h2 peers = .ok []) := by
  obtain ⟨_, _, h3, h4⟩ := C05SgL.namingRound_single_deviator (·.idx) Option.isSome
    (checkPeer C H zcfg vcfg noMod noFac threshold ownId ssid nt h1 h2) (fun cs _ => cs) peers dev
    fun p hp hne => ok_isSome_false_iff.2 (hothers p hp hne)
  rw [round3_eq]
  refine ⟨fun d hd hdev hnd hbad => ?_, fun hdev => ?_⟩
  · obtain ⟨_, _, h⟩ := h3 d hd hdev hnd (ok_isSome_iff.2 hbad)
    exact h
  · obtain ⟨_, _, h⟩ := h4 fun d hd he => ok_isSome_false_iff.2 (hdev d hd he)
    exact h

/-- **exact pass condition of the per-peer check**: the de-commitment opens the round-1 commitment, the
opened values are curve points `vs`, the modulus proof decodes and verifies under `ssid ‖ bytes(idx)` — or
does not decode and `noMod` is set —, the share passes the Feldman check against `vs`, and the same for the
no-small-factor proof -/
theorem checkPeer_pass_iff (p : R2Peer) :
    checkPeer C H zcfg vcfg noMod noFac threshold ownId ssid nt h1 h2 p = .ok none ↔
      ∃ flat vs, decommitWith H p.commitment (p.decommitment.map Int.ofNat) = .ok (some flat) ∧
        C.unflatten (flat.map Int.toNat) = some vs ∧
        ((∃ w xs a b zs, modFromBytes p.modProof = some (w, xs, a, b, zs) ∧
            Zk.modVerify zcfg H (Blame.contextJ ssid p.idx) w (xs.map Int.ofNat) a b (zs.map Int.ofNat)
              p.paillierN = .ok true) ∨
          (modFromBytes p.modProof = none ∧ noMod = true)) ∧
        Vss.verify C vcfg threshold ⟨threshold, ownId, p.share⟩ vs = .ok true ∧
        ((∃ pf, facFromBytes p.facProof = some pf ∧
            Zk.facVerify zcfg H C.q (Blame.contextJ ssid p.idx) p.paillierN nt h1 h2 pf = .ok true) ∨
          (facFromBytes p.facProof = none ∧ noFac = true)) := by
  rw [checkPeer_none_iff, modOutcome_iff, facOutcome_iff]

/-- the de-commitment does not open the commitment of round 1 -/
theorem r3_bad_decommit_blamed (p : R2Peer)
    (h : decommitWith H p.commitment (p.decommitment.map Int.ofNat) = .ok none) :
    checkPeer C H zcfg vcfg noMod noFac threshold ownId ssid nt h1 h2 p =
      .ok (some "de-commitment verify failed") := by
  rw [checkPeer_eq, h]
  rfl

/-- the opened values are not curve points (a format failure, also blamed) -/
theorem r3_bad_points_blamed (p : R2Peer) (flat : List Int)
    (hd : decommitWith H p.commitment (p.decommitment.map Int.ofNat) = .ok (some flat))
    (hu : C.unflatten (flat.map Int.toNat) = none) :
    checkPeer C H zcfg vcfg noMod noFac threshold ownId ssid nt h1 h2 p = .ok (some "unflatten") := by
  rw [checkPeer_eq, hd]
  simp only [Outcome.ok_bind, hu]

/-- the modulus proof decodes but the verifier rejects it (altered proof, altered Paillier modulus, or a
proof made for another index or session) — or it does not decode and the party does not tolerate that -/
theorem r3_bad_mod_blamed (p : R2Peer) (flat : List Int) (vs : List ECPoint)
    (hd : decommitWith H p.commitment (p.decommitment.map Int.ofNat) = .ok (some flat))
    (hu : C.unflatten (flat.map Int.toNat) = some vs)
    (hm : (∃ w xs a b zs, modFromBytes p.modProof = some (w, xs, a, b, zs) ∧
        Zk.modVerify zcfg H (Blame.contextJ ssid p.idx) w (xs.map Int.ofNat) a b (zs.map Int.ofNat)
          p.paillierN = .ok false) ∨
      (modFromBytes p.modProof = none ∧ noMod = false)) :
    checkPeer C H zcfg vcfg noMod noFac threshold ownId ssid nt h1 h2 p =
      .ok (some "modProof verify failed") := by
  rw [checkPeer_points C H zcfg vcfg noMod noFac threshold ownId ssid nt h1 h2 p flat vs hd hu]
  unfold peerTail
  rw [(modOutcome_iff H zcfg noMod ssid p false).2 hm]
  rfl

/-- the earlier steps pass and the share fails the Feldman check -/
theorem r3_bad_share_blamed (p : R2Peer) (flat : List Int) (vs : List ECPoint)
    (hd : decommitWith H p.commitment (p.decommitment.map Int.ofNat) = .ok (some flat))
    (hu : C.unflatten (flat.map Int.toNat) = some vs)
    (hm : (∃ w xs a b zs, modFromBytes p.modProof = some (w, xs, a, b, zs) ∧
        Zk.modVerify zcfg H (Blame.contextJ ssid p.idx) w (xs.map Int.ofNat) a b (zs.map Int.ofNat)
          p.paillierN = .ok true) ∨
      (modFromBytes p.modProof = none ∧ noMod = true))
    (hv : Vss.verify C vcfg threshold ⟨threshold, ownId, p.share⟩ vs = .ok false) :
    checkPeer C H zcfg vcfg noMod noFac threshold ownId ssid nt h1 h2 p = .ok (some "vss verify failed") := by
  rw [checkPeer_points C H zcfg vcfg noMod noFac threshold ownId ssid nt h1 h2 p flat vs hd hu]
  unfold peerTail
  rw [(modOutcome_iff H zcfg noMod ssid p true).2 hm]
  simp only [Outcome.ok_bind, hv]
  rfl

/-- the earlier steps pass and the no-small-factor proof decodes but is rejected — or it does not decode and
the party does not tolerate that -/
theorem r3_bad_fac_blamed (p : R2Peer) (flat : List Int) (vs : List ECPoint)
    (hd : decommitWith H p.commitment (p.decommitment.map Int.ofNat) = .ok (some flat))
    (hu : C.unflatten (flat.map Int.toNat) = some vs)
    (hm : (∃ w xs a b zs, modFromBytes p.modProof = some (w, xs, a, b, zs) ∧
        Zk.modVerify zcfg H (Blame.contextJ ssid p.idx) w (xs.map Int.ofNat) a b (zs.map Int.ofNat)
          p.paillierN = .ok true) ∨
      (modFromBytes p.modProof = none ∧ noMod = true))
    (hv : Vss.verify C vcfg threshold ⟨threshold, ownId, p.share⟩ vs = .ok true)
    (hf : (∃ pf, facFromBytes p.facProof = some pf ∧
        Zk.facVerify zcfg H C.q (Blame.contextJ ssid p.idx) p.paillierN nt h1 h2 pf = .ok false) ∨
      (facFromBytes p.facProof = none ∧ noFac = false)) :
    checkPeer C H zcfg vcfg noMod noFac threshold ownId ssid nt h1 h2 p =
      .ok (some "facProof verify failed") := by
  rw [checkPeer_points C H zcfg vcfg noMod noFac threshold ownId ssid nt h1 h2 p flat vs hd hu]
  unfold peerTail
  rw [(modOutcome_iff H zcfg noMod ssid p true).2 hm]
  simp only [Outcome.ok_bind, hv, (facOutcome_iff C H zcfg noFac ssid nt h1 h2 p false).2 hf]
  rfl

/-- one of the four covered checks fails on the messages of `p` -/
inductive R3CoveredFailure (C : Curve P) (H : HashFn) (zcfg : Zk.Cfg) (vcfg : Vss.VerifyCfg) (noMod : Bool)
    (threshold ownId : Nat) (ssid : Bytes) (nt h1 h2 : Nat) (p : R2Peer) : Prop
  | decommit (h : decommitWith H p.commitment (p.decommitment.map Int.ofNat) = .ok none)
  | mod (flat : List Int) (vs : List ECPoint) (w : Nat) (xs : List Nat) (a b : Nat) (zs : List Nat)
      (hd : decommitWith H p.commitment (p.decommitment.map Int.ofNat) = .ok (some flat))
      (hu : C.unflatten (flat.map Int.toNat) = some vs)
      (hdec : modFromBytes p.modProof = some (w, xs, a, b, zs))
      (hm : Zk.modVerify zcfg H (Blame.contextJ ssid p.idx) w (xs.map Int.ofNat) a b (zs.map Int.ofNat)
        p.paillierN = .ok false)
  | share (flat : List Int) (vs : List ECPoint)
      (hd : decommitWith H p.commitment (p.decommitment.map Int.ofNat) = .ok (some flat))
      (hu : C.unflatten (flat.map Int.toNat) = some vs)
      (hm : (∃ w xs a b zs, modFromBytes p.modProof = some (w, xs, a, b, zs) ∧
          Zk.modVerify zcfg H (Blame.contextJ ssid p.idx) w (xs.map Int.ofNat) a b (zs.map Int.ofNat)
            p.paillierN = .ok true) ∨
        (modFromBytes p.modProof = none ∧ noMod = true))
      (hv : Vss.verify C vcfg threshold ⟨threshold, ownId, p.share⟩ vs = .ok false)
  | fac (flat : List Int) (vs : List ECPoint) (pf : Zk.FacProof)
      (hd : decommitWith H p.commitment (p.decommitment.map Int.ofNat) = .ok (some flat))
      (hu : C.unflatten (flat.map Int.toNat) = some vs)
      (hm : (∃ w xs a b zs, modFromBytes p.modProof = some (w, xs, a, b, zs) ∧
          Zk.modVerify zcfg H (Blame.contextJ ssid p.idx) w (xs.map Int.ofNat) a b (zs.map Int.ofNat)
            p.paillierN = .ok true) ∨
        (modFromBytes p.modProof = none ∧ noMod = true))
      (hv : Vss.verify C vcfg threshold ⟨threshold, ownId, p.share⟩ vs = .ok true)
      (hdec : facFromBytes p.facProof = some pf)
      (hf : Zk.facVerify zcfg H C.q (Blame.contextJ ssid p.idx) p.paillierN nt h1 h2 pf = .ok false)

/-- **a covered alteration is blamed on its sender**: the check of that peer names it, hence (when the round
returns) its index is in the culprit list -/
theorem r3_covered_alteration_blamed (p : R2Peer)
    (hf : R3CoveredFailure C H zcfg vcfg noMod threshold ownId ssid nt h1 h2 p) :
    (∃ why, checkPeer C H zcfg vcfg noMod noFac threshold ownId ssid nt h1 h2 p = .ok (some why)) ∧
    ∀ peers cs, p ∈ peers →
      round3 C H zcfg vcfg noMod noFac threshold ownId ssid nt h1 h2 peers = .ok cs → p.idx ∈ cs := by
  have hbad : ∃ why, checkPeer C H zcfg vcfg noMod noFac threshold ownId ssid nt h1 h2 p = .ok (some why) := by
    cases hf with
    | decommit h => exact ⟨_, r3_bad_decommit_blamed C H zcfg vcfg noMod noFac threshold ownId ssid nt h1 h2 p h⟩
    | mod flat vs w xs a b zs hd hu hdec hm =>
      exact ⟨_, r3_bad_mod_blamed C H zcfg vcfg noMod noFac threshold ownId ssid nt h1 h2 p flat vs hd hu
        (Or.inl ⟨w, xs, a, b, zs, hdec, hm⟩)⟩
    | share flat vs hd hu hm hv =>
      exact ⟨_, r3_bad_share_blamed C H zcfg vcfg noMod noFac threshold ownId ssid nt h1 h2 p flat vs hd hu hm hv⟩
    | fac flat vs pf hd hu hm hv hdec hf =>
      exact ⟨_, r3_bad_fac_blamed C H zcfg vcfg noMod noFac threshold ownId ssid nt h1 h2 p flat vs hd hu hm hv
        (Or.inl ⟨pf, hdec, hf⟩)⟩
  refine ⟨hbad, fun peers cs hp h => ?_⟩
  exact (r3_culprit_iff C H zcfg vcfg noMod noFac threshold ownId ssid nt h1 h2 peers cs h p.idx).2
    ⟨p, hp, rfl, hbad⟩

/-- **the per-peer check of round 3 never crashes** on the current tree, for a non-empty de-commitment -/
theorem r3_check_no_panic (hC : C.Lawful)
    (hcof : C.toAffine C.zero = none → ∀ p, C.smul C.q p = C.zero)
    (p : R2Peer) (hd : p.decommitment ≠ []) (tag : String) :
    checkPeer C H Zk.cur ⟨true⟩ noMod noFac threshold ownId ssid nt h1 h2 p ≠ .panic tag := by
  revert tag
  show NoPanic _
  rw [checkPeer_eq]
  refine NoPanic.bind (C05L.decommit_noPanic H _ _ hd) fun o _ => ?_
  cases o with
  | none => exact NoPanic.ok _
  | some flat =>
    dsimp only
    cases hu : C.unflatten (flat.map Int.toNat) with
    | none => exact NoPanic.ok _
    | some vs =>
      dsimp only
      unfold peerTail
      np_bind (modOutcome_noPanic H noMod ssid p)
      np_guard _h
      np_bind (NoPanic.of_exists_ok (Vss.verify_no_panic hC hcof threshold ⟨threshold, ownId, p.share⟩ vs
        ((C17L.unflatten_eq_some_iff C _ _).1 hu).2))
      np_guard _h
      np_bind (facOutcome_noPanic C H noFac ssid nt h1 h2 p)
      exact NoPanic.ite (fun _ => NoPanic.ok _) (fun _ => NoPanic.ok _)

/-- **round 3 never crashes** on the current tree (`Zk.cur`, zero checks in `Vss.verify`), on a lawful
curve record, for non-empty de-commitments (guaranteed by `ValidateBasic` in Go). `hcof` is the side
condition of the Feldman check's totality: on a curve whose identity has no affine form every point is
killed by `q` (cofactor 1; vacuous on edwards25519). -/
theorem r3_no_panic (hC : C.Lawful)
    (hcof : C.toAffine C.zero = none → ∀ p, C.smul C.q p = C.zero)
    (peers : List R2Peer) (hd : ∀ p ∈ peers, p.decommitment ≠ []) (tag : String) :
    round3 C H Zk.cur ⟨true⟩ noMod noFac threshold ownId ssid nt h1 h2 peers ≠ .panic tag :=
  round3_noPanic_of C H _ _ noMod noFac threshold ownId ssid nt h1 h2 peers
    (fun p hp => r3_check_no_panic C H noMod noFac threshold ownId ssid nt h1 h2 hC hcof p (hd p hp)) tag

end r3

/-! ## the hypotheses are satisfiable (kernel evaluation of the model) -/
section examples

/-- a trivial "hash" with empty digests: every DLN challenge is `0` -/
def Hnil : HashFn := fun _ => []
/-- a trivial "hash" whose digests are the byte `1`: every commitment value is `1` -/
def Hone : HashFn := fun _ => [1]

/-- a serialized DLN proof `alpha = (a, …, a)`, `t = (2, …, 2)` (128 entries each, with the two length
elements); under the challenge `0` it proves `h^2 = a` -/
def prf (a : UInt8) : List Bytes := [[128]] ++ List.replicate 128 [a] ++ [[128]] ++ List.replicate 128 [2]

/-- a round-1 message with 2048-bit moduli `2^2047`, the values `h1`, `h2` and the proofs `prf a1`, `prf a2`:
honest (accepted under `Hnil`) when `a1 = h1²`, `a2 = h2²` -/
def msg (idx h1 h2 : Nat) (a1 a2 : UInt8) : R1Msg := ⟨idx, 2 ^ 2047, 2 ^ 2047, h1, h2, prf a1, prf a2⟩

theorem sizesOk_msg (idx h1 h2 : Nat) (a1 a2 : UInt8) (h : h1 ≠ h2) : SizesOk (msg idx h1 h2 a1 a2) :=
  ⟨bitLen_two_pow, h, bitLen_two_pow⟩

/-! the pool verdicts used below. `prf a` decodes to `alpha = (a, …, a)`, `t = (2, …, 2)`;
under `Hnil` the challenge is `0` and every round compares `h1² mod N` with `a` (`dlnCheck_replicate`) -/

theorem prf_decodes_9 : Zk.dlnUnmarshal Ops16.curParse ((prf 9).map fun x => (bytesToNat x : Int)) =
    .ok (List.replicate Zk.dlnIterations 9, List.replicate Zk.dlnIterations 2) := by decide +kernel
theorem prf_decodes_25 : Zk.dlnUnmarshal Ops16.curParse ((prf 25).map fun x => (bytesToNat x : Int)) =
    .ok (List.replicate Zk.dlnIterations 25, List.replicate Zk.dlnIterations 2) := by decide +kernel
theorem prf_decodes_49 : Zk.dlnUnmarshal Ops16.curParse ((prf 49).map fun x => (bytesToNat x : Int)) =
    .ok (List.replicate Zk.dlnIterations 49, List.replicate Zk.dlnIterations 2) := by decide +kernel
theorem prf_decodes_121 : Zk.dlnUnmarshal Ops16.curParse ((prf 121).map fun x => (bytesToNat x : Int)) =
    .ok (List.replicate Zk.dlnIterations 121, List.replicate Zk.dlnIterations 2) := by decide +kernel
theorem prf_decodes_169 : Zk.dlnUnmarshal Ops16.curParse ((prf 169).map fun x => (bytesToNat x : Int)) =
    .ok (List.replicate Zk.dlnIterations 169, List.replicate Zk.dlnIterations 2) := by decide +kernel
theorem prf_decodes_225 : Zk.dlnUnmarshal Ops16.curParse ((prf 225).map fun x => (bytesToNat x : Int)) =
    .ok (List.replicate Zk.dlnIterations 225, List.replicate Zk.dlnIterations 2) := by decide +kernel

theorem dln_3 : dlnCheck Hnil Ops16.curParse (prf 9) 3 5 (2 ^ 2047) = .ok true :=
  dlnCheck_replicate Hnil _ _ 9 2 3 5 _ true prf_decodes_9 (by decide +kernel) rfl (by decide +kernel)
theorem dln_5 : dlnCheck Hnil Ops16.curParse (prf 25) 5 3 (2 ^ 2047) = .ok true :=
  dlnCheck_replicate Hnil _ _ 25 2 5 3 _ true prf_decodes_25 (by decide +kernel) rfl (by decide +kernel)
theorem dln_7 : dlnCheck Hnil Ops16.curParse (prf 49) 7 11 (2 ^ 2047) = .ok true :=
  dlnCheck_replicate Hnil _ _ 49 2 7 11 _ true prf_decodes_49 (by decide +kernel) rfl (by decide +kernel)
theorem dln_11 : dlnCheck Hnil Ops16.curParse (prf 121) 11 7 (2 ^ 2047) = .ok true :=
  dlnCheck_replicate Hnil _ _ 121 2 11 7 _ true prf_decodes_121 (by decide +kernel) rfl (by decide +kernel)
theorem dln_13 : dlnCheck Hnil Ops16.curParse (prf 169) 13 15 (2 ^ 2047) = .ok true :=
  dlnCheck_replicate Hnil _ _ 169 2 13 15 _ true prf_decodes_169 (by decide +kernel) rfl (by decide +kernel)
theorem dln_15 : dlnCheck Hnil Ops16.curParse (prf 225) 15 13 (2 ^ 2047) = .ok true :=
  dlnCheck_replicate Hnil _ _ 225 2 15 13 _ true prf_decodes_225 (by decide +kernel) rfl (by decide +kernel)
theorem dln_13_bad : dlnCheck Hnil Ops16.curParse (prf 9) 13 15 (2 ^ 2047) = .ok false :=
  dlnCheck_replicate Hnil _ _ 9 2 13 15 _ false prf_decodes_9 (by decide +kernel) rfl (by decide +kernel)

/-- the loop finds nothing on parties 1 (values 3, 5), 2 (values 13, 15) and 3 (values 7, 11), whatever the proofs -/
theorem scan_clean (a1 a2 : UInt8) :
    scan 1 [] [msg 1 3 5 9 25, msg 2 13 15 a1 a2, msg 3 7 11 49 121] =
      ([msg 1 3 5 9 25, msg 2 13 15 a1 a2, msg 3 7 11 49 121], none) := by
  rw [scan_cons_of_lookup_none _ (sizesOk_msg 1 3 5 9 25 (by decide)) rfl rfl,
    scan_cons_of_lookup_none _ (sizesOk_msg 2 13 15 a1 a2 (by decide)) rfl rfl,
    scan_cons_of_lookup_none _ (sizesOk_msg 3 7 11 49 121 (by decide)) rfl rfl, scan_nil]

/-- `r2_pass_iff`/`r2_no_panic`: no messages — the round passes -/
example : round2 Hnil Ops16.curParse 1 [] = .ok .pass := by decide

/-- `r2_duplicateCulprits` -/
example : duplicateCulprits 1 1 2 = [2] ∧ duplicateCulprits 1 2 1 = [2] ∧ duplicateCulprits 1 2 3 = [] ∧
    duplicateCulprits 1 1 1 = [] := by decide

/-- `r2_structural_blames_sender`: a 3-bit Paillier modulus -/
example : structural 1 [] ⟨2, 5, 5, 3, 4, [], []⟩ =
    some ("got paillier modulus with insufficient bits for this party", [2]) := by decide

/-- `r2_bad_size_blamed` with a message of wrong sizes only (the honest-party hypotheses are vacuous, the proofs are never
evaluated) … -/
example : HonestOthers Hnil Ops16.curParse 1 2 [⟨2, 5, 5, 3, 4, [], []⟩] :=
  ⟨by decide, by decide, by decide, by decide, by decide⟩

example : round2 Hnil Ops16.curParse 1 [⟨2, 5, 5, 3, 4, [], []⟩] =
    .ok (.fail "got paillier modulus with insufficient bits for this party" [2]) := by decide

/-- … and the full hypotheses on a three-party run: own = 1 (values 3, 5), third party 3 (values 7, 11), and
the deviator 2 in the middle; whatever party 2 stores, parties 1 and 3 satisfy `HonestOthers` -/
theorem honestOthers_witness (md : R1Msg) (hd : md.idx = 2) :
    HonestOthers Hnil Ops16.curParse 1 2 [msg 1 3 5 9 25, md, msg 3 7 11 49 121] := by
  refine ⟨by decide, ?_, ?_, ?_, ?_⟩
  · simp only [List.map_cons, List.map_nil, hd]; decide
  · intro m hm hne
    simp only [List.mem_cons, List.not_mem_nil, or_false] at hm
    rcases hm with rfl | rfl | rfl
    · exact sizesOk_msg 1 3 5 9 25 (by decide)
    · exact absurd hd hne
    · exact sizesOk_msg 3 7 11 49 121 (by decide)
  · intro m hm m' hm' hne hne' hij
    simp only [List.mem_cons, List.not_mem_nil, or_false] at hm hm'
    rcases hm with rfl | rfl | rfl <;> rcases hm' with rfl | rfl | rfl <;>
      first
        | exact absurd hd hne
        | exact absurd hd hne'
        | exact absurd rfl hij
        | decide
  · intro m hm hne
    simp only [List.mem_cons, List.not_mem_nil, or_false] at hm
    rcases hm with rfl | rfl | rfl
    · exact ⟨dln_3, dln_5⟩
    · exact absurd hd hne
    · exact ⟨dln_7, dln_11⟩

/-- `r2_single_deviator`: an honest party 2 — the round passes -/
example : round2 Hnil Ops16.curParse 1 [msg 1 3 5 9 25, msg 2 13 15 169 225, msg 3 7 11 49 121] = .ok .pass := by
  refine (r2_pass_iff_all Hnil Ops16.curParse 1 _).2 ⟨by rw [scan_clean], fun m hm => ?_⟩
  simp only [List.mem_cons, List.not_mem_nil, or_false] at hm
  rcases hm with rfl | rfl | rfl
  · exact ⟨dln_3, dln_5⟩
  · exact ⟨dln_13, dln_15⟩
  · exact ⟨dln_7, dln_11⟩

/-- `r2_covered_alteration_blamed`: party 2's first proof is for another value (`9 ≠ 13²`) -/
example : dlnCheck Hnil Ops16.curParse (msg 2 13 15 9 225).dln1 13 15 (2 ^ 2047) = .ok false ∧
    round2 Hnil Ops16.curParse 1 [msg 1 3 5 9 25, msg 2 13 15 9 225, msg 3 7 11 49 121] =
      .ok (.fail "dln proof verification failed" [2]) :=
  ⟨dln_13_bad, r2_covered_alteration_blamed (honestOthers_witness _ rfl) (r2_dev_jobs_return _ _ _)
    (by rw [scan_clean]) (msg 2 13 15 9 225) (by simp) rfl (Or.inl dln_13_bad)⟩

/-- `r2_duplicate_with_own_blames_other`: party 2 copies the reporting party's `h1 = 3` (with a valid proof for it) —
named, whichever of the two messages is stored first -/
example : round2 Hnil Ops16.curParse 1 [msg 1 3 5 9 25, msg 2 3 13 9 169, msg 3 7 11 49 121] =
      .ok (.fail "this h1j was already used by another party" [2]) ∧
    round2 Hnil Ops16.curParse 1 [msg 2 3 13 9 169, msg 1 3 5 9 25, msg 3 7 11 49 121] =
      .ok (.fail "this h1j was already used by another party" [2]) := by
  refine ⟨round2_of_scan_some Hnil 1 _ ?_, round2_of_scan_some Hnil 1 _ ?_⟩
  · rw [scan_cons_of_lookup_none _ (sizesOk_msg 1 3 5 9 25 (by decide)) rfl rfl,
      scan_cons_of_lookup_h1 _ (k := 1) (sizesOk_msg 2 3 13 9 169 (by decide)) rfl]
    rfl
  · rw [scan_cons_of_lookup_none _ (sizesOk_msg 2 3 13 9 169 (by decide)) rfl rfl,
      scan_cons_of_lookup_h1 _ (k := 2) (sizesOk_msg 1 3 5 9 25 (by decide)) rfl]
    rfl

/-- `r2_duplicate_with_third_names_nobody`: party 2 copies the third party's `h1 = 7` — nobody is named, in either order -/
example : round2 Hnil Ops16.curParse 1 [msg 1 3 5 9 25, msg 2 7 13 49 169, msg 3 7 11 49 121] =
      .ok (.fail "this h1j was already used by another party" []) ∧
    round2 Hnil Ops16.curParse 1 [msg 1 3 5 9 25, msg 3 7 11 49 121, msg 2 7 13 49 169] =
      .ok (.fail "this h1j was already used by another party" []) := by
  refine ⟨round2_of_scan_some Hnil 1 _ ?_, round2_of_scan_some Hnil 1 _ ?_⟩
  · rw [scan_cons_of_lookup_none _ (sizesOk_msg 1 3 5 9 25 (by decide)) rfl rfl,
      scan_cons_of_lookup_none _ (sizesOk_msg 2 7 13 49 169 (by decide)) rfl rfl,
      scan_cons_of_lookup_h1 _ (k := 2) (sizesOk_msg 3 7 11 49 121 (by decide)) rfl]
    rfl
  · rw [scan_cons_of_lookup_none _ (sizesOk_msg 1 3 5 9 25 (by decide)) rfl rfl,
      scan_cons_of_lookup_none _ (sizesOk_msg 3 7 11 49 121 (by decide)) rfl rfl,
      scan_cons_of_lookup_h1 _ (k := 3) (sizesOk_msg 2 7 13 49 169 (by decide)) rfl]
    rfl

/-- the hypotheses of `r2_duplicate_with_own_blames_other` hold in the first of these runs -/
example : ∃ why, round2 Hnil Ops16.curParse 1 [msg 1 3 5 9 25, msg 2 3 13 9 169, msg 3 7 11 49 121] =
    .ok (.fail why [2]) ∧ (why = "this h1j was already used by another party" ∨
      why = "this h2j was already used by another party") :=
  r2_duplicate_with_own_blames_other (honestOthers_witness _ rfl) (r2_dev_jobs_return _ _ _)
    (msg 2 3 13 9 169) (msg 1 3 5 9 25) (by simp) rfl (sizesOk_msg 2 3 13 9 169 (by decide)) (by simp) rfl (Or.inl rfl)
    (by
      intro m hm hne hno
      simp only [List.mem_cons, List.not_mem_nil, or_false] at hm
      rcases hm with rfl | rfl | rfl
      · exact absurd rfl hno
      · exact absurd rfl hne
      · decide)

/-! round 3 on the toy curve `zmodCurve 23` (order 23, identity with affine coordinates), threshold 1, own
id 2: the peer's polynomial is `3 + 4X`, its share for the party `f(2) = 11`, the commitment points `3·G`,
`4·G`, blinding `5`; under `Hone` every commitment value is `1`. Proofs that do not decode are tolerated
(`noMod = noFac = true`) unless said otherwise. -/

instance fact23 : Fact (Nat.Prime 23) := ⟨by decide⟩
abbrev E := zmodCurve 23

/-- `checkPeer_pass_iff`: an honest record passes -/
example : checkPeer E Hone Zk.cur ⟨true⟩ true true 1 2 [] 0 0 0 ⟨1, 1, 0, [5, 3, 0, 4, 0], [], 11, []⟩ = .ok none := by
  decide

/-- `checkPeer_pass_iff`: a commitment that the de-commitment does not open -/
example : R3CoveredFailure E Hone Zk.cur ⟨true⟩ true 1 2 [] 0 0 0 ⟨1, 0, 0, [5, 3, 0, 4, 0], [], 11, []⟩ :=
  .decommit (by decide)

/-- `checkPeer_pass_iff`: a modulus proof that decodes (163 non-empty parts) and is rejected -/
example : R3CoveredFailure E Hone Zk.cur ⟨true⟩ true 1 2 [] 0 0 0
    ⟨1, 1, 0, [5, 3, 0, 4, 0], List.replicate 163 [1], 11, []⟩ :=
  .mod [3, 0, 4, 0] [(3, 0), (4, 0)] 1 (List.replicate 80 1) 1 1 (List.replicate 80 1) (by decide) (by decide)
    (by decide +kernel) (by decide +kernel)

/-- `checkPeer_pass_iff`: the share altered from `11` to `12` -/
example : R3CoveredFailure E Hone Zk.cur ⟨true⟩ true 1 2 [] 0 0 0 ⟨1, 1, 0, [5, 3, 0, 4, 0], [], 12, []⟩ :=
  .share [3, 0, 4, 0] [(3, 0), (4, 0)] (by decide) (by decide) (Or.inr (by decide)) (by decide)

/-- `checkPeer_pass_iff`: a no-small-factor proof that decodes (11 non-empty parts) and is rejected -/
example : R3CoveredFailure E Hone Zk.cur ⟨true⟩ true 1 2 [] 0 0 0
    ⟨1, 1, 0, [5, 3, 0, 4, 0], [], 11, List.replicate 11 [1]⟩ :=
  .fac [3, 0, 4, 0] [(3, 0), (4, 0)] ⟨1, 1, 1, 1, 1, 1, 1, 1, 1, 1, 1⟩ (by decide) (by decide) (Or.inr (by decide))
    (by decide) (by decide) (by decide)

/-- `r3_culprit_iff`–`r3_single_deviator_blamed_exactly`: peers 1 (honest) and 3 (altered share): exactly `[3]` is
reported; with both honest, nobody -/
example : round3 E Hone Zk.cur ⟨true⟩ true true 1 2 [] 0 0 0
      [⟨1, 1, 0, [5, 3, 0, 4, 0], [], 11, []⟩, ⟨3, 1, 0, [5, 3, 0, 4, 0], [], 12, []⟩] = .ok [3] ∧
    round3 E Hone Zk.cur ⟨true⟩ true true 1 2 [] 0 0 0
      [⟨1, 1, 0, [5, 3, 0, 4, 0], [], 11, []⟩, ⟨3, 1, 0, [5, 3, 0, 4, 0], [], 11, []⟩] = .ok [] := by
  decide

/-- `r3_no_panic`: the hypotheses of `r3_no_panic` hold on the toy curve (its identity has affine coordinates, so
`hcof` is vacuous) -/
example : E.Lawful ∧ (E.toAffine E.zero = none → ∀ p, E.smul E.q p = E.zero) :=
  ⟨zmodCurve_lawful 23, fun h => absurd h (zmodCurve_toAffine_zero 23)⟩

/-- the hypothesis "non-empty de-commitment" of `r3_no_panic` is needed: `DeCommit` of an empty list compares a
nil hash (`ValidateBasic` rejects such a message before it is stored) -/
theorem r3_empty_decommitment_panics_witness :
    checkPeer E Hone Zk.cur ⟨true⟩ true true 1 2 [] 0 0 0 ⟨1, 1, 0, [], [], 11, []⟩ = .panic "nil-hash-cmp" := by
  decide

end examples

end TssVerif.C05b
