import TssVerif.Lemmas.MiscCkd
import TssVerif.Lemmas.AlgLagrange
/-! # C18 — HD child key derivation (BIP32 CKDpub) and signing with the derived offset

Model: `TssVerif/Core/Ckd.lean` (`crypto/ckd/child_key_derivation.go`), `Sign.weight` (`PrepareForSigning`),
the share shift of `ecdsa/signing/round_1.go` (`xi = (delta + xi) mod q`).

* `derive_child_point`, `derive_child_complete` — exact characterisation of one step, for EVERY curve record:
  `IL`, chain code = halves of `HMAC-SHA512(chainCode, ser_P(K) ‖ ser32(i))`, `child = parent + IL·G`, …
* `path_offset_accumulates` (+ `path_offset_invariant`, `path_offset_two_levels`) — over a multi-level path the
  returned offset satisfies `child = parent + off·G`, `off < q`, depth and version bookkeeping;
* `refusals`, `path_propagates_first_refusal`, `path_excessive_depth_refused`, `derive_never_panics`;
* `lagrange_coeffs_sum_one`, `offset_shares`, `offset_shares_code`, `offset_public_key`, `child_key_of_secret` — shifting
  every share by `δ` shifts the shared secret by `δ`, and the public key by `δ·G`;
* `shifted_share_eq` — the shift loses nothing (the stored share is recoverable).

`zmodCurve` cannot run `deriveChild` non-trivially (its affine `y` is always 0, which CKDpub refuses, and `IL < 23`
has probability 2⁻²⁵¹), so non-vacuity of the `= .ok` hypotheses is shown by the converse `derive_child_complete`
and the driver's BIP32 test vectors on `secp256k1`, not by a toy evaluation. -/
set_option autoImplicit false
set_option linter.style.haveILetI false
namespace TssVerif.C18
open TssVerif TssVerif.Ckd TssVerif.MiscL

section ckd
variable {P : Type} (C : Curve P)

/-- **one derivation step, soundness** (every curve record, no law assumed).
Note `k.depth ≠ 255`: the model, like Go, only compares with `maxDepth`; Go's `Depth` is a `uint8`, so with the
byte invariant `k.depth ≤ 255` this is `k.depth < 255` and the child again satisfies the invariant. -/
theorem derive_child_point {i : Nat} {k : ExtKey} {il : Nat} {child : ExtKey}
    (h : deriveChild C i k = .ok (il, child)) :
    i < 2 ^ 31 ∧ k.depth ≠ 255 ∧ (k.depth ≤ 255 → k.depth < 255 ∧ child.depth ≤ 255) ∧
    0 < il ∧ il < C.q ∧
    il = bytesToNat ((hmacSha512 k.chainCode (serP k.pub ++ ser32 i)).take 32) ∧
    child.chainCode = (hmacSha512 k.chainCode (serP k.pub ++ ser32 i)).drop 32 ∧
    child.depth = k.depth + 1 ∧ child.childIndex = i ∧ child.version = k.version ∧
    child.parentFP = (hash160 (serP k.pub)).take 4 ∧
    ∃ parent, C.lift k.pub = some parent ∧
      C.toAffine (C.add parent (C.smul il C.base)) = some child.pub := by
  obtain ⟨h1, h2, h3, h4, h5, parent, hpar, _, c, hc, rfl⟩ := deriveChild_ok C h
  refine ⟨h1, h2, fun hk => ⟨by omega, ?_⟩, h4, h5, h3, rfl, rfl, rfl, rfl, rfl, parent, hpar, hc⟩
  show k.depth + 1 ≤ 255
  omega

/-- BIP32 also rejects a step whose `IL·G` has a zero coordinate (the Go code's extra check) -/
theorem derive_child_delta_point {i : Nat} {k : ExtKey} {il : Nat} {child : ExtKey}
    (h : deriveChild C i k = .ok (il, child)) :
    ∃ dg, C.toAffine (C.smul il C.base) = some dg ∧ dg.1 ≠ 0 ∧ dg.2 ≠ 0 := by
  obtain ⟨_, _, _, _, _, _, _, hdg, _⟩ := deriveChild_ok C h
  exact hdg

/-- **one derivation step, completeness**: the conditions of `derive_child_point` are exactly the success condition -/
theorem derive_child_complete {i : Nat} {k : ExtKey} {parent : P} {dg c : ECPoint}
    (h1 : i < 2 ^ 31) (h2 : k.depth ≠ 255) (hpar : C.lift k.pub = some parent)
    (h3 : 0 < bytesToNat ((hmacSha512 k.chainCode (serP k.pub ++ ser32 i)).take 32))
    (h4 : bytesToNat ((hmacSha512 k.chainCode (serP k.pub ++ ser32 i)).take 32) < C.q)
    (hdg : C.toAffine (C.smul (bytesToNat ((hmacSha512 k.chainCode (serP k.pub ++ ser32 i)).take 32)) C.base)
      = some dg) (hx : dg.1 ≠ 0) (hy : dg.2 ≠ 0)
    (hc : C.toAffine (C.add parent
      (C.smul (bytesToNat ((hmacSha512 k.chainCode (serP k.pub ++ ser32 i)).take 32)) C.base)) = some c) :
    deriveChild C i k = .ok (bytesToNat ((hmacSha512 k.chainCode (serP k.pub ++ ser32 i)).take 32),
      { pub := c, depth := k.depth + 1, childIndex := i,
        chainCode := (hmacSha512 k.chainCode (serP k.pub ++ ser32 i)).drop 32,
        parentFP := (hash160 (serP k.pub)).take 4, version := k.version }) :=
  deriveChild_of C h1 h2 hpar h3 h4 hdg hx hy hc

/-- **the accumulated offset**: starting from accumulator 0, `child = parent + off·G` -/
theorem path_offset_accumulates (hC : C.Lawful) {path : List Nat} {k : ExtKey} {off : Nat}
    {child : ExtKey} {parent : P} (hpar : C.lift k.pub = some parent)
    (h : derivePath C C.q path k 0 = .ok (off, child)) :
    C.toAffine (C.add parent (C.smul off C.base)) = some child.pub ∧ off < C.q ∧
    child.depth = k.depth + path.length ∧ child.version = k.version := by
  obtain ⟨cp, _, g2, g3, g4⟩ := derivePath_invariant C hC hpar h
  obtain ⟨d1, d2, _, _⟩ := derivePath_depth C h
  rw [Curve.smul_zero_left, hC.add_zero] at g3
  exact ⟨g3 ▸ g2, g4 hC.q_pos, d1, d2⟩

/-- for a non-empty path the parent point need not be assumed: success implies it is on the curve -/
theorem path_offset_accumulates' (hC : C.Lawful) {path : List Nat} {k : ExtKey} {off : Nat}
    {child : ExtKey} (hne : path ≠ []) (h : derivePath C C.q path k 0 = .ok (off, child)) :
    ∃ parent, C.lift k.pub = some parent ∧
      C.toAffine (C.add parent (C.smul off C.base)) = some child.pub := by
  obtain ⟨i, rest, rfl⟩ := List.exists_cons_of_ne_nil hne
  have h' := h
  rw [derivePath_cons] at h'
  cases hd : deriveChild C i k with
  | ok r =>
    obtain ⟨_, _, _, _, _, parent, hpar, _⟩ := deriveChild_ok C (il := r.1) (child := r.2) hd
    exact ⟨parent, hpar, (path_offset_accumulates C hC hpar h).1⟩
  | err e => rw [hd] at h'; exact absurd h' (by simp)
  | panic e => rw [hd] at h'; exact absurd h' (by simp)

/-- the invariant behind it, for an arbitrary starting accumulator: `child + acc·G = parent + off·G` -/
theorem path_offset_invariant (hC : C.Lawful) {path : List Nat} {k : ExtKey} {acc off : Nat}
    {child : ExtKey} {parent : P} (hpar : C.lift k.pub = some parent)
    (h : derivePath C C.q path k acc = .ok (off, child)) :
    ∃ cp, C.lift child.pub = some cp ∧ C.toAffine cp = some child.pub ∧
      C.add cp (C.smul acc C.base) = C.add parent (C.smul off C.base) :=
  let ⟨cp, g1, g2, g3, _⟩ := derivePath_invariant C hC hpar h
  ⟨cp, g1, g2, g3⟩

/-- two levels, written out: the offsets add modulo `mod` -/
theorem path_offset_two_levels (m i1 i2 il1 il2 : Nat) (k c1 c2 : ExtKey)
    (h1 : deriveChild C i1 k = .ok (il1, c1)) (h2 : deriveChild C i2 c1 = .ok (il2, c2)) :
    derivePath C m [i1, i2] k 0 = .ok ((il2 + (il1 + 0) % m) % m, c2) := by
  rw [derivePath_cons, h1]
  simp only
  rw [derivePath_cons, h2]
  rfl

/-- derivation splits along the path -/
theorem path_append (m : Nat) (pre suf : List Nat) (k : ExtKey) (acc : Nat) :
    derivePath C m (pre ++ suf) k acc =
      match derivePath C m pre k acc with
      | .ok (a, k') => derivePath C m suf k' a
      | .err e => .err e
      | .panic e => .panic e :=
  derivePath_append C m pre suf k acc

/-- **refusals** of one step: hardened index, maximal depth, parent key not on the curve -/
theorem refusals (i : Nat) (k : ExtKey) :
    (2 ^ 31 ≤ i → deriveChild C i k = .err "hardened") ∧
    (i < 2 ^ 31 → k.depth = 255 → deriveChild C i k = .err "max-depth") ∧
    (i < 2 ^ 31 → k.depth ≠ 255 → C.lift k.pub = none → deriveChild C i k = .err "invalid-parent") ∧
    ((2 ^ 31 ≤ i ∨ k.depth = 255 ∨ C.lift k.pub = none) → ∃ e, deriveChild C i k = .err e) :=
  ⟨deriveChild_hardened C k, deriveChild_maxDepth C, deriveChild_invalid_parent C, deriveChild_refused C⟩

/-- the first refused step refuses the whole path, with the same error -/
theorem path_propagates_first_refusal (m : Nat) (pre suf : List Nat) (i : Nat) (k k' : ExtKey)
    (acc a : Nat) (e : String) (hpre : derivePath C m pre k acc = .ok (a, k'))
    (hi : deriveChild C i k' = .err e) : derivePath C m (pre ++ i :: suf) k acc = .err e := by
  rw [derivePath_append, hpre]
  simp only
  rw [derivePath_cons, hi]

/-- a successful path contains no hardened index -/
theorem path_no_hardened {m : Nat} {path : List Nat} {k : ExtKey} {acc off : Nat} {child : ExtKey}
    (h : derivePath C m path k acc = .ok (off, child)) : ∀ i ∈ path, i < 2 ^ 31 :=
  (derivePath_depth C h).2.2.2

/-- **excessive depth**: from a key whose depth is a byte, no path leading beyond depth 255 succeeds -/
theorem path_excessive_depth_refused {m : Nat} {path : List Nat} {k : ExtKey} {acc : Nat}
    (hk : k.depth ≤ 255) (hlong : 255 < k.depth + path.length) (r : Nat × ExtKey) :
    derivePath C m path k acc ≠ .ok r := by
  intro h
  obtain ⟨d1, _, d3, _⟩ := derivePath_depth C (off := r.1) (child := r.2) h
  have := d3 hk
  omega

/-- on a lawful curve the derivation never panics (the only modelled panic is `IL·G = O`) -/
theorem derive_never_panics (hC : C.Lawful) (i : Nat) (k : ExtKey) (e : String) :
    deriveChild C i k ≠ .panic e := by
  unfold deriveChild
  split
  · simp
  split
  · simp
  split
  · simp
  simp only
  split
  · simp
  next h3 =>
  split
  · next hdg =>
    exfalso
    have hz := hC.toAffine_none _ hdg
    rw [hC.smul_base_eq_zero_iff, Nat.mod_eq_of_lt (by omega)] at hz
    omega
  split
  · simp
  split <;> simp

/-- **the public key moves by `δ·G`**: `((x + δ) mod q)·G = x·G + δ·G` -/
theorem offset_public_key (hC : C.Lawful) (x δ : Nat) :
    C.smul ((δ + x) % C.q) C.base = C.add (C.smul x C.base) (C.smul δ C.base) := by
  rw [← hC.smul_base_mod, hC.smul_add, hC.add_comm]

/-- derive, then sign with the shifted secret: if the parent key is `x·G`, the derived child key is the public key
of the shifted secret `(off + x) mod q` — exactly what the shifted shares share (`offset_shares_code`) -/
theorem child_key_of_secret (hC : C.Lawful) {path : List Nat} {k : ExtKey} {off x : Nat} {child : ExtKey}
    (hpar : C.lift k.pub = some (C.smul x C.base))
    (h : derivePath C C.q path k 0 = .ok (off, child)) :
    C.toAffine (C.smul ((off + x) % C.q) C.base) = some child.pub := by
  rw [offset_public_key C hC]
  exact (path_offset_accumulates C hC hpar h).1

/-- … and, for a non-zero offset, NOT the parent key -/
theorem child_key_ne_parent (hC : C.Lawful) {path : List Nat} {k : ExtKey} {off : Nat} {child : ExtKey}
    {parent : P} (hpar : C.lift k.pub = some parent)
    (h : derivePath C C.q path k 0 = .ok (off, child)) (hoff : off ≠ 0) : child.pub ≠ k.pub := by
  obtain ⟨g1, g2, _⟩ := path_offset_accumulates C hC hpar h
  intro heq
  have hp : C.toAffine parent = some k.pub := hC.ofAffine_toAffine _ _ _ hpar
  rw [heq, ← hp] at g1
  have h0 := hC.toAffine_inj _ _ g1
  letI := hC.groupLaws.addCommGroup
  have h1 : parent + C.smul off C.base = parent := h0
  have h2 : C.smul off C.base = C.zero := by
    have : parent + C.smul off C.base = parent + 0 := by rw [h1, add_zero]
    exact add_left_cancel this
  rw [hC.smul_base_eq_zero_iff, Nat.mod_eq_of_lt g2] at h2
  exact hoff h2

end ckd

/-- **the Lagrange coefficients at 0 sum to 1** (any field, distinct evaluation points, at least one) -/
theorem lagrange_coeffs_sum_one {F : Type} [Field F] {ι : Type} [DecidableEq ι] (s : Finset ι)
    (v : ι → F) (hinj : Set.InjOn v s) (hs : s.Nonempty) :
    ∑ i ∈ s, ∏ j ∈ s.erase i, (v j / (v j - v i)) = 1 :=
  AlgL.lagrange_coeffs_sum_one s v hinj hs

/-- **shifting every share by `δ` shifts the interpolated secret by `δ`** -/
theorem offset_shares {F : Type} [Field F] {ι : Type} [DecidableEq ι] (s : Finset ι) (v x : ι → F) (δ : F)
    (hinj : Set.InjOn v s) (hs : s.Nonempty) :
    ∑ i ∈ s, (∏ j ∈ s.erase i, (v j / (v j - v i))) * (x i + δ) =
      (∑ i ∈ s, (∏ j ∈ s.erase i, (v j / (v j - v i))) * x i) + δ := by
  simp only [mul_add, Finset.sum_add_distrib, ← Finset.sum_mul, AlgL.lagrange_coeffs_sum_one s v hinj hs,
    one_mul]

/-- `Sign.weight` computes `x_i` times the Lagrange coefficient (no hypothesis: a `some` result certifies it) -/
theorem weight_is_lagrange {q : ℕ} [Fact q.Prime] {ks : List ℕ} {i xi w : ℕ}
    (h : Sign.weight q ks i xi = some w) :
    (w : ZMod q) = (xi : ZMod q) * ∏ j ∈ (Finset.range ks.length).erase i,
      ((ks.getD j 0 : ZMod q) / ((ks.getD j 0 : ZMod q) - (ks.getD i 0 : ZMod q))) :=
  AlgL.weight_cast h

/-- the weights exist when the party ids are distinct modulo `q` -/
theorem weights_exist {q : ℕ} [Fact q.Prime] (ks : List ℕ) (hnd : (ks.map (· % q)).Nodup) (i xi : ℕ)
    (hi : i < ks.length) : ∃ w, Sign.weight q ks i xi = some w :=
  AlgL.weight_isSome_of_nodup ks hnd hi xi

/-- **code form**: shares `x i` of `f(0)` (`x i = f(ks[i])`, `deg f <` number of signers), every signer computing
`Sign.weight` on its SHIFTED share `(δ + x i) mod q` as `round_1.go` does: the weights add up to `f(0) + δ` -/
theorem offset_shares_code {q : ℕ} [Fact q.Prime] (ks : List ℕ) (x w : ℕ → ℕ) (f : Polynomial (ZMod q))
    (δ : ℕ) (hne : ks ≠ []) (hnd : (ks.map (· % q)).Nodup)
    (hdeg : f.degree < (ks.length : ℕ))
    (hval : ∀ i, i < ks.length → (x i : ZMod q) = f.eval (ks.getD i 0 : ZMod q))
    (hw : ∀ i, i < ks.length → Sign.weight q ks i ((δ + x i) % q) = some (w i)) :
    ∑ i ∈ Finset.range ks.length, (w i : ZMod q) = f.eval 0 + δ := by
  -- the shifted shares lie on `f + δ`
  have hdeg' : (f + Polynomial.C (δ : ZMod q)).degree < (ks.length : ℕ) :=
    lt_of_le_of_lt (Polynomial.degree_add_le _ _) (max_lt hdeg
      (lt_of_le_of_lt Polynomial.degree_C_le (by exact_mod_cast List.length_pos_iff.2 hne)))
  rw [AlgL.sum_weights ks (fun i => (δ + x i) % q) w _ hdeg' (AlgL.injOn_of_nodup ks hnd)
    (fun i hi => by
      simp only [ZMod.natCast_mod, Nat.cast_add, hval i hi, Polynomial.eval_add, Polynomial.eval_C]
      ring) hw, Polynomial.eval_add, Polynomial.eval_C]

/-- without the shift (`δ = 0` is `offset_shares_code`; this is the plain statement) -/
theorem weights_sum_secret {q : ℕ} [Fact q.Prime] (ks : List ℕ) (x w : ℕ → ℕ) (f : Polynomial (ZMod q))
    (hnd : (ks.map (· % q)).Nodup) (hdeg : f.degree < (ks.length : ℕ))
    (hval : ∀ i, i < ks.length → (x i : ZMod q) = f.eval (ks.getD i 0 : ZMod q))
    (hw : ∀ i, i < ks.length → Sign.weight q ks i (x i) = some (w i)) :
    ∑ i ∈ Finset.range ks.length, (w i : ZMod q) = f.eval 0 :=
  AlgL.sum_weights ks x w f hdeg (AlgL.injOn_of_nodup ks hnd) hval hw

/-- **the shift loses nothing**: the stored share is recovered from the shifted one -/
theorem shifted_share_eq (δ x q : Nat) (hq : 0 < q) : ((δ + x) % q + q - δ % q) % q = x % q := by
  have hd : δ % q < q := Nat.mod_lt _ hq
  have hx : x % q < q := Nat.mod_lt _ hq
  rw [Nat.add_mod δ x q]
  by_cases hlt : δ % q + x % q < q
  · rw [Nat.mod_eq_of_lt hlt, show δ % q + x % q + q - δ % q = x % q + q by omega,
      Nat.add_mod_right, Nat.mod_mod]
  · have : (δ % q + x % q) % q = δ % q + x % q - q := by
      rw [Nat.mod_eq_sub_mod (by omega), Nat.mod_eq_of_lt (by omega)]
    rw [this, show δ % q + x % q - q + q - δ % q = x % q by omega, Nat.mod_mod]

/-! ## the hypotheses are satisfiable; concrete evaluations -/

section examples
local instance : Fact (Nat.Prime 23) := ⟨by decide⟩
private def E := zmodCurve 23
private def k0 : ExtKey := ⟨(5, 0), 0, 0, [], [0, 0, 0, 0], [4, 136, 178, 30]⟩

/-- the empty path: offset 0, the key itself -/
example : derivePath E E.q [] k0 0 = .ok (0, k0) := rfl
example : E.toAffine (E.add (5 : ZMod 23) (E.smul 0 E.base)) = some k0.pub :=
  (path_offset_accumulates E (zmodCurve_lawful 23) (parent := (5 : ZMod 23)) (by decide)
    (show derivePath E E.q [] k0 0 = .ok (0, k0) from rfl)).1
/-- hardened index and maximal depth are refused on the toy curve too -/
example : deriveChild E (2 ^ 31) k0 = .err "hardened" := (refusals E _ _).1 (le_refl _)
example : deriveChild E 7 { k0 with depth := 255 } = .err "max-depth" :=
  (refusals E _ _).2.1 (by norm_num) rfl
example : deriveChild E 7 { k0 with pub := (5, 1) } = .err "invalid-parent" :=
  (refusals E _ _).2.2.1 (by norm_num) (by decide) (by decide)
example : derivePath E E.q [1, 2 ^ 31, 3] { k0 with depth := 255 } 0 ≠ .ok (0, k0) :=
  path_excessive_depth_refused E (by decide) (by decide) _

/-- `ser32` is the 4-byte big-endian index; `serP` the 33-byte SEC1 compressed point -/
example : ser32 (2 ^ 31 - 1) = [0x7f, 0xff, 0xff, 0xff] ∧ ser32 1 = [0, 0, 0, 1] := by decide
example : (serP (5, 7)).length = 33 ∧ (serP (5, 7)).head? = some 3 ∧ (serP (5, 8)).head? = some 2 := by
  decide +kernel

/-- Lagrange at 0 over `ZMod 23` with ids 1, 2, 3: coefficients 3, −3, 1 -/
example : Sign.weight 23 [1, 2, 3] 0 1 = some 3 ∧ Sign.weight 23 [1, 2, 3] 1 1 = some 20 ∧
    Sign.weight 23 [1, 2, 3] 2 1 = some 1 := by decide
/-- shares of `f = 4 + 5X` at ids 1, 2, 3 (9, 14, 19), shifted by δ = 6: weights sum to 4 + 6 -/
example : (do
    let a ← Sign.weight 23 [1, 2, 3] 0 ((6 + 9) % 23)
    let b ← Sign.weight 23 [1, 2, 3] 1 ((6 + 14) % 23)
    let c ← Sign.weight 23 [1, 2, 3] 2 ((6 + 19) % 23)
    pure ((a + b + c) % 23)) = some 10 := by decide
example : ((6 + 19) % 23 + 23 - 6 % 23) % 23 = 19 % 23 := shifted_share_eq 6 19 23 (by decide)

end examples

end TssVerif.C18
