import TssVerif.Lemmas.C04Rs
import TssVerif.Props.C05
/-! # C04c — what a new committee member of EdDSA resharing has checked when it acknowledges

The objects are the executable model `Core/BlameRs.lean` of the new-committee side of EdDSA resharing
(`eddsa/resharing/round_1_old_step_1.go` `Update`, `round_4_new_step_2.go` `Start`): `round1Key` (which group
key the member will check against), `checkOld` (the per-old-member checks of round 4), `sumColumns`, `round4`,
`newMember` (both rounds).

Everything holds for every hash function `H`, every curve record `C` (with `C.Lawful` where the group is used),
every list of messages, every threshold and every integer.

* Round 1. `everyMember = true` (the repaired tree): a key is accepted only if EVERY old member announced
  it (`key_agreed_by_every_old_member`, `key_agreed_iff`); a disagreement is an error naming nobody, and the only
  names a round-1 error can carry are senders of a key that does not decode (`key_mismatch_names_nobody`,
  `key_failure_cases`). `everyMember = false` (the tree before the repair): the first old member's announcement
  alone decides, whatever the others say (`old_tree_first_member_decides`,
  `old_tree_accepts_disagreement_witness`).
* `ack_implies_every_check` (+ `round4_ack_iff`, `check_old_pass_iff`): an acknowledgement means every old
  member's de-commitment opened to `2(t'+1)` coordinates of curve points, cleared of the cofactor, against which
  its share verified; the new share is the plain sum; the column sums exist and start with the agreed key.
* `failure_culprits` (+ `failure_iff`, `new_member_failure_names`, `single_deviator_old_member`,
  `single_deviator_old_member_blamed`): who is named.
* `altered_share_blamed`, `altered_decommitment_blamed` (+ `new_member_of_key` to lift them to `newMember`).
* `ack_share_consistent` (+ `ack_each_share_on_committed_polynomial`, `ack_share_on_summed_polynomial`).
* `newMember_returns`, `newMember_no_panic`.

Hypotheses of `newMember_returns` (as in `Props/C05.lean`): `hcof` — on a curve whose identity has no affine form every
point is killed by `q`; `hnz` — on such a curve the two cofactor-clearing scalars are prime to `q` (both vacuous
on edwards25519); `m.decommitment ≠ []` — guaranteed by `ValidateBasic` in Go. -/
set_option autoImplicit false
namespace TssVerif.C04c
open TssVerif BlameRs Blame C04RsL

variable {P : Type} {C : Curve P}

/-! ## round 1: which group key -/
section key

/-- **the key is agreed by every old member** (repaired tree): if round 1 fixes `key`, there is at least one
old member and every old member's own announcement decodes to `key` -/
theorem key_agreed_by_every_old_member (msgs : List OldMsg) (key : ECPoint)
    (h : round1Key C true msgs = .pass key) :
    (∀ m ∈ msgs, C.ecNew m.pub.1 m.pub.2 = some key) ∧ msgs ≠ [] := by
  rw [round1Key_eq] at h
  obtain ⟨h1, h2⟩ := (r1go_true_pass_iff C msgs.head? msgs none key).1 h
  refine ⟨h1, ?_⟩
  rcases h2 with h2 | ⟨_, h2⟩
  · cases h2
  · exact h2

/-- … and conversely: exact acceptance condition of round 1 on the repaired tree -/
theorem key_agreed_iff (msgs : List OldMsg) (key : ECPoint) :
    round1Key C true msgs = .pass key ↔ msgs ≠ [] ∧ ∀ m ∈ msgs, C.ecNew m.pub.1 m.pub.2 = some key := by
  rw [round1Key_eq, r1go_true_pass_iff]
  constructor
  · rintro ⟨h1, h2 | ⟨_, h2⟩⟩
    · cases h2
    · exact ⟨h2, h1⟩
  · rintro ⟨h1, h2⟩
    exact ⟨h2, Or.inr ⟨rfl, h1⟩⟩

/-- **every way round 1 fails on the repaired tree**: no message; a disagreement — the messages before `m`
agree on a valid key `k`, `m` announces another valid key, NOBODY is named; or the key of `m` does not decode
(all earlier keys do) and `m`'s sender is named -/
theorem key_failure_cases (msgs : List OldMsg) (why : String) (cs : List Nat)
    (h : round1Key C true msgs = .fail why cs) :
    (why = "no old member" ∧ cs = [] ∧ msgs = []) ∨
    (why = "eddsa pub key did not match what we received previously" ∧ cs = [] ∧
      ∃ pre m post k k', msgs = pre ++ m :: post ∧ pre ≠ [] ∧
        (∀ p ∈ pre, C.ecNew p.pub.1 p.pub.2 = some k) ∧ C.ecNew m.pub.1 m.pub.2 = some k' ∧ k' ≠ k) ∨
    (why = "unable to unmarshal the eddsa pub key" ∧
      ∃ pre m post, msgs = pre ++ m :: post ∧ cs = [m.idx] ∧ C.ecNew m.pub.1 m.pub.2 = none ∧
        ∀ p ∈ pre, ∃ k, C.ecNew p.pub.1 p.pub.2 = some k) := by
  rw [round1Key_eq] at h
  rcases r1go_true_fail C msgs.head? msgs none why cs h with ⟨h1, h2, h3, _⟩ |
    ⟨h1, h2, pre, m, post, k, k', hs, hp, hk, hm, hne⟩ | h3
  · exact Or.inl ⟨h1, h2, h3⟩
  · refine Or.inr (Or.inl ⟨h1, h2, pre, m, post, k, k', hs, ?_, hp, hm, hne⟩)
    rcases hk with hk | ⟨_, hk⟩
    · cases hk
    · exact hk
  · exact Or.inr (Or.inr h3)

/-- **a key mismatch names nobody**, and in general every culprit of a round-1 error is the sender of a
message whose OWN key fails to decode -/
theorem key_mismatch_names_nobody (msgs : List OldMsg) (why : String) (cs : List Nat)
    (h : round1Key C true msgs = .fail why cs) :
    (why = "eddsa pub key did not match what we received previously" → cs = []) ∧
    ∀ c ∈ cs, ∃ m ∈ msgs, m.idx = c ∧ C.ecNew m.pub.1 m.pub.2 = none := by
  rcases key_failure_cases msgs why cs h with ⟨_, h2, _⟩ | ⟨_, h2, _⟩ | ⟨h1, pre, m, post, hs, hcs, hm, _⟩
  · subst h2
    exact ⟨fun _ => rfl, fun c hc => by cases hc⟩
  · subst h2
    exact ⟨fun _ => rfl, fun c hc => by cases hc⟩
  · refine ⟨fun hw => absurd (h1.symm.trans hw) (by decide), ?_⟩
    intro c hc
    rw [hcs] at hc
    rcases List.mem_cons.1 hc with rfl | hc
    · exact ⟨m, by rw [hs]; simp, rfl, hm⟩
    · cases hc

/-- **on the tree before the repair the first old member decides**: an accepted key is the first old
member's announcement; and as soon as that announcement decodes, round 1 passes with it WHATEVER the other old
members announce -/
theorem old_tree_first_member_decides (msgs : List OldMsg) (key : ECPoint) :
    (round1Key C false msgs = .pass key →
      ∃ m0, msgs.head? = some m0 ∧ C.ecNew m0.pub.1 m0.pub.2 = some key) ∧
    (∀ m0 rest, msgs = m0 :: rest → C.ecNew m0.pub.1 m0.pub.2 = some key →
      round1Key C false msgs = .pass key) := by
  constructor
  · intro h
    cases msgs with
    | nil => cases h
    | cons m0 rest =>
      rw [round1Key_false_cons] at h
      cases h0 : C.ecNew m0.pub.1 m0.pub.2 with
      | none => rw [h0] at h; cases h
      | some k =>
        rw [h0] at h
        injection h with h
        exact ⟨m0, rfl, by rw [h0, h]⟩
  · rintro m0 rest rfl h0
    rw [round1Key_false_cons, h0]

/-- on the old tree a round-1 error can only come from the FIRST old member's key (no message, or that key
does not decode — and then whoever is first in the list is named); the mismatch error is never produced -/
theorem old_tree_failure (msgs : List OldMsg) (why : String) (cs : List Nat)
    (h : round1Key C false msgs = .fail why cs) :
    (msgs = [] ∧ cs = [] ∧ why = "no old member") ∨
      ∃ m0 rest, msgs = m0 :: rest ∧ C.ecNew m0.pub.1 m0.pub.2 = none ∧ cs = [m0.idx] ∧
        why = "unable to unmarshal the eddsa pub key" := by
  cases msgs with
  | nil =>
    injection h with h1 h2
    exact Or.inl ⟨rfl, h2.symm, h1.symm⟩
  | cons m0 rest =>
    rw [round1Key_false_cons] at h
    cases h0 : C.ecNew m0.pub.1 m0.pub.2 with
    | none =>
      rw [h0] at h
      injection h with h1 h2
      exact Or.inr ⟨m0, rest, rfl, h0, h2.symm, h1.symm⟩
    | some k => rw [h0] at h; cases h

/-- in particular the old tree can never report a disagreement between old members -/
theorem old_tree_never_reports_mismatch (msgs : List OldMsg) (cs : List Nat) :
    round1Key C false msgs ≠ .fail "eddsa pub key did not match what we received previously" cs := by
  intro h
  rcases old_tree_failure msgs _ cs h with ⟨_, _, hw⟩ | ⟨_, _, _, _, _, hw⟩
  · exact absurd hw (by decide)
  · exact absurd hw (by decide)

end key

/-! ### witnesses on the toy curve `E = zmodCurve 23` (`C05.E`; `C05.Hone`: every commitment value is `1`) -/
section keyWitness
open TssVerif.C05 (E W Hone)

/-- two old members announcing DIFFERENT valid keys `5·G` and `6·G`: the tree before the repair accepts the
first one's key — and goes on to acknowledge —, the repaired tree reports the mismatch and names nobody -/
theorem old_tree_accepts_disagreement_witness :
    round1Key E false [⟨1, (5, 0), 1, [5, 3, 0, 4, 0], 11⟩, ⟨2, (6, 0), 1, [5, 2, 0, 4, 0], 10⟩] = .pass (5, 0) ∧
    round1Key E true [⟨1, (5, 0), 1, [5, 3, 0, 4, 0], 11⟩, ⟨2, (6, 0), 1, [5, 2, 0, 4, 0], 10⟩] =
      .fail "eddsa pub key did not match what we received previously" [] ∧
    newMember E Hone false ⟨true⟩ 8 3 1 2 7
      [⟨1, (5, 0), 1, [5, 3, 0, 4, 0], 11⟩, ⟨2, (6, 0), 1, [5, 2, 0, 4, 0], 10⟩] =
        .ok (.pass ⟨21, [(5, 0), (8, 0)]⟩) ∧
    newMember E Hone true ⟨true⟩ 8 3 1 2 7
      [⟨1, (5, 0), 1, [5, 3, 0, 4, 0], 11⟩, ⟨2, (6, 0), 1, [5, 2, 0, 4, 0], 10⟩] =
        .ok (.fail "eddsa pub key did not match what we received previously" []) := by
  decide

end keyWitness

/-! ## round 4 -/
section round4
variable (H : HashFn) (vcfg : Vss.VerifyCfg) (cof cofInv t' ownId ownIdx : Nat)

/-- **exact acceptance condition of the per-old-member check** -/
theorem check_old_pass_iff (m : OldMsg) (vs : List ECPoint) :
    checkOld C H vcfg cof cofInv t' ownId m = .ok (.pass vs) ↔
      ∃ flat pts, decommitWith H m.commitment (m.decommitment.map Int.ofNat) = .ok (some flat) ∧
        flat.length = (t' + 1) * 2 ∧
        C.unflatten (flat.map Int.toNat) = some pts ∧
        pts.mapM (clear C cof cofInv) = .ok vs ∧
        Vss.verify C vcfg t' ⟨t', ownId, m.share⟩ vs = .ok true :=
  checkOld_pass_iff C H vcfg cof cofInv t' ownId m vs

/-- a rejection by the per-old-member check names the sender of the checked material, nobody else -/
theorem check_old_fail_names_sender (m : OldMsg) (why : String) (cs : List Nat)
    (h : checkOld C H vcfg cof cofInv t' ownId m = .ok (.fail why cs)) : cs = [m.idx] :=
  ((checkOld_fail_iff C H vcfg cof cofInv t' ownId m why cs).1 h).1

/-- **exact acknowledgement condition of round 4**: every old member passes (`rows` = the accepted points, in
message order), the share is the plain sum, the column sums exist and `V_0 = key` -/
theorem round4_ack_iff (key : ECPoint) (msgs : List OldMsg) (ack : Ack) :
    round4 C H vcfg cof cofInv t' ownId ownIdx key msgs = .ok (.pass ack) ↔
      ∃ rows, List.Forall₂ (fun m vs => checkOld C H vcfg cof cofInv t' ownId m = .ok (.pass vs)) msgs rows ∧
        ack.xi = (msgs.map (·.share)).sum ∧ sumColumns C rows = some ack.vc ∧ ack.vc.head? = some key := by
  rw [round4_eq]
  constructor
  · intro h
    obtain ⟨r, hg, h⟩ := Outcome.bind_eq_ok.1 h
    cases r with
    | fail why cs => cases h
    | pass p =>
      obtain ⟨rows, xi⟩ := p
      obtain ⟨vss, hf, hr, hx⟩ := (r4go_pass_iff C H vcfg cof cofInv t' ownId msgs [] 0 rows xi).1 hg
      simp only [List.reverse_nil, List.nil_append] at hr
      subst hr
      rcases r4Tail_pass_inv C ownIdx key rows xi _ h with ⟨vc, h1, h2, h3⟩ | ⟨_, h3⟩ | ⟨_, _, _, _, _, h3⟩
      · injection h3 with h3
        subst h3
        exact ⟨rows, hf, by simp only; omega, h1, h2⟩
      · cases h3
      · cases h3
  · rintro ⟨rows, hf, hx, hs, hh⟩
    have hg := (r4go_pass_iff C H vcfg cof cofInv t' ownId msgs [] 0 rows ack.xi).2
      ⟨rows, hf, by simp, by omega⟩
    rw [hg]
    simp only [Outcome.ok_bind, r4Tail_pass, hs, hh, bne_self_eq_false, Bool.false_eq_true, if_false]

/-- once round 1 fixed `key`, the member runs round 4 against it -/
theorem new_member_of_key (em : Bool) (msgs : List OldMsg) (key : ECPoint)
    (hk : round1Key C em msgs = .pass key) :
    newMember C H em vcfg cof cofInv t' ownId ownIdx msgs =
      round4 C H vcfg cof cofInv t' ownId ownIdx key msgs := by
  rw [newMember_eq, hk]

/-- an acknowledgement (either tree) comes from a key fixed in round 1 and an acknowledging round 4 -/
theorem ack_inv (em : Bool) (msgs : List OldMsg) (ack : Ack)
    (h : newMember C H em vcfg cof cofInv t' ownId ownIdx msgs = .ok (.pass ack)) :
    ∃ key, round1Key C em msgs = .pass key ∧
      round4 C H vcfg cof cofInv t' ownId ownIdx key msgs = .ok (.pass ack) := by
  rw [newMember_eq] at h
  cases hk : round1Key C em msgs with
  | fail why cs => rw [hk] at h; cases h
  | pass key => rw [hk] at h; exact ⟨key, rfl, h⟩

/-- **an acknowledgement implies every check**: the key exists (`key_agreed_by_every_old_member`); every old member's
commitment opens to `2(t'+1)` coordinates, these are curve points, cofactor clearing returns `vs`, and the member's
share verifies against `vs` under this member's id (`rows` lists those `vs` in message order); the new share is the
plain sum of the received shares; the column sums of `rows` exist, are `ack.vc`, and start with the agreed key -/
theorem ack_implies_every_check (msgs : List OldMsg) (ack : Ack)
    (h : newMember C H true vcfg cof cofInv t' ownId ownIdx msgs = .ok (.pass ack)) :
    ∃ key, round1Key C true msgs = .pass key ∧ msgs ≠ [] ∧
      (∀ m ∈ msgs, C.ecNew m.pub.1 m.pub.2 = some key) ∧
      ∃ rows : List (List ECPoint),
        List.Forall₂ (fun m vs =>
          ∃ flat pts, decommitWith H m.commitment (m.decommitment.map Int.ofNat) = .ok (some flat) ∧
            flat.length = (t' + 1) * 2 ∧
            C.unflatten (flat.map Int.toNat) = some pts ∧
            pts.mapM (clear C cof cofInv) = .ok vs ∧
            Vss.verify C vcfg t' ⟨t', ownId, m.share⟩ vs = .ok true) msgs rows ∧
        (∀ m ∈ msgs, ∃ flat pts vs, vs ∈ rows ∧
          decommitWith H m.commitment (m.decommitment.map Int.ofNat) = .ok (some flat) ∧
          flat.length = (t' + 1) * 2 ∧
          C.unflatten (flat.map Int.toNat) = some pts ∧
          pts.mapM (clear C cof cofInv) = .ok vs ∧
          Vss.verify C vcfg t' ⟨t', ownId, m.share⟩ vs = .ok true) ∧
        ack.xi = (msgs.map (·.share)).sum ∧
        sumColumns C rows = some ack.vc ∧
        ack.vc.head? = some key := by
  obtain ⟨key, hk, h4⟩ := ack_inv H vcfg cof cofInv t' ownId ownIdx true msgs ack h
  obtain ⟨hall, hne⟩ := key_agreed_by_every_old_member msgs key hk
  obtain ⟨rows, hf, hxi, hs, hh⟩ := (round4_ack_iff H vcfg cof cofInv t' ownId ownIdx key msgs ack).1 h4
  have hf' := List.Forall₂.imp (fun m vs hp => (check_old_pass_iff H vcfg cof cofInv t' ownId m vs).1 hp) hf
  refine ⟨key, hk, hne, hall, rows, hf', ?_, hxi, hs, hh⟩
  intro m hm
  obtain ⟨vs, hvs, flat, pts, hp⟩ := C05L.forall₂_mem_left hf' m hm
  exact ⟨flat, pts, vs, hvs, hp⟩

/-- **exact failure condition of round 4** -/
theorem failure_iff (key : ECPoint) (msgs : List OldMsg) (why : String) (cs : List Nat) :
    round4 C H vcfg cof cofInv t' ownId ownIdx key msgs = .ok (.fail why cs) ↔
      (∃ pre m post, msgs = pre ++ m :: post ∧
        (∀ p ∈ pre, ∃ vs, checkOld C H vcfg cof cofInv t' ownId p = .ok (.pass vs)) ∧
        checkOld C H vcfg cof cofInv t' ownId m = .ok (.fail why cs)) ∨
      (∃ rows, List.Forall₂ (fun m vs => checkOld C H vcfg cof cofInv t' ownId m = .ok (.pass vs)) msgs rows ∧
        ((why = "Vc[c].Add(vjc[j][c])" ∧ cs = [] ∧
            (sumColumns C rows = none ∨ ∃ vc, sumColumns C rows = some vc ∧ vc.head? = none)) ∨
          (why = "assertion failed: V_0 != y" ∧ cs = [ownIdx] ∧
            ∃ vc v0, sumColumns C rows = some vc ∧ vc.head? = some v0 ∧ v0 ≠ key))) := by
  rw [round4_eq, Outcome.bind_eq_ok]
  constructor
  · rintro ⟨r, hg, h⟩
    cases r with
    | fail why' cs' =>
      injection h with h
      injection h with h1 h2
      subst h1 h2
      exact Or.inl ((r4go_fail_iff C H vcfg cof cofInv t' ownId msgs [] 0 why' cs').1 hg)
    | pass p =>
      obtain ⟨rows, xi⟩ := p
      obtain ⟨vss, hf, hr, _⟩ := (r4go_pass_iff C H vcfg cof cofInv t' ownId msgs [] 0 rows xi).1 hg
      simp only [List.reverse_nil, List.nil_append] at hr
      subst hr
      exact Or.inr ⟨rows, hf, (r4Tail_fail_iff C ownIdx key rows xi why cs).1 h⟩
  · rintro (hfail | ⟨rows, hf, hcase⟩)
    · exact ⟨.fail why cs, (r4go_fail_iff C H vcfg cof cofInv t' ownId msgs [] 0 why cs).2 hfail, rfl⟩
    · exact ⟨.pass (rows, _), (r4go_pass_iff C H vcfg cof cofInv t' ownId msgs [] 0 rows _).2 ⟨rows, hf, by simp, rfl⟩,
        (r4Tail_fail_iff C ownIdx key rows _ why cs).2 hcase⟩

/-- **the culprits of a round-4 failure**: either the FIRST old member (in message order) whose material is
rejected — all earlier ones pass — is named, alone; or nobody (every old member passes but the column sums are not
representable); or the reporter itself (every old member passes, `V_0 ≠ key`) -/
theorem failure_culprits (key : ECPoint) (msgs : List OldMsg) (why : String) (cs : List Nat)
    (h : round4 C H vcfg cof cofInv t' ownId ownIdx key msgs = .ok (.fail why cs)) :
    (∃ pre m post, msgs = pre ++ m :: post ∧
      (∀ p ∈ pre, ∃ vs, checkOld C H vcfg cof cofInv t' ownId p = .ok (.pass vs)) ∧
      checkOld C H vcfg cof cofInv t' ownId m = .ok (.fail why [m.idx]) ∧ cs = [m.idx]) ∨
    (cs = [] ∧ why = "Vc[c].Add(vjc[j][c])" ∧
      ∃ rows, List.Forall₂ (fun m vs => checkOld C H vcfg cof cofInv t' ownId m = .ok (.pass vs)) msgs rows ∧
        (sumColumns C rows = none ∨ ∃ vc, sumColumns C rows = some vc ∧ vc.head? = none)) ∨
    (cs = [ownIdx] ∧ why = "assertion failed: V_0 != y" ∧
      ∃ rows vc v0,
        List.Forall₂ (fun m vs => checkOld C H vcfg cof cofInv t' ownId m = .ok (.pass vs)) msgs rows ∧
        sumColumns C rows = some vc ∧ vc.head? = some v0 ∧ v0 ≠ key) := by
  rcases (failure_iff H vcfg cof cofInv t' ownId ownIdx key msgs why cs).1 h with
    ⟨pre, m, post, hs, hpre, hbad⟩ | ⟨rows, hf, ⟨h1, h2, h3⟩ | ⟨h1, h2, vc, v0, h3⟩⟩
  · have hcs := check_old_fail_names_sender H vcfg cof cofInv t' ownId m why cs hbad
    subst hcs
    exact Or.inl ⟨pre, m, post, hs, hpre, hbad, rfl⟩
  · exact Or.inr (Or.inl ⟨h2, h1, rows, hf, h3⟩)
  · exact Or.inr (Or.inr ⟨h2, h1, rows, vc, v0, hf, h3⟩)

/-- **who can be named by the new member at all** (repaired tree): an old member whose OWN material fails (its
announced key does not decode, or its round-3 material is rejected), or — with the `V_0` assertion — the
reporter itself. Nobody else. -/
theorem new_member_failure_names (msgs : List OldMsg) (why : String) (cs : List Nat)
    (h : newMember C H true vcfg cof cofInv t' ownId ownIdx msgs = .ok (.fail why cs)) :
    ∀ c ∈ cs,
      (∃ m ∈ msgs, m.idx = c ∧ (C.ecNew m.pub.1 m.pub.2 = none ∨
        ∃ why', checkOld C H vcfg cof cofInv t' ownId m = .ok (.fail why' [m.idx]))) ∨
      (c = ownIdx ∧ why = "assertion failed: V_0 != y") := by
  rw [newMember_eq] at h
  cases hk : round1Key C true msgs with
  | fail why' cs' =>
    rw [hk] at h
    injection h with h
    injection h with h1 h2
    subst h1 h2
    intro c hc
    obtain ⟨m, hm, hi, hn⟩ := (key_mismatch_names_nobody msgs why' cs' hk).2 c hc
    exact Or.inl ⟨m, hm, hi, Or.inl hn⟩
  | pass key =>
    rw [hk] at h
    intro c hc
    rcases failure_culprits H vcfg cof cofInv t' ownId ownIdx key msgs why cs h with
      ⟨pre, m, post, hs, _, hbad, hcs⟩ | ⟨hcs, _⟩ | ⟨hcs, hw, _⟩
    · rw [hcs] at hc
      rcases List.mem_cons.1 hc with rfl | hc
      · exact Or.inl ⟨m, by rw [hs]; simp, rfl, Or.inr ⟨why, hbad⟩⟩
      · cases hc
    · rw [hcs] at hc; cases hc
    · rw [hcs] at hc
      rcases List.mem_cons.1 hc with rfl | hc
      · exact Or.inr ⟨rfl, hw⟩
      · cases hc

/-- **single deviator**: if every message except those of index `dev` passes the per-member check, a round-4
failure names `dev` and nobody else — or nobody / the reporter with the two unattributable errors -/
theorem single_deviator_old_member (key : ECPoint) (msgs : List OldMsg) (dev : Nat)
    (hothers : ∀ m ∈ msgs, m.idx ≠ dev → ∃ vs, checkOld C H vcfg cof cofInv t' ownId m = .ok (.pass vs))
    (why : String) (cs : List Nat)
    (h : round4 C H vcfg cof cofInv t' ownId ownIdx key msgs = .ok (.fail why cs)) :
    cs = [dev] ∨ (cs = [] ∧ why = "Vc[c].Add(vjc[j][c])") ∨
      (cs = [ownIdx] ∧ why = "assertion failed: V_0 != y") := by
  rcases failure_culprits H vcfg cof cofInv t' ownId ownIdx key msgs why cs h with
    ⟨pre, m, post, hs, _, hbad, hcs⟩ | ⟨hcs, hw, _⟩ | ⟨hcs, hw, _⟩
  · left
    by_cases hm : m.idx = dev
    · rw [hcs, hm]
    · obtain ⟨vs, hvs⟩ := hothers m (by rw [hs]; simp) hm
      rw [hvs] at hbad
      cases hbad
  · exact Or.inr (Or.inl ⟨hcs, hw⟩)
  · exact Or.inr (Or.inr ⟨hcs, hw⟩)

/-- … and when the deviator's material IS rejected (indices distinct, everybody else passes), round 4 reports
exactly that rejection with the culprit list `[dev]` -/
theorem single_deviator_old_member_blamed (key : ECPoint) (msgs : List OldMsg) (d : OldMsg)
    (hnd : (msgs.map (·.idx)).Nodup) (hd : d ∈ msgs)
    (hothers : ∀ m ∈ msgs, m.idx ≠ d.idx → ∃ vs, checkOld C H vcfg cof cofInv t' ownId m = .ok (.pass vs))
    (why : String) (cs : List Nat)
    (hbad : checkOld C H vcfg cof cofInv t' ownId d = .ok (.fail why cs)) :
    round4 C H vcfg cof cofInv t' ownId ownIdx key msgs = .ok (.fail why [d.idx]) := by
  have hcs := check_old_fail_names_sender H vcfg cof cofInv t' ownId d why cs hbad
  subst hcs
  obtain ⟨pre, post, rfl⟩ := List.append_of_mem hd
  refine (failure_iff H vcfg cof cofInv t' ownId ownIdx key _ why [d.idx]).2 (Or.inl ⟨pre, d, post, rfl, ?_, hbad⟩)
  exact fun p hp => hothers p (by simp [hp]) (C05L.idx_ne_of_nodup (·.idx) hnd p hp)

/-- **an altered share is blamed on its sender**: all earlier old members pass, `m`'s commitment opens
correctly to points `vs`, but `m`'s share fails `Vss.verify` against them -/
theorem altered_share_blamed (key : ECPoint) (pre post : List OldMsg) (m : OldMsg) (flat : List Int)
    (pts vs : List ECPoint)
    (hpre : ∀ p ∈ pre, ∃ ws, checkOld C H vcfg cof cofInv t' ownId p = .ok (.pass ws))
    (hd : decommitWith H m.commitment (m.decommitment.map Int.ofNat) = .ok (some flat))
    (hl : flat.length = (t' + 1) * 2) (hu : C.unflatten (flat.map Int.toNat) = some pts)
    (hm : pts.mapM (clear C cof cofInv) = .ok vs)
    (hv : Vss.verify C vcfg t' ⟨t', ownId, m.share⟩ vs = .ok false) :
    round4 C H vcfg cof cofInv t' ownId ownIdx key (pre ++ m :: post) =
      .ok (.fail "share from old committee did not pass Verify()" [m.idx]) :=
  (failure_iff H vcfg cof cofInv t' ownId ownIdx key _ _ _).2 (Or.inl ⟨pre, m, post, rfl, hpre,
    checkOld_of_rejected C H vcfg cof cofInv t' ownId m _ (.share flat pts vs hd hl hu hm hv)⟩)

/-- **an altered de-commitment is blamed on its sender**: all earlier old members pass, and `m`'s
de-commitment does not open its round-1 commitment, or opens it to the wrong number of coordinates -/
theorem altered_decommitment_blamed (key : ECPoint) (pre post : List OldMsg) (m : OldMsg)
    (hpre : ∀ p ∈ pre, ∃ ws, checkOld C H vcfg cof cofInv t' ownId p = .ok (.pass ws))
    (hbad : decommitWith H m.commitment (m.decommitment.map Int.ofNat) = .ok none ∨
      ∃ flat, decommitWith H m.commitment (m.decommitment.map Int.ofNat) = .ok (some flat) ∧
        flat.length ≠ (t' + 1) * 2) :
    round4 C H vcfg cof cofInv t' ownId ownIdx key (pre ++ m :: post) =
      .ok (.fail "de-commitment of v_j0..v_jt failed" [m.idx]) := by
  refine (failure_iff H vcfg cof cofInv t' ownId ownIdx key _ _ _).2 (Or.inl ⟨pre, m, post, rfl, hpre, ?_⟩)
  rcases hbad with hd | ⟨flat, hd, hl⟩
  · exact checkOld_of_rejected C H vcfg cof cofInv t' ownId m _ (.decommit hd)
  · exact checkOld_of_rejected C H vcfg cof cofInv t' ownId m _ (.length flat hd hl)

/-- the remaining (format) rejection: the opened coordinates are not curve points -/
theorem off_curve_points_blamed (key : ECPoint) (pre post : List OldMsg) (m : OldMsg) (flat : List Int)
    (hpre : ∀ p ∈ pre, ∃ ws, checkOld C H vcfg cof cofInv t' ownId p = .ok (.pass ws))
    (hd : decommitWith H m.commitment (m.decommitment.map Int.ofNat) = .ok (some flat))
    (hl : flat.length = (t' + 1) * 2) (hu : C.unflatten (flat.map Int.toNat) = none) :
    round4 C H vcfg cof cofInv t' ownId ownIdx key (pre ++ m :: post) = .ok (.fail "unflatten" [m.idx]) :=
  (failure_iff H vcfg cof cofInv t' ownId ownIdx key _ _ _).2 (Or.inl ⟨pre, m, post, rfl, hpre,
    checkOld_of_rejected C H vcfg cof cofInv t' ownId m _ (.unflatten flat hd hl hu)⟩)

/-! ### the acknowledged share matches the acknowledged commitment points -/

/-- **the new share is consistent with the summed commitments** (either tree, any `Vss.verify`
configuration, no side condition beyond `C.Lawful`): when the member acknowledges, `ack.vc` consists of `t'+1`
curve points and

  `(ack.xi mod q)·G = Vc[0] + Σ_{c=1..t'} (ownId^c mod q)·Vc[c]`,   `Vc[c]` = the point `ack.vc[c]` denotes,

i.e. `(ack.xi mod q)·G` is the evaluation at `ownId` "in the exponent" of the summed commitment polynomial
(`AlgL.pubShare`, the quantity the library computes as this member's public share point `BigXj`). The equation is
in the group of the lawful curve (`C.add`/`C.smul`); `AlgL.liftD C v` is the point with affine coordinates `v`. -/
theorem ack_share_consistent (hC : C.Lawful) (em : Bool) (msgs : List OldMsg) (ack : Ack)
    (h : newMember C H em vcfg cof cofInv t' ownId ownIdx msgs = .ok (.pass ack)) :
    ack.vc.length = t' + 1 ∧ (∀ v ∈ ack.vc, C.ecIsOnCurve v = true) ∧
    C.smul (ack.xi % C.q) C.base =
      AlgL.pubShare C (fun c => (ack.vc.map (AlgL.liftD C)).getD c C.zero) t' ownId := by
  obtain ⟨key, _, h4⟩ := ack_inv H vcfg cof cofInv t' ownId ownIdx em msgs ack h
  obtain ⟨rows, hf, hxi, hs, _⟩ := (round4_ack_iff H vcfg cof cofInv t' ownId ownIdx key msgs ack).1 h4
  have hp := List.Forall₂.imp (fun m vs hp => (checkOld_pass_iff C H vcfg cof cofInv t' ownId m vs).1 hp) hf
  have hshape : ∀ row ∈ rows, row.length = t' + 1 ∧ ∀ v ∈ row, C.ecIsOnCurve v = true := by
    intro row hr
    obtain ⟨m, _, hm⟩ := C05L.forall₂_mem_right hp row hr
    exact passes_shape C H vcfg cof cofInv t' ownId m hC row hm
  obtain ⟨hne, hlen, hon, _⟩ := sumColumns_some hC rows ack.vc hs
  refine ⟨?_, hon fun row hr => (hshape row hr).2, ?_⟩
  · cases rows with
    | nil => exact absurd rfl hne
    | cons r rs =>
      rw [← hlen r (List.mem_cons_self ..)]
      exact (hshape r (List.mem_cons_self ..)).1
  · rw [hxi]
    exact shares_sum_consistent hC vcfg t' ownId msgs rows ack.vc
      (List.Forall₂.imp (fun m vs hq => by obtain ⟨_, _, _, _, _, _, hv⟩ := hq; exact hv) hp) hs

/-- the per-old-member statement: every accepted share satisfies the Feldman equation against the points its
sender is accepted with, `share·G = v[0] + Σ_{c=1..t'} (ownId^c mod q)·v[c]` -/
theorem ack_each_share_consistent (hC : C.Lawful) (m : OldMsg) (vs : List ECPoint)
    (h : checkOld C H vcfg cof cofInv t' ownId m = .ok (.pass vs)) :
    C.smul m.share C.base = AlgL.pubShare C (fun c => (vs.map (AlgL.liftD C)).getD c C.zero) t' ownId := by
  obtain ⟨_, _, _, _, _, _, hv⟩ := (checkOld_pass_iff C H vcfg cof cofInv t' ownId m vs).1 h
  obtain ⟨V, hV, _, _, heq⟩ := AlgL.verify_true_feldman hC vcfg t' _ vs hv
  rw [AlgL.forall₂_lift_eq_map hV] at heq
  exact heq

/-- on the repaired `Vss.verify`: **each accepted share lies on its sender's committed polynomial** — if the
accepted points are commitments `a_c·G` to coefficients `as`, then `as` has `t'+1` entries, neither the share nor
the own id is `0 (mod q)`, and `Σ a_c·ownId^c ≡ share (mod q)` (`C15.vss_verify_sound`) -/
theorem ack_each_share_on_committed_polynomial (hC : C.Lawful) (m : OldMsg) (vs : List ECPoint)
    (h : checkOld C H ⟨true⟩ cof cofInv t' ownId m = .ok (.pass vs))
    (as : List Nat) (hcom : Vss.IsCommitment C as vs) :
    as.length = t' + 1 ∧ ownId % C.q ≠ 0 ∧ m.share % C.q ≠ 0 ∧ Vss.polyNat as ownId ≡ m.share [MOD C.q] := by
  obtain ⟨_, _, _, _, _, _, hv⟩ := (checkOld_pass_iff C H ⟨true⟩ cof cofInv t' ownId m vs).1 h
  exact C05L.accepted_on_polynomial hC t' ownId m.share vs hv as hcom

/-- … and **the acknowledged share is the value at `ownId` of the sum of the committed polynomials**: if the
accepted rows are commitments to coefficient lists `fs` (one per old member, in message order), then
`Σ_j f_j(ownId) ≡ ack.xi (mod q)` -/
theorem ack_share_on_summed_polynomial (hC : C.Lawful) (key : ECPoint) (msgs : List OldMsg) (ack : Ack)
    (rows : List (List ECPoint)) (fs : List (List Nat))
    (h : round4 C H ⟨true⟩ cof cofInv t' ownId ownIdx key msgs = .ok (.pass ack))
    (hrows : List.Forall₂ (fun m vs => checkOld C H ⟨true⟩ cof cofInv t' ownId m = .ok (.pass vs)) msgs rows)
    (hcom : List.Forall₂ (fun as vs => Vss.IsCommitment C as vs) fs rows) :
    (fs.map fun as => Vss.polyNat as ownId).sum ≡ ack.xi [MOD C.q] := by
  obtain ⟨_, _, hxi, _, _⟩ := (round4_ack_iff H ⟨true⟩ cof cofInv t' ownId ownIdx key msgs ack).1 h
  rw [hxi]
  refine accepted_sum_on_polynomials hC t' ownId msgs rows fs (List.Forall₂.imp (fun m vs hq => ?_) hrows) hcom
  obtain ⟨_, _, _, _, _, _, hv⟩ := (checkOld_pass_iff C H ⟨true⟩ cof cofInv t' ownId m vs).1 hq
  exact hv

/-! ### the member returns -/

/-- the per-old-member check returns a verdict whatever the old member sent -/
theorem check_old_returns (hC : C.Lawful)
    (hcof : C.toAffine C.zero = none → ∀ p, C.smul C.q p = C.zero)
    (hnz : C.toAffine C.zero = none → cof % C.q ≠ 0 ∧ cofInv % C.q ≠ 0)
    (m : OldMsg) (hd : m.decommitment ≠ []) :
    ∃ v, checkOld C H ⟨true⟩ cof cofInv t' ownId m = .ok v :=
  checkOld_total C H cof cofInv t' ownId m hC hcof hnz hd

/-- **the new member always returns a verdict** (either tree of round 1): an acknowledgement, or an error with
its culprit list; never a crash, never an unattributed Go error -/
theorem newMember_returns (hC : C.Lawful)
    (hcof : C.toAffine C.zero = none → ∀ p, C.smul C.q p = C.zero)
    (hnz : C.toAffine C.zero = none → cof % C.q ≠ 0 ∧ cofInv % C.q ≠ 0)
    (em : Bool) (msgs : List OldMsg) (hd : ∀ m ∈ msgs, m.decommitment ≠ []) :
    ∃ v, newMember C H em ⟨true⟩ cof cofInv t' ownId ownIdx msgs = .ok v := by
  rw [newMember_eq]
  cases round1Key C em msgs with
  | fail why cs => exact ⟨_, rfl⟩
  | pass key =>
    exact round4_total C H ⟨true⟩ cof cofInv t' ownId ownIdx key msgs
      (fun m hm => check_old_returns H cof cofInv t' ownId hC hcof hnz m (hd m hm))

theorem newMember_no_panic (hC : C.Lawful)
    (hcof : C.toAffine C.zero = none → ∀ p, C.smul C.q p = C.zero)
    (hnz : C.toAffine C.zero = none → cof % C.q ≠ 0 ∧ cofInv % C.q ≠ 0)
    (em : Bool) (msgs : List OldMsg) (hd : ∀ m ∈ msgs, m.decommitment ≠ []) (tag : String) :
    newMember C H em ⟨true⟩ cof cofInv t' ownId ownIdx msgs ≠ .panic tag := by
  obtain ⟨v, hv⟩ := newMember_returns H cof cofInv t' ownId ownIdx hC hcof hnz em msgs hd
  rw [hv]; nofun

end round4

/-! ## the hypotheses are satisfiable (toy curves `E = zmodCurve 23`, `W = zmodCurveW 23`; `cof = 8`,
`cofInv = 3`, `t' = 1`, own id `2`, own index `7`; `Hone`: every commitment value is `1`)

Old member 1 deals `3 + 4X` (points `3·G, 4·G`, share `f(2) = 11`), old member 2 deals `2 + 4X` (points
`2·G, 4·G`, share `10`); the group key is `5·G`; `Vc = [5·G, 8·G]`, the new share is `21` and
`21·G = 5·G + 2·8·G`. -/
section examples
open TssVerif.C05 (E W Hone)

/-- the honest old members -/
def o1 : OldMsg := ⟨1, (5, 0), 1, [5, 3, 0, 4, 0], 11⟩
def o2 : OldMsg := ⟨2, (5, 0), 1, [5, 2, 0, 4, 0], 10⟩

/-- the honest run is acknowledged (hypothesis of `ack_implies_every_check`, `ack_share_consistent`) -/
example : newMember E Hone true ⟨true⟩ 8 3 1 2 7 [o1, o2] = .ok (.pass ⟨21, [(5, 0), (8, 0)]⟩) := by decide

/-- … and the conclusions, computed: the key, the per-member checks, the column sums -/
example : round1Key E true [o1, o2] = .pass (5, 0) ∧
    checkOld E Hone ⟨true⟩ 8 3 1 2 o1 = .ok (.pass [(3, 0), (4, 0)]) ∧
    checkOld E Hone ⟨true⟩ 8 3 1 2 o2 = .ok (.pass [(2, 0), (4, 0)]) ∧
    sumColumns E [[(3, 0), (4, 0)], [(2, 0), (4, 0)]] = some [(5, 0), (8, 0)] := by decide

/-- `ack_share_consistent` on the instance, from the theorem (the curve is lawful) and by computation -/
example : E.smul (21 % E.q) E.base =
    AlgL.pubShare E (fun c => ([((5 : Nat), (0 : Nat)), (8, 0)].map (AlgL.liftD E)).getD c E.zero) 1 2 :=
  (ack_share_consistent Hone ⟨true⟩ 8 3 1 2 7 (zmodCurve_lawful 23) true [o1, o2] ⟨21, [(5, 0), (8, 0)]⟩
    (by decide)).2.2
example : E.smul 21 E.base = 21 ∧
    AlgL.pubShare E (fun c => ([((5 : Nat), (0 : Nat)), (8, 0)].map (AlgL.liftD E)).getD c E.zero) 1 2 = 21 := by
  decide

/-- `ack_share_on_summed_polynomial`: the rows are commitments to `3 + 4X` and `2 + 4X`; `11 + 10 ≡ 21` -/
example : Vss.IsCommitment E [3, 4] [(3, 0), (4, 0)] ∧ Vss.IsCommitment E [2, 4] [(2, 0), (4, 0)] :=
  ⟨.cons (by decide) (.cons (by decide) .nil), .cons (by decide) (.cons (by decide) .nil)⟩
example : Vss.polyNat [3, 4] 2 = 11 ∧ Vss.polyNat [2, 4] 2 = 10 := by decide

/-- `key_mismatch_names_nobody`: a second old member announcing another valid key — mismatch, nobody named; a first
old member whose key does not decode — it is named -/
example : round1Key E true [o1, ⟨2, (6, 0), 1, [5, 2, 0, 4, 0], 10⟩] =
      .fail "eddsa pub key did not match what we received previously" [] ∧
    round1Key E true [⟨1, (6, 1), 1, [5, 3, 0, 4, 0], 11⟩, o2] =
      .fail "unable to unmarshal the eddsa pub key" [1] := by decide

/-- `failure_culprits`, `altered_share_blamed`, `altered_decommitment_blamed`: old member 2 alters its share (`10 →
12`), its commitment value (`1 → 0`), or sends a de-commitment of the wrong length: each time exactly `[2]` is
reported -/
example : newMember E Hone true ⟨true⟩ 8 3 1 2 7 [o1, ⟨2, (5, 0), 1, [5, 2, 0, 4, 0], 12⟩] =
      .ok (.fail "share from old committee did not pass Verify()" [2]) ∧
    newMember E Hone true ⟨true⟩ 8 3 1 2 7 [o1, ⟨2, (5, 0), 0, [5, 2, 0, 4, 0], 10⟩] =
      .ok (.fail "de-commitment of v_j0..v_jt failed" [2]) ∧
    newMember E Hone true ⟨true⟩ 8 3 1 2 7 [o1, ⟨2, (5, 0), 1, [5, 2, 0, 4, 0, 1, 0], 10⟩] =
      .ok (.fail "de-commitment of v_j0..v_jt failed" [2]) := by decide

/-- hypotheses of `altered_share_blamed` (`pre = [o1]`, `m` = old member 2 with share `12`) -/
example : (∀ p ∈ [o1], ∃ ws, checkOld E Hone ⟨true⟩ 8 3 1 2 p = .ok (.pass ws)) ∧
    decommitWith Hone 1 (([5, 2, 0, 4, 0] : List Nat).map Int.ofNat) = .ok (some [2, 0, 4, 0]) ∧
    E.unflatten (([2, 0, 4, 0] : List Int).map Int.toNat) = some [(2, 0), (4, 0)] ∧
    [((2 : Nat), (0 : Nat)), (4, 0)].mapM (clear E 8 3) = .ok [(2, 0), (4, 0)] ∧
    Vss.verify E ⟨true⟩ 1 ⟨1, 2, 12⟩ [(2, 0), (4, 0)] = .ok false := by
  refine ⟨?_, by decide, by decide, by decide, by decide⟩
  intro p hp
  rcases List.mem_cons.1 hp with rfl | hp
  · exact ⟨[(3, 0), (4, 0)], by decide⟩
  · cases hp

/-- hypotheses of `altered_decommitment_blamed`: the commitment value `0` is not opened; a de-commitment with
three points has the wrong length -/
example : decommitWith Hone 0 (([5, 2, 0, 4, 0] : List Nat).map Int.ofNat) = .ok none ∧
    decommitWith Hone 1 (([5, 2, 0, 4, 0, 1, 0] : List Nat).map Int.ofNat) = .ok (some [2, 0, 4, 0, 1, 0]) := by
  decide

/-- `failure_culprits`, third case: both old members agree on the key `6·G`, which is not the sum of their
contributions: the reporter names itself -/
example : newMember E Hone true ⟨true⟩ 8 3 1 2 7
    [⟨1, (6, 0), 1, [5, 3, 0, 4, 0], 11⟩, ⟨2, (6, 0), 1, [5, 2, 0, 4, 0], 10⟩] =
      .ok (.fail "assertion failed: V_0 != y" [7]) := by decide

/-- `failure_culprits`, second case, on the curve `W` whose identity has no affine form (never used with EdDSA): the two
`X`-coefficients `4·G` and `19·G` cancel, the column sum is not representable, nobody is named -/
example : newMember W Hone true ⟨true⟩ 1 1 1 2 7
    [⟨1, (5, 0), 1, [5, 3, 0, 4, 0], 11⟩, ⟨2, (5, 0), 1, [5, 2, 0, 19, 0], 17⟩] =
      .ok (.fail "Vc[c].Add(vjc[j][c])" []) := by decide

/-- `single_deviator_old_member_blamed`: distinct indices, old member 1 passes, old member 2's share is rejected -/
example : (([o1, ⟨2, (5, 0), 1, [5, 2, 0, 4, 0], 12⟩] : List OldMsg).map (·.idx)).Nodup ∧
    checkOld E Hone ⟨true⟩ 8 3 1 2 ⟨2, (5, 0), 1, [5, 2, 0, 4, 0], 12⟩ =
      .ok (.fail "share from old committee did not pass Verify()" [2]) := by decide

/-- `newMember_returns`: the side conditions hold on `E` (`hcof`, `hnz` are vacuous: the identity has affine coordinates) -/
example (msgs : List OldMsg) (hd : ∀ m ∈ msgs, m.decommitment ≠ []) (tag : String) :
    newMember E Hone true ⟨true⟩ 8 3 1 2 7 msgs ≠ .panic tag :=
  newMember_no_panic Hone 8 3 1 2 7 (zmodCurve_lawful 23)
    (fun h => absurd h (zmodCurve_toAffine_zero 23)) (fun h => absurd h (zmodCurve_toAffine_zero 23))
    true msgs hd tag

end examples

end TssVerif.C04c
