import TssVerif.Lemmas.C13
import Mathlib.Tactic.NormNum.Prime
/-! # C13 — the multiplicative-to-additive exchange (`crypto/mta/share_protocol.go`)

Property theorems only; helper lemmas live in `TssVerif/Lemmas/C13.lean`.

Conventions. Alice owns the Paillier key `sk` (`sk.n = P * Q`, `sk.lambdaN = lcm (P-1) (Q-1)`,
`gcd(λ, n) = 1` — the hypotheses of `C14.dec_enc`); `a` is her secret, `x` her encryption coin;
`b` is Bob's secret, `betaPrm` (`β'`) his mask and `xB` his encryption coin. `cfgB`/`cfgA` are the guard
configurations the two verifiers run with (the current tree is `Zk.cur`; nothing depends on them).
`B = none`, `xu = none` is `BobMid`/`AliceEnd`; `B = some _`, `xu = some (_, _)` is `BobMidWC`/`AliceEndWC`.

That the proof gates accept (completeness of `rangeProve`/`rangeVerify` and `bobProve`/`bobVerify`) is a
*hypothesis* in `mta_correct*` — it enters as "the three calls returned `.ok`". Conversely `mta_progress`
shows that the gates are the only way to fail. The toy runs at the end evaluate all three calls, gates
included, on the executable model. -/
set_option autoImplicit false
namespace TssVerif.C13
open TssVerif TssVerif.Paillier TssVerif.PaillierL TssVerif.Zk TssVerif.Mta TssVerif.C13L

/-! ## arithmetic core -/

/-- **share arithmetic.** Alice's share is `(a b + β') mod n mod q`, Bob's is the Go expression
`modQ.Sub(zero, betaPrm)`, i.e. `((0 - β') % q).toNat` as in `bobMid`; their sum is `a b` modulo `q`
as soon as the plaintext did not wrap modulo `n`. (Stated with the weakest hypotheses: `0 < q` follows
from `a < q`; the bounds `a, b < q`, `β' < q⁵` are only what makes the no-wrap condition true for real
parameters, see `mta_no_wrap` and `mta_arith_of_bounds`.) -/
theorem mta_arith {q n a b betaPrm : Nat} (hq : 0 < q) (hnw : a * b + betaPrm < n) :
    ((a * b + betaPrm) % n % q + (((0 : Int) - (betaPrm : Int)) % (q : Int)).toNat) % q = a * b % q := by
  rw [Nat.mod_eq_of_lt hnw]
  have ht : ((((0 : ℤ) - (betaPrm : ℤ)) % (q : ℤ)).toNat : ℤ) = (-(betaPrm : ℤ)) % (q : ℤ) := by
    rw [Int.toNat_of_nonneg (Int.emod_nonneg _ (by omega)), zero_sub]
  zify
  rw [ht, ← Int.add_emod]
  congr 1; ring

/-- **2048-bit Paillier moduli never wrap**: `a b + β' < q² + q⁵ < 2^1281 ≤ 2^2047 ≤ n` -/
theorem mta_no_wrap {q n a b betaPrm : Nat} (hq : q < 2 ^ 256) (hn : 2 ^ 2047 ≤ n)
    (ha : a < q) (hb : b < q) (hbp : betaPrm < q ^ 5) : a * b + betaPrm < n :=
  C13L.mta_no_wrap hq hn ha hb hbp

/-- the two together, with the bounds of the protocol as the only hypotheses -/
theorem mta_arith_of_bounds {q n a b betaPrm : Nat} (hq : q < 2 ^ 256) (hn : 2 ^ 2047 ≤ n)
    (ha : a < q) (hb : b < q) (hbp : betaPrm < q ^ 5) :
    ((a * b + betaPrm) % n % q + (((0 : Int) - (betaPrm : Int)) % (q : Int)).toNat) % q = a * b % q :=
  mta_arith (by omega) (mta_no_wrap hq hn ha hb hbp)

/-! ## end-to-end correctness on the model functions -/

/-- **correctness, both variants at once**: whatever public point Bob attaches (`B`) and whatever pair Alice
checks against (`xu`), if the three calls return, then `α + β ≡ a b (mod q)`. The algebra goes through
`encryptWith`, `homoMult`, `homoAdd`, `decrypt`: `out.cB` is a well-formed ciphertext of `b a + β'`
(`C13L.cB_isCt`) and every well-formed ciphertext decrypts to its plaintext modulo `n` (`decrypt_isCt`). -/
theorem mta_correct_any {Pt : Type} (C : Curve Pt) (H : HashFn) {P Q : Nat}
    (hP : P.Prime) (hQ : Q.Prime) (hne : P ≠ Q)
    (hlam : Nat.gcd (Nat.lcm (P - 1) (Q - 1)) (P * Q) = 1)
    (sk : PrivateKey) (hn : sk.n = P * Q) (hl : sk.lambdaN = Nat.lcm (P - 1) (Q - 1))
    (cfgB cfgA : Cfg) (sess : Bytes) (rpA rpB : RP) {a b x xB betaPrm : Nat} (al be ga rho : Nat) (k : BobCoins)
    (B : Option ECPoint) (xu : Option (ECPoint × ECPoint))
    (hq : 0 < C.q) (hx : Nat.gcd x sk.n = 1) (hxB : Nat.gcd xB sk.n = 1)
    (hnw : a * b + betaPrm < sk.n)
    {cA : Nat} {rpf : RangeProof} {out : BobOut} {alpha : Nat}
    (h1 : aliceInit C H sk.n a rpB x al be ga rho = .ok (cA, rpf))
    (h2 : bobMid C H cfgB sess sk.n rpf b cA rpA rpB B betaPrm xB k = .ok out)
    (h3 : aliceEnd C H cfgA sess sk out.pf rpA cA out.cB xu = .ok alpha) :
    (alpha + out.beta) % C.q = a * b % C.q := by
  have hk := lamOK_of_key hP hQ hne hlam hn hl
  obtain ⟨-, halpha, hbeta⟩ := mta_core C H hk hx hxB h1 h2 h3
  rw [halpha, hbeta]
  exact mta_arith hq hnw

/-- **`AliceInit` / `BobMid` / `AliceEnd`** (no public-point check). Only `C.q` of the curve matters. -/
theorem mta_correct {Pt : Type} (C : Curve Pt) (H : HashFn) {P Q : Nat}
    (hP : P.Prime) (hQ : Q.Prime) (hne : P ≠ Q)
    (hlam : Nat.gcd (Nat.lcm (P - 1) (Q - 1)) (P * Q) = 1)
    (sk : PrivateKey) (hn : sk.n = P * Q) (hl : sk.lambdaN = Nat.lcm (P - 1) (Q - 1))
    (cfgB cfgA : Cfg) (sess : Bytes) (rpA rpB : RP) {a b x xB betaPrm : Nat} (al be ga rho : Nat) (k : BobCoins)
    (hq : 0 < C.q) (hx : Nat.gcd x sk.n = 1) (hxB : Nat.gcd xB sk.n = 1)
    (hnw : a * b + betaPrm < sk.n)
    {cA : Nat} {rpf : RangeProof} {out : BobOut} {alpha : Nat}
    (h1 : aliceInit C H sk.n a rpB x al be ga rho = .ok (cA, rpf))
    (h2 : bobMid C H cfgB sess sk.n rpf b cA rpA rpB none betaPrm xB k = .ok out)
    (h3 : aliceEnd C H cfgA sess sk out.pf rpA cA out.cB none = .ok alpha) :
    (alpha + out.beta) % C.q = a * b % C.q :=
  mta_correct_any C H hP hQ hne hlam sk hn hl cfgB cfgA sess rpA rpB al be ga rho k none none hq hx hxB hnw h1 h2 h3

/-- **`AliceInit` / `BobMidWC` / `AliceEndWC`**: Bob attaches the point `Bpt` (honestly `b·G`), Alice checks
against `(Bpt, U)`. The conclusion does not need `Bpt = b·G` as a hypothesis: if the gates let the run
through, the shares are right. What acceptance says about `Bpt` is `mta_wc_point_check`. -/
theorem mta_correct_wc {Pt : Type} (C : Curve Pt) (H : HashFn) {P Q : Nat}
    (hP : P.Prime) (hQ : Q.Prime) (hne : P ≠ Q)
    (hlam : Nat.gcd (Nat.lcm (P - 1) (Q - 1)) (P * Q) = 1)
    (sk : PrivateKey) (hn : sk.n = P * Q) (hl : sk.lambdaN = Nat.lcm (P - 1) (Q - 1))
    (cfgB cfgA : Cfg) (sess : Bytes) (rpA rpB : RP) {a b x xB betaPrm : Nat} (al be ga rho : Nat) (k : BobCoins)
    (Bpt U : ECPoint)
    (hq : 0 < C.q) (hx : Nat.gcd x sk.n = 1) (hxB : Nat.gcd xB sk.n = 1)
    (hnw : a * b + betaPrm < sk.n)
    {cA : Nat} {rpf : RangeProof} {out : BobOut} {alpha : Nat}
    (h1 : aliceInit C H sk.n a rpB x al be ga rho = .ok (cA, rpf))
    (h2 : bobMid C H cfgB sess sk.n rpf b cA rpA rpB (some Bpt) betaPrm xB k = .ok out)
    (h3 : aliceEnd C H cfgA sess sk out.pf rpA cA out.cB (some (Bpt, U)) = .ok alpha) :
    (alpha + out.beta) % C.q = a * b % C.q :=
  mta_correct_any C H hP hQ hne hlam sk hn hl cfgB cfgA sess rpA rpB al be ga rho k (some Bpt) (some (Bpt, U))
    hq hx hxB hnw h1 h2 h3

/-- the same with the protocol's bounds instead of the no-wrap condition: secrets in `[0, q)`,
`β' < q⁵`, a curve order below `2^256` and a Paillier modulus of at least 2048 bits -/
theorem mta_correct_of_bounds {Pt : Type} (C : Curve Pt) (H : HashFn) {P Q : Nat}
    (hP : P.Prime) (hQ : Q.Prime) (hne : P ≠ Q)
    (hlam : Nat.gcd (Nat.lcm (P - 1) (Q - 1)) (P * Q) = 1)
    (sk : PrivateKey) (hn : sk.n = P * Q) (hl : sk.lambdaN = Nat.lcm (P - 1) (Q - 1))
    (cfgB cfgA : Cfg) (sess : Bytes) (rpA rpB : RP) {a b x xB betaPrm : Nat} (al be ga rho : Nat) (k : BobCoins)
    (B : Option ECPoint) (xu : Option (ECPoint × ECPoint))
    (hq : C.q < 2 ^ 256) (hbits : 2 ^ 2047 ≤ sk.n)
    (ha : a < C.q) (hb : b < C.q) (hbp : betaPrm < C.q ^ 5)
    (hx : Nat.gcd x sk.n = 1) (hxB : Nat.gcd xB sk.n = 1)
    {cA : Nat} {rpf : RangeProof} {out : BobOut} {alpha : Nat}
    (h1 : aliceInit C H sk.n a rpB x al be ga rho = .ok (cA, rpf))
    (h2 : bobMid C H cfgB sess sk.n rpf b cA rpA rpB B betaPrm xB k = .ok out)
    (h3 : aliceEnd C H cfgA sess sk out.pf rpA cA out.cB xu = .ok alpha) :
    (alpha + out.beta) % C.q = a * b % C.q :=
  mta_correct_any C H hP hQ hne hlam sk hn hl cfgB cfgA sess rpA rpB al be ga rho k B xu (by omega) hx hxB
    (mta_no_wrap hq hbits ha hb hbp) h1 h2 h3

/-- **the values of the two shares**: Alice decrypts exactly `a b + β'` (no reduction happened),
`α = (a b + β') mod q`, `β = −β' mod q`, and Bob's record carries the `β'` he was given -/
theorem mta_shares {Pt : Type} (C : Curve Pt) (H : HashFn) {P Q : Nat}
    (hP : P.Prime) (hQ : Q.Prime) (hne : P ≠ Q)
    (hlam : Nat.gcd (Nat.lcm (P - 1) (Q - 1)) (P * Q) = 1)
    (sk : PrivateKey) (hn : sk.n = P * Q) (hl : sk.lambdaN = Nat.lcm (P - 1) (Q - 1))
    (cfgB cfgA : Cfg) (sess : Bytes) (rpA rpB : RP) {a b x xB betaPrm : Nat} (al be ga rho : Nat) (k : BobCoins)
    (B : Option ECPoint) (xu : Option (ECPoint × ECPoint))
    (hx : Nat.gcd x sk.n = 1) (hxB : Nat.gcd xB sk.n = 1) (hnw : a * b + betaPrm < sk.n)
    {cA : Nat} {rpf : RangeProof} {out : BobOut} {alpha : Nat}
    (h1 : aliceInit C H sk.n a rpB x al be ga rho = .ok (cA, rpf))
    (h2 : bobMid C H cfgB sess sk.n rpf b cA rpA rpB B betaPrm xB k = .ok out)
    (h3 : aliceEnd C H cfgA sess sk out.pf rpA cA out.cB xu = .ok alpha) :
    decrypt sk (out.cB : Int) = .ok (a * b + betaPrm) ∧
    alpha = (a * b + betaPrm) % C.q ∧
    out.beta = (((0 : Int) - (betaPrm : Int)) % (C.q : Int)).toNat ∧
    out.betaPrm = betaPrm := by
  have hk := lamOK_of_key hP hQ hne hlam hn hl
  obtain ⟨hdec, halpha, hbeta⟩ := mta_core C H hk hx hxB h1 h2 h3
  obtain ⟨-, _, _, -, -, -, -, -, hbp'⟩ := bobMid_ok C H h2
  rw [Nat.mod_eq_of_lt hnw] at hdec halpha
  exact ⟨hdec, halpha, hbeta, hbp'⟩

/-- **progress: the proof gates are the only way to fail.** With in-range inputs and unit coins, if
Alice's range proof verifies, Bob's prover returns and Bob's proof verifies, then `BobMid(WC)` and
`AliceEnd(WC)` both return, with the ciphertext and shares in closed form (no error from the Paillier
operations, no crash in `Decrypt`). -/
theorem mta_progress {Pt : Type} (C : Curve Pt) (H : HashFn) {P Q : Nat}
    (hP : P.Prime) (hQ : Q.Prime) (hne : P ≠ Q)
    (hlam : Nat.gcd (Nat.lcm (P - 1) (Q - 1)) (P * Q) = 1)
    (sk : PrivateKey) (hn : sk.n = P * Q) (hl : sk.lambdaN = Nat.lcm (P - 1) (Q - 1))
    (cfgB cfgA : Cfg) (sess : Bytes) (rpA rpB : RP) {a b x xB betaPrm : Nat} (al be ga rho : Nat) (k : BobCoins)
    (B : Option ECPoint) (xu : Option (ECPoint × ECPoint))
    (ha : a < sk.n) (hb : b < sk.n) (hbp : betaPrm < sk.n)
    (hx : Nat.gcd x sk.n = 1) (hxB : Nat.gcd xB sk.n = 1)
    {cA : Nat} {rpf : RangeProof} {pf : BobProof} {u : Option ECPoint}
    (h1 : aliceInit C H sk.n a rpB x al be ga rho = .ok (cA, rpf))
    (hR : rangeVerify cfgB H C.q (sk.n : Int) rpB.ntilde rpB.h1 rpB.h2 (cA : Int) rpf = .ok true)
    (hPr : bobProve C H sess sk.n rpA.ntilde rpA.h1 rpA.h2 cA (cBOf sk.n a b betaPrm x xB)
      b betaPrm xB B k = .ok (pf, u))
    (hV : bobVerify C H cfgA sess (sk.n : Int) rpA.ntilde rpA.h1 rpA.h2 (cA : Int)
      (cBOf sk.n a b betaPrm x xB : Int) pf xu = .ok true) :
    cA = encNat sk.n a x ∧
    bobMid C H cfgB sess sk.n rpf b cA rpA rpB B betaPrm xB k =
      .ok ⟨(((0 : Int) - (betaPrm : Int)) % (C.q : Int)).toNat, cBOf sk.n a b betaPrm x xB, betaPrm, pf, u⟩ ∧
    aliceEnd C H cfgA sess sk pf rpA cA (cBOf sk.n a b betaPrm x xB) xu =
      .ok ((a * b + betaPrm) % sk.n % C.q) := by
  have hk := lamOK_of_key hP hQ hne hlam hn hl
  obtain ⟨hA, -⟩ := aliceInit_ok C H h1
  rw [encryptWith_eq ha] at hA
  injection hA with hA
  subst hA
  exact ⟨rfl, bobMid_progress C H hb hbp hR hPr, aliceEnd_progress C H hk hx hxB hV⟩

/-! ## the gates -/

/-- Alice produces a share only if Bob's proof verified … -/
theorem mta_gate_alice {Pt : Type} (C : Curve Pt) (H : HashFn) {cfg : Cfg} {sess : Bytes} {sk : PrivateKey}
    {pf : BobProof} {rpA : RP} {cA cB : Nat} {xu : Option (ECPoint × ECPoint)} {alpha : Nat}
    (h : aliceEnd C H cfg sess sk pf rpA cA cB xu = .ok alpha) :
    bobVerify C H cfg sess (sk.n : Int) rpA.ntilde rpA.h1 rpA.h2 (cA : Int) (cB : Int) pf xu = .ok true :=
  (aliceEnd_ok C H h).1

/-- … and her share is the decryption of Bob's ciphertext reduced modulo `q` -/
theorem mta_alpha_is_decrypt_mod_q {Pt : Type} (C : Curve Pt) (H : HashFn) {cfg : Cfg} {sess : Bytes}
    {sk : PrivateKey} {pf : BobProof} {rpA : RP} {cA cB : Nat} {xu : Option (ECPoint × ECPoint)} {alpha : Nat}
    (h : aliceEnd C H cfg sess sk pf rpA cA cB xu = .ok alpha) :
    ∃ alphaPrm : Nat, decrypt sk (cB : Int) = .ok alphaPrm ∧ alpha = alphaPrm % C.q :=
  (aliceEnd_ok C H h).2

/-- Bob answers only if Alice's range proof verified -/
theorem mta_gate_bob {Pt : Type} (C : Curve Pt) (H : HashFn) {cfg : Cfg} {sess : Bytes} {nA : Nat}
    {rpf : RangeProof} {b cA : Nat} {rpA rpB : RP} {B : Option ECPoint} {betaPrm xB : Nat} {k : BobCoins}
    {out : BobOut}
    (h : bobMid C H cfg sess nA rpf b cA rpA rpB B betaPrm xB k = .ok out) :
    rangeVerify cfg H C.q (nA : Int) rpB.ntilde rpB.h1 rpB.h2 (cA : Int) rpf = .ok true :=
  (bobMid_ok C H h).1

/-- a rejected `ProofBob(WC)` is reported as an error, no share is produced -/
theorem mta_reject_alice {Pt : Type} (C : Curve Pt) (H : HashFn) {cfg : Cfg} {sess : Bytes} {sk : PrivateKey}
    {pf : BobProof} {rpA : RP} {cA cB : Nat} {xu : Option (ECPoint × ECPoint)}
    (h : bobVerify C H cfg sess (sk.n : Int) rpA.ntilde rpA.h1 rpA.h2 (cA : Int) (cB : Int) pf xu = .ok false) :
    aliceEnd C H cfg sess sk pf rpA cA cB xu = .err "bob-proof-rejected" := by
  unfold aliceEnd
  rw [h]; rfl

/-- a rejected `RangeProofAlice` is reported as an error, Bob computes nothing -/
theorem mta_reject_bob {Pt : Type} (C : Curve Pt) (H : HashFn) {cfg : Cfg} {sess : Bytes} {nA : Nat}
    {rpf : RangeProof} {b cA : Nat} {rpA rpB : RP} {B : Option ECPoint} {betaPrm xB : Nat} {k : BobCoins}
    (h : rangeVerify cfg H C.q (nA : Int) rpB.ntilde rpB.h1 rpB.h2 (cA : Int) rpf = .ok false) :
    bobMid C H cfg sess nA rpf b cA rpA rpB B betaPrm xB k = .err "range-proof-rejected" := by
  unfold bobMid
  rw [h]; rfl

/-- `BobMidWC` returns `U = α·G` next to the proof (this is the `U` Alice must be given) -/
theorem mta_wc_returns_u {Pt : Type} (C : Curve Pt) (H : HashFn) {cfg : Cfg} {sess : Bytes} {nA : Nat}
    {rpf : RangeProof} {b cA : Nat} {rpA rpB : RP} {Bpt : ECPoint} {betaPrm xB : Nat} {k : BobCoins}
    {out : BobOut}
    (h : bobMid C H cfg sess nA rpf b cA rpA rpB (some Bpt) betaPrm xB k = .ok out) :
    ∃ U, out.u = some U ∧ C.ecBaseMult (k.alpha : Int) = .ok U := by
  obtain ⟨-, _, _, -, -, -, hp, -, -⟩ := bobMid_ok C H h
  exact bobProve_some_u C H hp

/-! ## the public-point check of the WC variant -/

/-- **acceptance forces the point relation.** If `AliceEndWC` returns a share then, with
`e = bobChallenge …` and `s1q = s1 mod q`, the three curve calls of `ProofBobWC.Verify` succeeded and
`s1q·G` and `e·X + U` have equal coordinates; on the current tree (`bobWCGuards`) moreover `s1q ≠ 0`, `e ≠ 0`. -/
theorem mta_wc_point_check {Pt : Type} (C : Curve Pt) (H : HashFn) {cfg : Cfg} {sess : Bytes} {sk : PrivateKey}
    {pf : BobProof} {rpA : RP} {cA cB : Nat} {X U : ECPoint} {alpha : Nat}
    (h : aliceEnd C H cfg sess sk pf rpA cA cB (some (X, U)) = .ok alpha) :
    ∃ gS1 xe xeu : ECPoint,
      C.ecBaseMult ((pf.s1 % (C.q : Int)).toNat : Int) = .ok gS1 ∧
      C.ecScalarMult X (bobChallenge C H sess sk.n cA cB (some (X, U)) pf : Int) = .ok xe ∧
      C.ecAdd xe U = .ok xeu ∧ ecEquals gS1 xeu = true ∧
      (cfg.bobWCGuards = true →
        (pf.s1 % (C.q : Int)).toNat ≠ 0 ∧ bobChallenge C H sess sk.n cA cB (some (X, U)) pf ≠ 0) := by
  obtain ⟨-, ⟨hg, g, xe, h1, h2, h3⟩, -⟩ :=
    (bobVerify_eq_true_iff C H cfg sess _ _ _ _ _ _ pf (some (X, U))).1 (aliceEnd_ok C H h).1
  exact ⟨g, xe, g, h1, h2, h3, (Vss.ecEquals_iff g g).2 rfl, hg⟩

/-- the same as an equation between group elements of a lawful curve: `X` and `U` are coordinates of
curve points `pX`, `pU` and `(s1 mod q)·G = e·pX + pU` -/
theorem mta_wc_point_relation {Pt : Type} (C : Curve Pt) (hC : C.Lawful) (H : HashFn) {cfg : Cfg} {sess : Bytes}
    {sk : PrivateKey} {pf : BobProof} {rpA : RP} {cA cB : Nat} {X U : ECPoint} {alpha : Nat}
    (h : aliceEnd C H cfg sess sk pf rpA cA cB (some (X, U)) = .ok alpha) :
    ∃ pX pU : Pt, C.lift X = some pX ∧ C.lift U = some pU ∧
      C.smul (pf.s1 % (C.q : Int)).toNat C.base =
        C.add (C.smul (bobChallenge C H sess sk.n cA cB (some (X, U)) pf) pX) pU := by
  obtain ⟨gS1, xe, xeu, h1, h2, h3, h4, -⟩ := mta_wc_point_check C H h
  obtain rfl := (Vss.ecEquals_iff gS1 xeu).1 h4
  exact C11L.point_relation hC h1 h2 h3

/-! ## the ciphertexts are inputs of the challenges -/

/-- Bob's challenge is the hash of `bobPreimage n c1 c2 xu pf = [N, N+1, (X), c1, c2, (U), z, z', t, v, w]`,
tagged with the session … -/
theorem bob_challenge_preimage {Pt : Type} (C : Curve Pt) (H : HashFn) (sess : Bytes) (n c1 c2 : Int)
    (xu : Option (ECPoint × ECPoint)) (pf : BobProof) :
    bobChallenge C H sess n c1 c2 xu pf =
      rejectionSample C.q ((sha512_256iTaggedWith H sess (bobPreimage n c1 c2 xu pf)).getD 0) ∧
    bobChallenge C H sess n c1 c2 xu pf =
      bytesToNat (H (taggedPreimage H sess (bobPreimage n c1 c2 xu pf))) % C.q := by
  cases xu <;> exact ⟨rfl, rfl⟩

/-- … and Alice's range-proof challenge is the hash of `rangePreimage n c z u w = [N, N+1, c, z, u, w]` -/
theorem range_challenge_preimage (H : HashFn) (q : Nat) (n c z u w : Int) :
    rangeChallenge H q n c z u w =
      rejectionSample q ((sha512_256iWith H (rangePreimage n c z u w)).getD 0) ∧
    rangeChallenge H q n c z u w =
      bytesToNat (H (frame ((rangePreimage n c z u w).map intToBytesBE))) % q :=
  ⟨rfl, rfl⟩

/-- the list fed to Bob's challenge hash determines every input: modulus, both ciphertexts, the points,
and the five commitments of the proof -/
theorem bob_preimage_injective {n c1 c2 n' c1' c2' : Int} {xu xu' : Option (ECPoint × ECPoint)}
    {pf pf' : BobProof} (h : bobPreimage n c1 c2 xu pf = bobPreimage n' c1' c2' xu' pf') :
    n = n' ∧ c1 = c1' ∧ c2 = c2' ∧ xu = xu' ∧
      pf.z = pf'.z ∧ pf.zPrm = pf'.zPrm ∧ pf.t = pf'.t ∧ pf.v = pf'.v ∧ pf.w = pf'.w :=
  C12L.bob_preimage_inj h

/-- altering Alice's ciphertext `c1 = cA` changes what Bob's challenge hashes (whatever else changes) -/
theorem bob_preimage_c1_injective {n c1 c2 n' c1' c2' : Int} {xu xu' : Option (ECPoint × ECPoint)}
    {pf pf' : BobProof} (hne : c1 ≠ c1') :
    bobPreimage n c1 c2 xu pf ≠ bobPreimage n' c1' c2' xu' pf' :=
  fun h => hne (bob_preimage_injective h).2.1

/-- altering Bob's ciphertext `c2 = cB` changes what Bob's challenge hashes (whatever else changes) -/
theorem bob_preimage_c2_injective {n c1 c2 n' c1' c2' : Int} {xu xu' : Option (ECPoint × ECPoint)}
    {pf pf' : BobProof} (hne : c2 ≠ c2') :
    bobPreimage n c1 c2 xu pf ≠ bobPreimage n' c1' c2' xu' pf' :=
  fun h => hne (bob_preimage_injective h).2.2.1

/-- altering Alice's ciphertext changes what her range-proof challenge hashes (whatever else changes) -/
theorem range_preimage_c_injective {n c z u w n' c' z' u' w' : Int} (hne : c ≠ c') :
    rangePreimage n c z u w ≠ rangePreimage n' c' z' u' w' :=
  fun h => hne (C12L.range_preimage_inj h).2.1

/-- **tampering changes the pre-image**: the three statements for a message altered in transit, everything
else unchanged — `cA` on its way to Bob (range-proof challenge), `cA` or `cB` on the way back to Alice
(Bob's challenge) -/
theorem mta_tamper_changes_preimage {n cA cA' cB cB' z u w : Int} {xu : Option (ECPoint × ECPoint)}
    {pf : BobProof} :
    (cA ≠ cA' → rangePreimage n cA z u w ≠ rangePreimage n cA' z u w) ∧
    (cA ≠ cA' → bobPreimage n cA cB xu pf ≠ bobPreimage n cA' cB xu pf) ∧
    (cB ≠ cB' → bobPreimage n cA cB xu pf ≠ bobPreimage n cA cB' xu pf) :=
  ⟨range_preimage_c_injective, bob_preimage_c1_injective, bob_preimage_c2_injective⟩

/-- **byte level, Bob's challenge**: for ciphertexts as they travel (natural numbers), a changed `cA` or
`cB` changes the byte string that reaches `H` — the framing of `SHA512_256i_TAGGED` is injective
(`C16.frame_injective`) and `Bytes()` is injective on naturals. `Short`: every element is shorter than
`2^64` bytes. -/
theorem bob_hash_input_injective (H : HashFn) (sess : Bytes) {n n' : Int} {cA cB cA' cB' : Nat}
    {xu xu' : Option (ECPoint × ECPoint)} {pf pf' : BobProof}
    (hs : C16L.Short ((bobPreimage n cA cB xu pf).map intToBytesBE))
    (hs' : C16L.Short ((bobPreimage n' cA' cB' xu' pf').map intToBytesBE))
    (h : taggedPreimage H sess (bobPreimage n cA cB xu pf) =
      taggedPreimage H sess (bobPreimage n' cA' cB' xu' pf')) :
    cA = cA' ∧ cB = cB' := by
  have := tagged_int_natAbs H hs hs' h
  rcases xu with _ | ⟨⟨X1, X2⟩, ⟨U1, U2⟩⟩ <;> rcases xu' with _ | ⟨⟨X1', X2'⟩, ⟨U1', U2'⟩⟩ <;>
    simp [bobPreimage] at this
  · exact ⟨this.2.2.1, this.2.2.2.1⟩
  · exact ⟨this.2.2.2.2.1, this.2.2.2.2.2.1⟩

/-- **byte level, Alice's range-proof challenge** -/
theorem range_hash_input_injective {n n' z u w z' u' w' : Int} {cA cA' : Nat}
    (hs : C16L.Short ((rangePreimage n cA z u w).map intToBytesBE))
    (hs' : C16L.Short ((rangePreimage n' cA' z' u' w').map intToBytesBE))
    (h : frame ((rangePreimage n cA z u w).map intToBytesBE) =
      frame ((rangePreimage n' cA' z' u' w').map intToBytesBE)) :
    cA = cA' := by
  have := C12L.frame_int_natAbs hs hs' h
  simp [rangePreimage] at this
  exact this.2.2.1

/-- hence: a tampered ciphertext that leaves Bob's challenge digest unchanged exhibits a collision of `H` -/
theorem bob_tamper_collision (H : HashFn) (sess : Bytes) {n n' : Int} {cA cB cA' cB' : Nat}
    {xu xu' : Option (ECPoint × ECPoint)} {pf pf' : BobProof}
    (hs : C16L.Short ((bobPreimage n cA cB xu pf).map intToBytesBE))
    (hs' : C16L.Short ((bobPreimage n' cA' cB' xu' pf').map intToBytesBE))
    (hne : cA ≠ cA' ∨ cB ≠ cB')
    (h : H (taggedPreimage H sess (bobPreimage n cA cB xu pf)) =
      H (taggedPreimage H sess (bobPreimage n' cA' cB' xu' pf'))) :
    ∃ x y : Bytes, x ≠ y ∧ H x = H y :=
  ⟨_, _, fun he => by
    obtain ⟨e1, e2⟩ := bob_hash_input_injective H sess hs hs' he
    rcases hne with hne | hne
    · exact hne e1
    · exact hne e2, h⟩

/-! ## the hypotheses are satisfiable; runs of the executable model

Toy parameters: Alice's key `P = 29`, `Q = 31` (`n = 899`, `λ = 420`); the exponent curve
`zmodCurve 5` (`q = 5`, proved lawful); ring-Pedersen parameters `Ñ = 253 = 11·23`; secrets `a = 3`,
`b = 4`, mask `β' = 102 < 5⁵`, `a b + β' = 114 < 899`. -/
namespace Toy

instance fact5 : Fact (Nat.Prime 5) := ⟨by norm_num⟩
abbrev C5 : Curve (ZMod 5) := zmodCurve 5
/-- a constant hash: every challenge is `1` (evaluated by `decide`) -/
def H1 : HashFn := fun _ => [1]
/-- a hash that depends on every input byte: the byte sum (evaluated by `decide +kernel`: the byte
encoding `natToBytesLE` is a well-founded recursion, which only the kernel unfolds) -/
def Hsum : HashFn := fun b => [UInt8.ofNat (b.foldl (fun acc x => acc + x.toNat) 0)]
def sk : PrivateKey := ⟨899, 420, 840, 29, 31⟩
def rpA : RP := ⟨253, 4, 16⟩
def rpB : RP := ⟨253, 9, 3⟩
def kB : BobCoins := ⟨12, 11, 13, 17, 19, 23, 29⟩
deriving instance DecidableEq for TssVerif.Mta.BobOut

/-- Alice's message `(cA, range proof)`; the same for both hashes (the challenge happens to be `1` in both) -/
def msgA : Nat × RangeProof := (7983, ⟨47, 787638, 174, 6, 13, 12⟩)
/-- Bob's answer under `H1`, without and with the public point `B = 4·G = (4, 0)`; `U = 12·G = (2, 0)` -/
def outB : BobOut := ⟨3, 662636, 102, ⟨26, 232, 31, 417259, 9, 69, 16, 30, 131, 30⟩, none⟩
def outBwc : BobOut := { outB with u := some (2, 0) }

/-- the arithmetic hypotheses of `mta_arith`, `mta_correct` hold -/
example : 3 < C5.q ∧ 4 < C5.q ∧ 102 < C5.q ^ 5 ∧ 3 * 4 + 102 < sk.n ∧ Nat.gcd 2 sk.n = 1 ∧ Nat.gcd 3 sk.n = 1 ∧
    sk.n = 29 * 31 ∧ sk.lambdaN = Nat.lcm (29 - 1) (31 - 1) ∧
    Nat.gcd (Nat.lcm (29 - 1) (31 - 1)) (29 * 31) = 1 := by decide
example : C5.Lawful := zmodCurve_lawful 5

/-- `mta_arith` instantiated: `α = 114 mod 5 = 4`, `β = −102 mod 5 = 3`, `4 + 3 ≡ 12 (mod 5)` -/
example : ((3 * 4 + 102) % 899 % 5 + (((0 : Int) - ((102 : Nat) : Int)) % ((5 : Nat) : Int)).toNat) % 5 = 3 * 4 % 5 :=
  mta_arith (by omega) (by omega)

/-- **a full run through the proof gates**, no public point: all three calls evaluated on the model -/
theorem run_init : aliceInit C5 H1 899 3 rpB 2 10 3 7 5 = .ok msgA := by decide
theorem run_mid : bobMid C5 H1 cur [] 899 msgA.2 4 msgA.1 rpA rpB none 102 3 kB = .ok outB := by decide
theorem run_end : aliceEnd C5 H1 cur [] sk outB.pf rpA msgA.1 outB.cB none = .ok 4 := by decide

/-- `mta_correct` applied to that run -/
example : (4 + outB.beta) % C5.q = 3 * 4 % C5.q :=
  mta_correct C5 H1 (P := 29) (Q := 31) (by norm_num) (by norm_num) (by omega) (by decide) sk rfl (by decide)
    cur cur [] rpA rpB 10 3 7 5 kB (by decide) (by decide) (by decide) (by decide) run_init run_mid run_end
example : outB.beta = 3 ∧ (4 + 3) % 5 = 3 * 4 % 5 := by decide

/-- **the WC run**: Bob attaches `B = b·G = (4, 0)` and Alice checks against `(B, U)` -/
theorem run_mid_wc : bobMid C5 H1 cur [] 899 msgA.2 4 msgA.1 rpA rpB (some (4, 0)) 102 3 kB = .ok outBwc := by
  decide
theorem run_end_wc : aliceEnd C5 H1 cur [] sk outBwc.pf rpA msgA.1 outBwc.cB (some ((4, 0), (2, 0))) = .ok 4 := by
  decide
example : (4 + outBwc.beta) % C5.q = 3 * 4 % C5.q :=
  mta_correct_wc C5 H1 (P := 29) (Q := 31) (by norm_num) (by norm_num) (by omega) (by decide) sk rfl (by decide)
    cur cur [] rpA rpB 10 3 7 5 kB (4, 0) (2, 0) (by decide) (by decide) (by decide) (by decide)
    run_init run_mid_wc run_end_wc
example : C5.ecBaseMult 4 = .ok (4, 0) := by decide

/-- a public point that is not `b·G` (`3·G` instead of `4·G`): Alice rejects -/
example : aliceEnd C5 H1 cur [] sk outBwc.pf rpA msgA.1 outBwc.cB (some ((3, 0), (2, 0))) =
    .err "bob-proof-rejected" := by decide

/-- tampering in transit: Alice's ciphertext altered on the way to Bob; Bob's ciphertext (or the copy of
Alice's) altered on the way back — the receiving side rejects, no share is produced -/
example : bobMid C5 H1 cur [] 899 msgA.2 4 (msgA.1 + 1) rpA rpB none 102 3 kB = .err "range-proof-rejected" := by
  decide
example : aliceEnd C5 H1 cur [] sk outB.pf rpA msgA.1 (outB.cB + 1) none = .err "bob-proof-rejected" := by decide
example : aliceEnd C5 H1 cur [] sk outB.pf rpA (msgA.1 + 1) outB.cB none = .err "bob-proof-rejected" := by decide
example : aliceEnd C5 H1 cur [] sk outBwc.pf rpA msgA.1 (outBwc.cB + 1) (some ((4, 0), (2, 0))) =
    .err "bob-proof-rejected" := by decide

/-- the same runs with a hash that reads its input (`Hsum`), evaluated by the kernel -/
def outS : BobOut := ⟨3, 662636, 102, ⟨26, 232, 31, 417259, 9, 207, 20, 41, 233, 43⟩, none⟩
def outSwc : BobOut := ⟨3, 662636, 102, ⟨26, 232, 31, 417259, 9, 621, 24, 52, 335, 56⟩, some (2, 0)⟩
example : aliceInit C5 Hsum 899 3 rpB 2 10 3 7 5 = .ok msgA := by decide +kernel
example : bobMid C5 Hsum cur [] 899 msgA.2 4 msgA.1 rpA rpB none 102 3 kB = .ok outS := by decide +kernel
example : aliceEnd C5 Hsum cur [] sk outS.pf rpA msgA.1 outS.cB none = .ok 4 := by decide +kernel
example : bobMid C5 Hsum cur [] 899 msgA.2 4 msgA.1 rpA rpB (some (4, 0)) 102 3 kB = .ok outSwc := by
  decide +kernel
example : aliceEnd C5 Hsum cur [] sk outSwc.pf rpA msgA.1 outSwc.cB (some ((4, 0), (2, 0))) = .ok 4 := by
  decide +kernel
example : aliceEnd C5 Hsum cur [] sk outSwc.pf rpA msgA.1 outSwc.cB (some ((3, 0), (2, 0))) =
    .err "bob-proof-rejected" := by decide +kernel
example : aliceEnd C5 Hsum cur [] sk outS.pf rpA msgA.1 (outS.cB + 1) none = .err "bob-proof-rejected" := by
  decide +kernel
example : bobMid C5 Hsum cur [] 899 msgA.2 4 (msgA.1 + 1) rpA rpB none 102 3 kB = .err "range-proof-rejected" := by
  decide +kernel

/-- wrap-around is real when the modulus is too small: `a b + β' = 12 + 890 ≥ 899` decrypts to `3`, and
`α + β = 3 + 0 ≢ 12 (mod 5)` — the no-wrap hypothesis of `mta_arith` cannot be dropped -/
example : ((3 * 4 + 890) % 899 % 5 + (((0 : Int) - ((890 : Nat) : Int)) % ((5 : Nat) : Int)).toNat) % 5 ≠ 3 * 4 % 5 := by
  decide

/-- … and the model has no guard against it: with `β' = 890` every gate accepts, Alice gets `α = 3`,
Bob `β = 0`, and `3 + 0 ≢ 12 (mod 5)`. The no-wrap hypothesis of `mta_correct` cannot be dropped; for real
parameters it holds by `mta_no_wrap`. -/
example : (bobMid C5 H1 cur [] 899 msgA.2 4 msgA.1 rpA rpB none 890 3 kB >>= fun out =>
    aliceEnd C5 H1 cur [] sk out.pf rpA msgA.1 out.cB none >>= fun alpha =>
      (.ok (alpha, out.beta) : Outcome (Nat × Nat))) = .ok (3, 0) := by decide

end Toy

end TssVerif.C13
