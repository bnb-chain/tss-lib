import TssVerif.Core.EngineTables
import TssVerif.Lemmas.EngineWait
import TssVerif.Props.GenObligations
/-! # C08 — round discipline of one party (`tss/party.go`: `BaseStart`, `BaseUpdate`, `WaitingFor`)

Conventions. `tbl : List RoundSpec` is *any* round table (the four tables of the library are in
`Core/EngineTables.lean`, and `tables_match_code` below ties them to the running Go code); `n` is the
committee size, `self` the party's index. A party is driven by events `Ev.start` (the local `Start` call;
a second call is a no-op) and `Ev.deliver m` (the transport hands over *any* message `m`: early, duplicate,
wrong flag, unknown type, from any sender, before or after `Start`); `run tbl evs p` folds the events over `p`
and `delivers tbl ms p = ms.foldl (fun p m => deliver tbl m p) p`.
`emitsUpTo tbl n k` is the concatenation of `emitList n r.emits` over the first `k` rounds `r` of the table
(a broadcast type once, a per-peer type `n - 1` times), `endsUpTo tbl k` the number of final rounds among them. -/
set_option autoImplicit false
namespace TssVerif.C08
open TssVerif TssVerif.Engine TssVerif.EngineL

/-- **Each round's messages are sent exactly once, in table order.** After any sequence of events
whatsoever (deliveries before `Start`, `Start`, any deliveries after it: early, duplicate, wrong flag,
unknown type) the emission log of the party is *exactly* the canonical log of the rounds it has started,
and `end` has been signalled exactly as often as final rounds were started. -/
theorem emits_once_in_order (tbl : List RoundSpec) (n self : Nat) (evs : List Ev) :
    (run tbl evs (fresh n self)).rnd ≤ tbl.length ∧
    (run tbl evs (fresh n self)).out = emitsUpTo tbl n (run tbl evs (fresh n self)).rnd ∧
    (run tbl evs (fresh n self)).ended = endsUpTo tbl (run tbl evs (fresh n self)).rnd := by
  have h := canon_run (tbl := tbl) evs (canon_fresh tbl n self)
  rw [Canon, run_n] at h
  exact h

/-- the same in the shape "deliveries, then `Start`, then deliveries" -/
theorem emits_once_in_order_around_start (tbl : List RoundSpec) (n self : Nat) (pre post : List Msg) :
    let p := delivers tbl post (start tbl (delivers tbl pre (fresh n self)))
    p.rnd ≤ tbl.length ∧ p.out = emitsUpTo tbl n p.rnd ∧ p.ended = endsUpTo tbl p.rnd := by
  have h := canon_delivers (tbl := tbl) post (canon_start (canon_delivers pre (canon_fresh tbl n self)))
  rw [Canon, delivers_n, start_n, delivers_n] at h
  exact h

/-- **Nothing is sent before `Start`**: whatever is delivered to a party that has not been started, it stays
in round 0 with an empty emission log and no `end`. -/
theorem nothing_before_start (tbl : List RoundSpec) (n self : Nat) (pre : List Msg) :
    (delivers tbl pre (fresh n self)).rnd = 0 ∧ (delivers tbl pre (fresh n self)).out = [] ∧
    (delivers tbl pre (fresh n self)).ended = 0 := by
  have h0 : (delivers tbl pre (fresh n self)).rnd = 0 := by
    rw [delivers_of_not_started tbl pre _ rfl, stores_rnd]; rfl
  obtain ⟨_, h2, h3⟩ := canon_delivers (tbl := tbl) pre (canon_fresh tbl n self)
  rw [h0] at h2 h3
  exact ⟨h0, by rw [h2, emitsUpTo_zero], by rw [h3, endsUpTo_zero]⟩

/-- **A round advances only when its requirements are met.** Whenever the update loop advances (`step`
returns a new state: the next round is started and emits, or the party finishes after the last round), every
sender `j < n` is marked `ok` or has every message the current round `r` needs stored with the required flag. -/
theorem round_advances_only_when_satisfied (tbl : List RoundSpec) (p p' : Party) (hs : step tbl p = some p') :
    ∃ r, tbl[p.rnd - 1]? = some r ∧
      (∀ j, j < p.n → p.ok j = true ∨ (r.final = false ∧ sat r p.store j = true)) ∧
      ((p'.rnd = p.rnd + 1 ∧ p'.done = false) ∨ (p'.rnd = p.rnd ∧ p'.done = true ∧ p.rnd = tbl.length)) :=
  advance_requires tbl p p' hs

/-- **A message on the wrong channel kind is not counted.** If round `r` needs type `m.ty` with flag `req`
and `m` carries the other flag, then after storing `m` the requirements of `r` are *not* satisfied for the
sender of `m` — so the scan cannot set `ok[m.frm]` on account of it. -/
theorem flag_flip_not_counted (r : RoundSpec) (m : Msg) (p : Party) (req : Bool)
    (hneed : (m.ty, req) ∈ r.needs) (hflag : m.slot.flag ≠ req) :
    sat r (storeMsg m p).store m.frm = false :=
  sat_storeMsg_flag_flip r m p req hneed hflag

/-- **A wrong-flag message never advances a round.** Delivered to a party at its fixpoint (any state reached
by `start`/`deliver`, see `C07.update_fixpoint`), a message whose flag is wrong for every round that needs its
type changes nothing but the store slot: same round, same `ok` flags, nothing emitted, no `end`. -/
theorem flag_flip_never_advances (tbl : List RoundSpec) (m : Msg) (p : Party) (hs : Settled tbl p)
    (hw : WrongFlag tbl m) : deliver tbl m p = storeMsg m p :=
  deliver_wrongFlag_settled hs hw

/-- the same for any reachable state -/
theorem flag_flip_never_advances_run (tbl : List RoundSpec) (n self : Nat) (evs : List Ev) (m : Msg)
    (hw : WrongFlag tbl m) :
    deliver tbl m (run tbl evs (fresh n self)) = storeMsg m (run tbl evs (fresh n self)) :=
  deliver_wrongFlag_settled (settled_run evs (settled_fresh tbl n self)) hw

/-- **… and in any state at all it is a no-op for the protocol**, provided the slot it lands in holds nothing a
round would count (empty, or an earlier wrong-flag copy) and the message is not from the party itself:
`deliver` = "run the pending update loop, then overwrite the slot". In particular
`(deliver tbl m p).rnd = (settleF tbl p).rnd`, and likewise for `ok`, `out`, `ended`, `done`. -/
theorem flag_flip_is_noop (tbl : List RoundSpec) (m : Msg) (p : Party) (hself : m.frm ≠ p.self)
    (hw : WrongFlag tbl m) (hnc : SlotNotCounted tbl m p) :
    deliver tbl m p = storeMsg m (settle tbl (tbl.length + 1) p) :=
  deliver_wrongFlag tbl m p hself hw hnc

/-- spelled out: round, flags, emission log, `end` count and completion are those of the pending update loop alone -/
theorem flag_flip_same_round (tbl : List RoundSpec) (m : Msg) (p : Party) (hself : m.frm ≠ p.self)
    (hw : WrongFlag tbl m) (hnc : SlotNotCounted tbl m p) :
    (deliver tbl m p).rnd = (settle tbl (tbl.length + 1) p).rnd ∧
    (deliver tbl m p).ok = (settle tbl (tbl.length + 1) p).ok ∧
    (deliver tbl m p).out = (settle tbl (tbl.length + 1) p).out ∧
    (deliver tbl m p).ended = (settle tbl (tbl.length + 1) p).ended ∧
    (deliver tbl m p).done = (settle tbl (tbl.length + 1) p).done := by
  rw [flag_flip_is_noop tbl m p hself hw hnc]
  exact ⟨rfl, rfl, rfl, rfl, rfl⟩

/-- **Model-level observation (the slot hypothesis above is needed).** The store keeps one message per
(type, sender). In EdDSA signing with two parties, a genuine round-2 message that arrives *early* (while the
party is in round 1) is overwritten by a later wrong-flag copy; when round 1 completes the party enters
round 2 and stays there (without the copy it would already be in round 3) until the genuine message is
delivered again. -/
theorem flag_flip_overwrites_witness :
    let tbl := eddsaSigning.table
    let g1 : Msg := ⟨1, 1, ⟨true, 0⟩⟩
    let g2 : Msg := ⟨2, 1, ⟨true, 0⟩⟩
    let w2 : Msg := ⟨2, 1, ⟨false, 0⟩⟩
    let p0 := start tbl (fresh 2 0)
    (delivers tbl [g2, g1] p0).rnd = 3 ∧
    (delivers tbl [g2, w2, g1] p0).rnd = 2 ∧
    awaited tbl (delivers tbl [g2, w2, g1] p0) = [1] ∧
    (delivers tbl [g2, w2, g1, g2] p0).rnd = 3 := by decide

/-- **`WaitingFor` is exact.** For a table in which no round's `Update` returns at the first missing sender,
after every event the reported set equals the set of peers from whom a message required by the current round
has not been delivered with the right flag (both are empty before `Start` and after the last round). -/
theorem waitingFor_exact (tbl : List RoundSpec) (hne : ∀ r ∈ tbl, r.early = false) (n self : Nat) (evs : List Ev) :
    waitingFor (run tbl evs (fresh n self)) = awaited tbl (run tbl evs (fresh n self)) :=
  waitingFor_eq_awaited (settled_run evs (settled_fresh tbl n self)).2
    (canon_run evs (canon_fresh tbl n self)).1 (fun _ hr => hne _ (List.mem_of_getElem? hr))

/-- `WaitingFor` never under-reports, whatever the table and the state -/
theorem waitingFor_never_underreports (tbl : List RoundSpec) (p : Party) (j : Nat) (h : j ∈ awaited tbl p) :
    j ∈ waitingFor p :=
  awaited_subset_waitingFor tbl p j h

/-- round 1 of ECDSA signing before the W1 repair: `Update` returned at the first sender with a missing message -/
def ecdsaSigningRound1Old : List RoundSpec :=
  [ { needs := [(1, false), (2, true)], selfOk := true, selfStore := [(2, true)], early := true,
      emits := [(1, true), (2, false)], final := false, finalOk := false },
    { needs := [], selfOk := false, selfStore := [], early := false, emits := [], final := true, finalOk := true } ]

/-- **The `early` shape over-reports** (so the hypothesis of `waitingFor_exact` is needed): three parties,
party 0 has both round-1 messages of party 2 and none of party 1; it reports waiting for 1 *and* 2. -/
theorem waitingFor_overreports_witness :
    let tbl := ecdsaSigningRound1Old
    let p := delivers tbl [⟨1, 2, ⟨false, 0⟩⟩, ⟨2, 2, ⟨true, 0⟩⟩] (start tbl (fresh 3 0))
    waitingFor p = [1, 2] ∧ awaited tbl p = [1] := by decide

/-- with the repaired shape the same deliveries are reported exactly -/
example :
    let tbl := ecdsaSigning.table
    let p := delivers tbl [⟨1, 2, ⟨false, 0⟩⟩, ⟨2, 2, ⟨true, 0⟩⟩] (start tbl (fresh 3 0))
    waitingFor p = [1] ∧ awaited tbl p = [1] := by decide

/-- the acceptance tables (per round: which types with which broadcast flag `CanAccept` admits) regenerated
from the running Go code equal the model tables -/
theorem tables_match_code :
    Gen.eddsaKeygenAccept = GenObl.acceptOf eddsaKeygen ∧ Gen.eddsaSigningAccept = GenObl.acceptOf eddsaSigning ∧
    Gen.ecdsaKeygenAccept = GenObl.acceptOf ecdsaKeygen ∧ Gen.ecdsaSigningAccept = GenObl.acceptOf ecdsaSigning :=
  ⟨GenObl.eddsaKeygen_accept, GenObl.eddsaSigning_accept, GenObl.ecdsaKeygen_accept, GenObl.ecdsaSigning_accept⟩

theorem types_match_code :
    Gen.eddsaKeygenTypes = eddsaKeygen.types ∧ Gen.eddsaSigningTypes = eddsaSigning.types ∧
    Gen.ecdsaKeygenTypes = ecdsaKeygen.types ∧ Gen.ecdsaSigningTypes = ecdsaSigning.types :=
  ⟨GenObl.eddsaKeygen_types, GenObl.eddsaSigning_types, GenObl.ecdsaKeygen_types, GenObl.ecdsaSigning_types⟩

/-- every message type is accepted in exactly one round with exactly one flag value -/
theorem accepted_once :
    GenObl.AcceptedOnce Gen.eddsaKeygenAccept Gen.eddsaKeygenTypes ∧
    GenObl.AcceptedOnce Gen.eddsaSigningAccept Gen.eddsaSigningTypes ∧
    GenObl.AcceptedOnce Gen.ecdsaKeygenAccept Gen.ecdsaKeygenTypes ∧
    GenObl.AcceptedOnce Gen.ecdsaSigningAccept Gen.ecdsaSigningTypes := GenObl.accepted_once

/-- a type is point-to-point (not flagged broadcast) iff it is addressed to exactly one recipient -/
theorem channel_discipline :
    GenObl.Disciplined Gen.eddsaKeygenRouting ∧ GenObl.Disciplined Gen.eddsaSigningRouting ∧
    GenObl.Disciplined Gen.ecdsaKeygenRouting ∧ GenObl.Disciplined Gen.ecdsaSigningRouting := GenObl.channel_discipline

/-- the secret-bearing types are exactly the point-to-point ones -/
theorem secret_bearing_are_p2p :
    (Gen.eddsaKeygenRouting.filter fun x => !x.2.1).map (·.1) = ["KGRound2Message1"] ∧
    (Gen.ecdsaKeygenRouting.filter fun x => !x.2.1).map (·.1) = ["KGRound2Message1"] ∧
    (Gen.ecdsaSigningRouting.filter fun x => !x.2.1).map (·.1) = ["SignRound1Message1", "SignRound2Message"] ∧
    (Gen.eddsaSigningRouting.filter fun x => !x.2.1).map (·.1) = [] := GenObl.secret_bearing_are_p2p

/-- the routing the code emits equals the routing the model tables prescribe -/
theorem routing_matches_code :
    Gen.eddsaKeygenRouting = GenObl.routingOf eddsaKeygen ∧ Gen.eddsaSigningRouting = GenObl.routingOf eddsaSigning ∧
    Gen.ecdsaKeygenRouting = GenObl.routingOf ecdsaKeygen ∧ Gen.ecdsaSigningRouting = GenObl.routingOf ecdsaSigning :=
  ⟨GenObl.eddsaKeygen_routing, GenObl.eddsaSigning_routing, GenObl.ecdsaKeygen_routing, GenObl.ecdsaSigning_routing⟩

/-- none of the four tables has an `early` round: `waitingFor_exact` applies to all of them -/
example : ∀ P ∈ protos, ∀ r ∈ P.table, r.early = false := by decide

/-- the canonical log of a complete two-party EdDSA signing run, and the run that produces it -/
example : emitsUpTo eddsaSigning.table 2 4 = [1, 2, 3] ∧ endsUpTo eddsaSigning.table 4 = 1 := by decide
example :
    let p := delivers eddsaSigning.table [⟨3, 1, ⟨true, 0⟩⟩, ⟨1, 1, ⟨true, 0⟩⟩, ⟨1, 1, ⟨true, 0⟩⟩, ⟨2, 1, ⟨true, 0⟩⟩]
      (start eddsaSigning.table (fresh 2 0))
    p.rnd = 4 ∧ p.out = [1, 2, 3] ∧ p.ended = 1 ∧ p.done = true := by decide
/-- a per-peer type is logged once per peer -/
example : emitsUpTo ecdsaKeygen.table 3 2 = [1, 2, 2, 3] := by decide
/-- `WrongFlag` and `SlotNotCounted` hold for a point-to-point copy of a broadcast type into an empty slot -/
example : WrongFlag eddsaSigning.table ⟨2, 1, ⟨false, 0⟩⟩ := by
  unfold WrongFlag; decide
example : SlotNotCounted eddsaSigning.table ⟨2, 1, ⟨false, 0⟩⟩ (start eddsaSigning.table (fresh 2 0)) := by
  have h : (start eddsaSigning.table (fresh 2 0)).store 2 1 = none := by decide
  intro s hs; rw [h] at hs; cases hs

end TssVerif.C08
