import TssVerif.Lemmas.C17
import TssVerif.Lemmas.C17Order
import Mathlib.Data.List.Find
/-! # C17 — only valid curve points are accepted; point arithmetic and encodings are exact

Property theorems only (helper lemmas live in `TssVerif/Lemmas/C17.lean`; the inversion-free evaluator of
scalar multiples and its agreement with the model in `TssVerif/Lemmas/C17Proj.lean`, the two base-point
orders in `TssVerif/Lemmas/C17Order.lean`).

The group laws of the two executable curves (associativity, closure of `add` on the curve, …) are NOT
proved here: they are tested differentially against btcec / dcrd-edwards. What is proved: the decoders'
checks, the encode/decode round trip, the outcome (ok / err / panic) structure of the Go-level API for
EVERY curve record, the algebra of cofactor clearing in an abstract commutative group, and, by evaluation,
the 8-torsion table of edwards25519 and the base-point orders of the executable model. -/
namespace TssVerif.C17
open TssVerif

/-! ## 1. decoders check the curve (every curve record) -/
section generic
variable {P : Type} (C : Curve P)

/-- `NewECPoint` returns exactly the coordinates it was given, and only if they pass `IsOnCurve`. -/
theorem ecNew_iff {x y : Nat} {p : ECPoint} :
    C.ecNew x y = some p ↔ C.ecIsOnCurve (x, y) = true ∧ p = (x, y) :=
  C17L.ecNew_eq_some_iff C

theorem ecNew_none_iff {x y : Nat} : C.ecNew x y = none ↔ C.ecIsOnCurve (x, y) = false := by
  have := C17L.ecNew_isSome_iff C (x := x) (y := y)
  cases h : C.ecNew x y <;> cases h' : C.ecIsOnCurve (x, y) <;> simp_all

/-- **complete description of `UnFlattenECPoints`**: it succeeds with `ps` iff the input is the
coordinate list of `ps` and every point of `ps` passes the curve check. -/
theorem unflatten_iff (xs : List Nat) (ps : List ECPoint) :
    C.unflatten xs = some ps ↔ xs = flatten ps ∧ ∀ p ∈ ps, C.ecIsOnCurve p = true :=
  C17L.unflatten_eq_some_iff C xs ps

theorem unflatten_odd_fails {xs : List Nat} (h : xs.length % 2 = 1) : C.unflatten xs = none := by
  cases hu : C.unflatten xs with
  | none => rfl
  | some ps =>
    obtain ⟨rfl, _⟩ := (unflatten_iff C xs ps).1 hu
    rw [C17L.flatten_length] at h
    omega

theorem unflatten_length {xs : List Nat} {ps : List ECPoint} (h : C.unflatten xs = some ps) :
    xs.length = 2 * ps.length := by
  obtain ⟨rfl, _⟩ := (unflatten_iff C xs ps).1 h
  exact C17L.flatten_length ps

/-- **decoders check the curve**, for every curve record. -/
theorem decoders_check_curve :
    (∀ x y p, C.ecNew x y = some p → C.ecIsOnCurve (x, y) = true ∧ p = (x, y)) ∧
    (∀ xs ps, C.unflatten xs = some ps → ∀ p ∈ ps, C.ecIsOnCurve p = true) ∧
    (∀ xs, xs.length % 2 = 1 → C.unflatten xs = none) :=
  ⟨fun _ _ _ h => (ecNew_iff C).1 h, fun xs ps h => ((unflatten_iff C xs ps).1 h).2,
   fun _ h => unflatten_odd_fails C h⟩

/-! ## 2. flatten / unflatten -/

/-- decoding the encoding of on-curve points gives the points back -/
theorem unflatten_flatten {ps : List ECPoint} (h : ∀ p ∈ ps, C.ecIsOnCurve p = true) :
    C.unflatten (flatten ps) = some ps :=
  (unflatten_iff C _ ps).2 ⟨rfl, h⟩

/-- re-encoding what was decoded gives back the same coordinates -/
theorem flatten_unflatten {xs : List Nat} {ps : List ECPoint} (h : C.unflatten xs = some ps) :
    flatten ps = xs :=
  ((unflatten_iff C xs ps).1 h).1.symm

/-- a point that fails the check makes the whole decoding fail -/
theorem unflatten_flatten_fails {ps : List ECPoint} {p : ECPoint} (hp : p ∈ ps)
    (h : C.ecIsOnCurve p = false) : C.unflatten (flatten ps) = none := by
  cases hu : C.unflatten (flatten ps) with
  | none => rfl
  | some qs =>
    have hq := (unflatten_iff C _ qs).1 hu
    have : ps = qs := C17L.flatten_injective hq.1
    subst this
    rw [hq.2 p hp] at h; cases h

theorem ecEquals_iff (a b : ECPoint) : ecEquals a b = true ↔ a = b := by
  obtain ⟨a1, a2⟩ := a; obtain ⟨b1, b2⟩ := b
  simp [ecEquals]

/-! ## 6. outcomes of the arithmetic API (every curve record) -/

/-- `(*ECPoint).Add` never panics -/
theorem ecAdd_total (a b : ECPoint) : (C.ecAdd a b).isPanic = false :=
  C17L.ecAdd_total C a b

theorem ecAdd_ok_iff (a b r : ECPoint) : C.ecAdd a b = .ok r ↔
    ∃ pa pb, C.lift a = some pa ∧ C.lift b = some pb ∧ C.toAffine (C.add pa pb) = some r :=
  C17L.ecAdd_ok_iff C a b r

/-- the error cases of `Add`: an operand is off the curve, or the sum has no affine form -/
theorem ecAdd_err_iff (a b : ECPoint) (t : String) : C.ecAdd a b = .err t ↔
    ((C.ecIsOnCurve a = false ∨ C.ecIsOnCurve b = false) ∧ t = "operand-not-on-curve") ∨
    (∃ pa pb, C.lift a = some pa ∧ C.lift b = some pb ∧ C.toAffine (C.add pa pb) = none ∧
      t = "not-on-curve") :=
  C17L.ecAdd_err_iff C a b t

/-- **`ScalarMult` panics exactly when the operand is on the curve and the product has no affine form**;
it reports an error exactly when the operand is off the curve; otherwise it returns the affine product. -/
theorem ecScalarMult_outcomes (a : ECPoint) (k : Int) :
    (∀ t, C.ecScalarMult a k = .panic t ↔
      (∃ pa, C.lift a = some pa ∧ C.toAffine (C.smul k.natAbs pa) = none) ∧ t = "scalar-mult-identity") ∧
    (∀ t, C.ecScalarMult a k = .err t ↔ C.ecIsOnCurve a = false ∧ t = "operand-not-on-curve") ∧
    (∀ r, C.ecScalarMult a k = .ok r ↔
      ∃ pa, C.lift a = some pa ∧ C.toAffine (C.smul k.natAbs pa) = some r) :=
  C17L.ecScalarMult_outcomes C a k

/-- `ScalarBaseMult` panics exactly when the product has no affine form, and never reports an error -/
theorem ecBaseMult_outcomes (k : Int) :
    (∀ t, C.ecBaseMult k = .panic t ↔
      C.toAffine (C.smul k.natAbs C.base) = none ∧ t = "scalar-base-mult-identity") ∧
    (∀ t, C.ecBaseMult k ≠ .err t) ∧
    (∀ r, C.ecBaseMult k = .ok r ↔ C.toAffine (C.smul k.natAbs C.base) = some r) :=
  C17L.ecBaseMult_outcomes C k

/-- Go passes `k.Bytes()`: the sign of the scalar is dropped -/
theorem ecScalarMult_neg (a : ECPoint) (k : Int) : C.ecScalarMult a (-k) = C.ecScalarMult a k := by
  simp only [Curve.ecScalarMult, Int.natAbs_neg]

theorem ecBaseMult_neg (k : Int) : C.ecBaseMult (-k) = C.ecBaseMult k := by
  simp only [Curve.ecBaseMult, Int.natAbs_neg]

end generic

/-! ## 1b. what the curve check is, on the two executable curves -/

/-- the secp256k1 acceptance condition, in the `%`-form of `Secp256k1.onCurve` -/
def SecpValid (x y : Nat) : Prop :=
  x < Secp256k1.p ∧ y < Secp256k1.p ∧ y * y % Secp256k1.p = (x * x % Secp256k1.p * x + 7) % Secp256k1.p

/-- the edwards25519 acceptance condition, in the `%`-form of `Ed25519.onCurve` -/
def EdValid (x y : Nat) : Prop :=
  x < Ed25519.p ∧ y < Ed25519.p ∧
    (y * y + (Ed25519.p - x * x % Ed25519.p)) % Ed25519.p =
      (1 + Ed25519.d * (x * x % Ed25519.p) % Ed25519.p * (y * y % Ed25519.p)) % Ed25519.p

/-- clean restatement: canonical coordinates and `y² = x³ + 7` in `ZMod p` -/
theorem secpValid_iff_zmod (x y : Nat) : SecpValid x y ↔
    x < Secp256k1.p ∧ y < Secp256k1.p ∧ (y : ZMod Secp256k1.p) ^ 2 = (x : ZMod Secp256k1.p) ^ 3 + 7 := by
  unfold SecpValid; rw [C17L.secp_eqn_iff_zmod]

theorem secpValid_iff_modEq (x y : Nat) : SecpValid x y ↔
    x < Secp256k1.p ∧ y < Secp256k1.p ∧ y ^ 2 ≡ x ^ 3 + 7 [MOD Secp256k1.p] := by
  unfold SecpValid; rw [C17L.secp_eqn_iff_modEq]

/-- clean restatement: canonical coordinates and `−x² + y² = 1 + d x² y²` in `ZMod p` -/
theorem edValid_iff_zmod (x y : Nat) : EdValid x y ↔
    x < Ed25519.p ∧ y < Ed25519.p ∧
      -(x : ZMod Ed25519.p) ^ 2 + (y : ZMod Ed25519.p) ^ 2
        = 1 + (Ed25519.d : ZMod Ed25519.p) * (x : ZMod Ed25519.p) ^ 2 * (y : ZMod Ed25519.p) ^ 2 := by
  unfold EdValid; rw [C17L.ed_eqn_iff_zmod]

theorem secp_isOnCurve_iff (x y : Nat) : Secp256k1.curve.ecIsOnCurve (x, y) = true ↔ SecpValid x y :=
  C17L.secp_ecIsOnCurve_iff x y

theorem ed_isOnCurve_iff (x y : Nat) : Ed25519.curve.ecIsOnCurve (x, y) = true ↔ EdValid x y :=
  C17L.ed_ecIsOnCurve_iff x y

/-- `NewECPoint(secp256k1, x, y)` succeeds iff `x, y < p` and `y² ≡ x³ + 7 (mod p)` -/
theorem secp_ecNew_iff (x y : Nat) : Secp256k1.curve.ecNew x y = some (x, y) ↔ SecpValid x y := by
  rw [ecNew_iff, secp_isOnCurve_iff]; simp

theorem secp_ecNew_none_iff (x y : Nat) : Secp256k1.curve.ecNew x y = none ↔ ¬ SecpValid x y := by
  rw [ecNew_none_iff, ← secp_isOnCurve_iff]; simp

/-- `NewECPoint(edwards25519, x, y)` succeeds iff `x, y < p` and `−x² + y² ≡ 1 + d x² y² (mod p)` -/
theorem ed_ecNew_iff (x y : Nat) : Ed25519.curve.ecNew x y = some (x, y) ↔ EdValid x y := by
  rw [ecNew_iff, ed_isOnCurve_iff]; simp

theorem ed_ecNew_none_iff (x y : Nat) : Ed25519.curve.ecNew x y = none ↔ ¬ EdValid x y := by
  rw [ecNew_none_iff, ← ed_isOnCurve_iff]; simp

/-- non-canonical coordinates are rejected, whatever they are congruent to -/
theorem secp_rejects_noncanonical {x y : Nat} (h : Secp256k1.p ≤ x ∨ Secp256k1.p ≤ y) :
    Secp256k1.curve.ecNew x y = none ∧ Secp256k1.curve.ecIsOnCurve (x, y) = false := by
  have hv : ¬ SecpValid x y := by rintro ⟨hx, hy, _⟩; omega
  exact ⟨(secp_ecNew_none_iff x y).2 hv, by rw [← ecNew_none_iff]; exact (secp_ecNew_none_iff x y).2 hv⟩

theorem ed_rejects_noncanonical {x y : Nat} (h : Ed25519.p ≤ x ∨ Ed25519.p ≤ y) :
    Ed25519.curve.ecNew x y = none ∧ Ed25519.curve.ecIsOnCurve (x, y) = false := by
  have hv : ¬ EdValid x y := by rintro ⟨hx, hy, _⟩; omega
  exact ⟨(ed_ecNew_none_iff x y).2 hv, by rw [← ecNew_none_iff]; exact (ed_ecNew_none_iff x y).2 hv⟩

/-- the base points are accepted (the acceptance conditions are satisfiable) … -/
example : Secp256k1.curve.ecNew Secp256k1.gx Secp256k1.gy = some (Secp256k1.gx, Secp256k1.gy) := by
  decide +kernel
example : Ed25519.curve.ecNew Ed25519.gx Ed25519.gy = some (Ed25519.gx, Ed25519.gy) := by
  decide +kernel
/-- … and `(gx + p, gy)`, which satisfies the congruence, is not (the range check is what rejects it) -/
example : Secp256k1.gy ^ 2 ≡ (Secp256k1.gx + Secp256k1.p) ^ 3 + 7 [MOD Secp256k1.p] ∧
    Secp256k1.curve.ecNew (Secp256k1.gx + Secp256k1.p) Secp256k1.gy = none := by
  refine ⟨?_, (secp_rejects_noncanonical (Or.inl (Nat.le_add_left _ _))).1⟩
  decide +kernel
example : EdValid Ed25519.gx Ed25519.gy ∧
    Ed25519.curve.ecNew Ed25519.gx (Ed25519.gy + Ed25519.p) = none :=
  ⟨by rw [← ed_ecNew_iff]; decide +kernel, (ed_rejects_noncanonical (Or.inr (Nat.le_add_left _ _))).1⟩
example : Secp256k1.curve.unflatten [Secp256k1.gx, Secp256k1.gy, Secp256k1.gx, Secp256k1.gy]
    = some [(Secp256k1.gx, Secp256k1.gy), (Secp256k1.gx, Secp256k1.gy)] := by
  decide +kernel

/-! ## 3. cofactor clearing, abstractly

`G` is any additive commutative group (only the commutative-monoid structure is used, so the statement
is made for `AddCommMonoid`; every `AddCommGroup` is one). `x ↦ (8·e)•x` with `8·e ≡ 1 (mod q)` is what
`EightInvEight` computes (multiply by 8, then by `8⁻¹ mod q`) on a group of order `8·q`. -/

/-- **cofactor clearing**: on the `8q`-torsion of a commutative group, with `8·e ≡ 1 (mod q)`,
(i) the image is killed by `q`; (ii) points killed by `q` are fixed; (iii) adding any point killed by `8`
does not change the image. (Coprimality of `8` and `q` follows from `he`, so it is not assumed.) -/
theorem cofactor_clear {G : Type*} [AddCommMonoid G] {q e : Nat} (he : 8 * e ≡ 1 [MOD q])
    (x : G) (hx : (8 * q) • x = 0) :
    q • ((8 * e) • x) = 0 ∧
    (q • x = 0 → (8 * e) • x = x) ∧
    (∀ t : G, 8 • t = 0 → (8 * e) • (x + t) = (8 * e) • x) :=
  ⟨C17L.cofactor_image_order q e x hx, C17L.cofactor_fix q e he x, fun t => C17L.cofactor_kill_torsion e x t⟩

/-- the same, on an additive commutative group, two-step form `e • (8 • x)` as the code computes it -/
theorem cofactor_clear_two_step {G : Type*} [AddCommGroup G] {q e : Nat} (he : 8 * e ≡ 1 [MOD q])
    (x : G) (hx : (8 * q) • x = 0) :
    q • (e • (8 • x)) = 0 ∧
    (q • x = 0 → e • (8 • x) = x) ∧
    (∀ t : G, 8 • t = 0 → e • (8 • (x + t)) = e • (8 • x)) := by
  have h := cofactor_clear he x hx
  simp only [mul_nsmul] at h
  exact h

/-- the constant the code uses: `8 · eightInv ≡ 1 (mod l)` -/
theorem cofactor_const : 8 * Ed25519.eightInv % Ed25519.l = 1 := by decide +kernel

theorem cofactor_const_lt : Ed25519.eightInv < Ed25519.l := by decide +kernel

theorem ed_l_odd : Ed25519.l % 2 = 1 := by decide +kernel

theorem ed_l_coprime_8 : Nat.Coprime 8 Ed25519.l := by decide +kernel

/-- the hypotheses of `cofactor_clear` hold for the model's constants -/
theorem cofactor_clear_ed {G : Type*} [AddCommGroup G] (x : G) (hx : (8 * Ed25519.l) • x = 0) :
    Ed25519.l • ((8 * Ed25519.eightInv) • x) = 0 ∧
    (Ed25519.l • x = 0 → (8 * Ed25519.eightInv) • x = x) ∧
    (∀ t : G, 8 • t = 0 → (8 * Ed25519.eightInv) • (x + t) = (8 * Ed25519.eightInv) • x) :=
  cofactor_clear (q := Ed25519.l) (e := Ed25519.eightInv) cofactor_const x hx

/-! ## 4. the 8-torsion of the executable Edwards curve, by kernel evaluation -/

/-- a point of order 8 -/
def T8 : ECPoint :=
  (43496726750457979451437558183816721346016168361625936758514574428539776020131,
   2707385501144840649318225287225658788936804267575313519463743609750303402022)

/-- the eight torsion points `k·T8`, `k = 0..7` -/
def torsion : List ECPoint :=
  [ (0, 1),
    (43496726750457979451437558183816721346016168361625936758514574428539776020131,
     2707385501144840649318225287225658788936804267575313519463743609750303402022),
    (38214883241950591754978413199355411911188925816896391856984770930832735035197, 0),
    (43496726750457979451437558183816721346016168361625936758514574428539776020131,
     55188659117513257062467267217118295137698188065244968500265048394206261417927),
    (0, 57896044618658097711785492504343953926634992332820282019728792003956564819948),
    (14399317868200118260347934320527232580618823971194345261214217575416788799818,
     55188659117513257062467267217118295137698188065244968500265048394206261417927),
    (19681161376707505956807079304988542015446066515923890162744021073123829784752, 0),
    (14399317868200118260347934320527232580618823971194345261214217575416788799818,
     2707385501144840649318225287225658788936804267575313519463743609750303402022) ]

theorem torsion_generated :
    torsion = (List.range 8).map fun k => Ed25519.curve.smul k T8 := by decide +kernel

/-- the order of each entry: least `k ≥ 1` with `k·t = (0,1)` -/
theorem torsion_orders :
    torsion.map (fun t => (List.range' 1 8).find? fun k => Ed25519.curve.smul k t == (0, 1))
      = [some 1, some 8, some 4, some 8, some 2, some 8, some 4, some 8] := by
  -- each affine test `k·t == (0, 1)` is the evaluator's test on `edSmul k t`, whose denominators are units
  have hev : ∀ t ∈ torsion, ∀ k ∈ List.range' 1 8, k ≠ 0 ∧ t.1 < Ed25519.p ∧ t.2 < Ed25519.p ∧
      Nat.Coprime (C17L.edSmul k t.1 t.2).2 Ed25519.p := by decide +kernel
  have hord : torsion.map (fun t => (List.range' 1 8).find? fun k =>
      decide (C17L.EdIsIdentity (C17L.edSmul k t.1 t.2).1))
        = [some 1, some 8, some 4, some 8, some 2, some 8, some 4, some 8] := by decide +kernel
  rw [← hord]
  refine List.map_congr_left fun t ht => List.find?_congr fun k hk => ?_
  obtain ⟨h0, hx, hy, hW⟩ := hev t ht k hk
  rw [beq_eq_decide, decide_eq_decide]
  exact C17L.ed_smul_eq_identity_iff h0 hx hy hW

/-- **torsion table**: eight pairwise distinct points, all accepted by the curve check, all killed by 8,
and all sent to the identity by the model's `EightInvEight`. -/
theorem torsion_table :
    torsion.length = 8 ∧ torsion.Nodup ∧
    (∀ t ∈ torsion, Ed25519.curve.ecIsOnCurve t = true) ∧
    (∀ t ∈ torsion, Ed25519.curve.smul 8 t = (0, 1)) ∧
    (∀ t ∈ torsion, Ed25519.eightInvEight t = .ok (0, 1)) := by
  have hon : ∀ t ∈ torsion, Ed25519.curve.ecIsOnCurve t = true := by decide +kernel
  have hev : ∀ t ∈ torsion, t.1 < Ed25519.p ∧ t.2 < Ed25519.p ∧
      C17L.EdIsIdentity (C17L.edSmul 8 t.1 t.2).1 ∧ Nat.Coprime (C17L.edSmul 8 t.1 t.2).2 Ed25519.p := by
    decide +kernel
  have h8 : ∀ t ∈ torsion, Ed25519.curve.smul 8 t = (0, 1) := fun t ht =>
    C17L.ed_smul_eq_identity (by decide) (hev t ht).1 (hev t ht).2.1 (hev t ht).2.2
  exact ⟨rfl, by decide +kernel, hon, h8, fun t ht => C17L.eightInvEight_of_smul_eight (hon t ht) (h8 t ht)⟩

/-- readable description of the low-order entries: identity, `(0, p−1)` of order 2, `(±√−1, 0)` of order 4 -/
theorem torsion_low_order :
    torsion[0]? = some (0, 1) ∧ torsion[4]? = some (0, Ed25519.p - 1) ∧
    (∃ i, torsion[6]? = some (i, 0) ∧ torsion[2]? = some (Ed25519.p - i, 0) ∧
      i * i % Ed25519.p = Ed25519.p - 1) := by
  refine ⟨rfl, by decide +kernel, _, rfl, by decide +kernel, by decide +kernel⟩

/-! ### order of the base points -/

theorem base_order_ed : Ed25519.curve.smul Ed25519.l Ed25519.curve.base = (0, 1) :=
  C17L.ed_base_order

theorem base_order_secp : Secp256k1.curve.smul Secp256k1.n Secp256k1.curve.base = none :=
  C17L.secp_base_order

/-! ## 5. the identity -/

/-- secp256k1's identity has no affine form: `ScalarBaseMult` crashes on `0` and on the group order
(a crash site of the Go API on locally chosen values) … -/
theorem identity_handling_secp :
    Secp256k1.curve.ecBaseMult 0 = .panic "scalar-base-mult-identity" ∧
    Secp256k1.curve.ecBaseMult (Secp256k1.n : Int) = .panic "scalar-base-mult-identity" ∧
    Secp256k1.curve.ecBaseMult (-(Secp256k1.n : Int)) = .panic "scalar-base-mult-identity" := by
  have h : Secp256k1.curve.ecBaseMult (Secp256k1.n : Int) = .panic "scalar-base-mult-identity" := by
    apply C17L.ecBaseMult_of_none
    rw [Int.natAbs_natCast, base_order_secp]
    rfl
  exact ⟨rfl, h, by rw [ecBaseMult_neg, h]⟩

/-- … while on edwards25519 the identity is the affine point `(0, 1)` and nothing crashes -/
theorem identity_handling_ed :
    Ed25519.curve.ecBaseMult 0 = .ok (0, 1) ∧
    Ed25519.curve.ecBaseMult (Ed25519.l : Int) = .ok (0, 1) := by
  refine ⟨rfl, ?_⟩
  apply C17L.ecBaseMult_of_some
  rw [Int.natAbs_natCast, base_order_ed]
  rfl

/-- the negative of an accepted secp256k1 point is accepted -/
theorem secp_neg_on_curve {x y : Nat} (h : Secp256k1.curve.ecIsOnCurve (x, y) = true) :
    Secp256k1.curve.ecIsOnCurve (x, (Secp256k1.p - y) % Secp256k1.p) = true := by
  rw [C17L.secp_ecIsOnCurve_iff, ← C17L.secp_onCurve_iff] at h ⊢
  exact C17L.secp_neg_onCurve h

/-- **`Add` of a point and its negative is an error on secp256k1** (for every accepted point; the case
`y = 0`, where the point is its own negative, is covered too — it goes through `double`). -/
theorem secp_add_neg_err {x y : Nat} (h : Secp256k1.curve.ecIsOnCurve (x, y) = true) :
    Secp256k1.curve.ecAdd (x, y) (x, (Secp256k1.p - y) % Secp256k1.p) = .err "not-on-curve" :=
  C17L.secp_ecAdd_neg h

example : Secp256k1.curve.ecIsOnCurve (Secp256k1.gx, Secp256k1.gy) = true := by decide +kernel

/-- **identity handling**, the facts above in one statement -/
theorem identity_handling :
    Secp256k1.curve.ecBaseMult 0 = .panic "scalar-base-mult-identity" ∧
    Secp256k1.curve.ecBaseMult (Secp256k1.n : Int) = .panic "scalar-base-mult-identity" ∧
    Ed25519.curve.ecBaseMult 0 = .ok (0, 1) ∧
    Ed25519.curve.ecBaseMult (Ed25519.l : Int) = .ok (0, 1) ∧
    (∀ x y, Secp256k1.curve.ecIsOnCurve (x, y) = true →
      Secp256k1.curve.ecIsOnCurve (x, (Secp256k1.p - y) % Secp256k1.p) = true ∧
      Secp256k1.curve.ecAdd (x, y) (x, (Secp256k1.p - y) % Secp256k1.p) = .err "not-on-curve") :=
  ⟨identity_handling_secp.1, identity_handling_secp.2.1, identity_handling_ed.1, identity_handling_ed.2,
   fun _ _ h => ⟨secp_neg_on_curve h, secp_add_neg_err h⟩⟩

/-- `ScalarMult` by `0` of any accepted secp256k1 point crashes -/
theorem secp_scalarMult_zero_panics {a : ECPoint} (h : Secp256k1.curve.ecIsOnCurve a = true) :
    Secp256k1.curve.ecScalarMult a 0 = .panic "scalar-mult-identity" := by
  obtain ⟨pa, hpa⟩ := Option.isSome_iff_exists.1 h
  have hpa' : Secp256k1.curve.lift a = some pa := hpa
  exact C17L.ecScalarMult_of_none _ a 0 pa hpa' rfl

/-- `ScalarMult` of the base point by the group order crashes -/
theorem secp_scalarMult_order_panics :
    Secp256k1.curve.ecScalarMult (Secp256k1.gx, Secp256k1.gy) (Secp256k1.n : Int)
      = .panic "scalar-mult-identity" := by
  have hl : Secp256k1.curve.lift (Secp256k1.gx, Secp256k1.gy) = some Secp256k1.curve.base := by
    decide +kernel
  apply C17L.ecScalarMult_of_none _ _ _ _ hl
  rw [Int.natAbs_natCast, base_order_secp]
  rfl

/-- on edwards25519 nothing in the arithmetic API panics -/
theorem ed_never_panics (a : ECPoint) (k : Int) :
    (Ed25519.curve.ecScalarMult a k).isPanic = false ∧ (Ed25519.curve.ecBaseMult k).isPanic = false ∧
    (Ed25519.eightInvEight a).isPanic = false :=
  C17L.ed_never_panics a k

/-- on secp256k1 `ScalarMult` panics exactly when the product is the point at infinity -/
theorem secp_scalarMult_panic_iff (x y : Nat) (k : Int) (t : String) :
    Secp256k1.curve.ecScalarMult (x, y) k = .panic t ↔
      SecpValid x y ∧ Secp256k1.curve.smul k.natAbs (some (x, y)) = none ∧ t = "scalar-mult-identity" :=
  C17L.secp_scalarMult_panic_iff x y k t

end TssVerif.C17
