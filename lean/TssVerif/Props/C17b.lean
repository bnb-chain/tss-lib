import TssVerif.Lemmas.C17Fields
import TssVerif.Lemmas.C04Rs
import TssVerif.Props.C05d
import TssVerif.Props.C05e
/-! # C17b — every point a modelled round accepts from a message field lies on the curve

Property C17, clause: "Every way a point enters the library from outside (constructor, flattened coordinate
lists, JSON, Gob, message fields) accepts it only if it lies on the stated curve."

This file is about the last item, MESSAGE FIELDS, for the rounds that have a round-level model: for each
per-peer check, if the check passes then every point it decoded from the peer's message — the opened commitment
points, the points of the Schnorr proofs, the point `U` of a Bob proof, the announced group key — satisfies
`C.ecIsOnCurve`, i.e. `(C.ofAffine x y).isSome`: canonical coordinates satisfying the curve equation, by the
contract of `Curve.ofAffine`. (`C17.lean` proves what `ecIsOnCurve` means on the two executable curves.) All
statements hold for every curve record `C` and every hash `H`; the ones about the points AFTER cofactor clearing
need `C.Lawful` (the product of a scalar and a curve point is a curve point).

* decoders: `ecNew_on_curve`, `unflatten_all_on_curve`, `lift_on_curve`;
* ECDSA signing: round 3 `sg3_point_on_curve` (`bobWC_point_on_curve`), round 5 `sg5_point_on_curve`,
  `sg5_round_points_on_curve`, round 7 `sg7_points_on_curve`, `sg7_round_points_on_curve`,
  round 9 `round9_accepts_only_curve_points` (current tree) with the contrast
  `round9_old_tree_accepts_offcurve_is_self_blame`, `round9_old_tree_accepts_only_curve_points`;
* EdDSA signing round 3: `eddsa_sg3_point_on_curve`;
* EdDSA key generation round 3: `eddsa_kg3_points_on_curve`; ECDSA key generation round 3:
  `ecdsa_kg3_points_on_curve`;
* EdDSA resharing, new member: `rs_points_on_curve` (round 4), `rs_key_on_curve` (round 1, both trees). -/
set_option autoImplicit false
namespace TssVerif.C17b
open TssVerif C17FieldsL

variable {P : Type} (C : Curve P) (H : HashFn)

/-- `NewECPoint` -/
theorem ecNew_on_curve (x y : Nat) (g : ECPoint) (h : C.ecNew x y = some g) :
    C.ecIsOnCurve g = true ∧ g = (x, y) :=
  onCurve_of_ecNew C h

/-- `UnFlattenECPoints` -/
theorem unflatten_all_on_curve (xs : List Nat) (ps : List ECPoint) (h : C.unflatten xs = some ps) :
    ∀ p ∈ ps, C.ecIsOnCurve p = true :=
  onCurve_of_unflatten C h

theorem lift_on_curve (a : ECPoint) (pa : P) (h : C.lift a = some pa) : C.ecIsOnCurve a = true :=
  onCurve_of_ofAffine C h

section ecdsaSigning
open BlameSg Zk C05SgL C05Sg9L

/-- round 3, `ProofBobWCFromBytes`: the point `U` carried in parts 10 and 11 -/
theorem bobWC_point_on_curve (bzs : List Bytes) (pf : BobProof) (u : ECPoint)
    (h : bobWCFromBytes C bzs = .ok (some (pf, u))) :
    C.ecIsOnCurve u = true ∧ u = (bytesToNat (bzs.getD 10 []), bytesToNat (bzs.getD 11 [])) := by
  unfold bobWCFromBytes at h
  split at h
  · cases h
  · split at h
    · cases h
    · split at h
      · cases h
      · rename_i u' hu
        injection h with h; injection h with h; injection h with _ h2
        subst h2
        exact onCurve_of_ecNew C hu

/-- round 3: a peer that passes sent a Bob proof whose point `U` is on the curve -/
theorem sg3_point_on_curve (cfg : Cfg) (ssid : Bytes) (sk : Paillier.PrivateKey) (own : Mta.RP) (p : R2Peer)
    (a u : Nat) (h : r3Peer C H cfg ssid sk own p = .ok (some (a, u))) :
    ∃ pf uPt, bobWCFromBytes C p.proofBobWC = .ok (some (pf, uPt)) ∧ C.ecIsOnCurve uPt = true := by
  obtain ⟨_, pf2, uPt, _, hw, _⟩ := (C05d.r3Peer_some_iff C H cfg ssid sk own p a u).1 h
  exact ⟨pf2, uPt, hw, (bobWC_point_on_curve C _ _ _ hw).1⟩

/-- round 5: the opened `Γ_j` and the point of its Schnorr proof -/
theorem sg5_point_on_curve (cfg : Cfg) (ssid : Bytes) (p : R4Peer) (g : ECPoint)
    (h : r5Peer C H cfg ssid p = .ok (.pass g)) :
    C.ecIsOnCurve g = true ∧ C.ecIsOnCurve p.alpha = true ∧
      ∃ x y, decommitWith H p.commitment (p.decommitment.map Int.ofNat) = .ok (some [x, y]) ∧
        g = (x.toNat, y.toNat) := by
  obtain ⟨x, y, al, hd, hg, hal, _⟩ := (C05d.r5Peer_pass_iff C H cfg ssid p g).1 h
  obtain ⟨h1, h2⟩ := onCurve_of_ecNew C hg
  exact ⟨h1, onCurve_of_ecNew' C hal, x, y, hd, h2⟩

/-- round 5, whole round: when it passes every peer's `Γ_j` was on the curve -/
theorem sg5_round_points_on_curve (cfg : Cfg) (ssid : Bytes) (ownGamma : ECPoint) (peers : List R4Peer)
    (r : ECPoint) (h : round5 C H cfg ssid ownGamma peers = .ok (.pass r)) :
    ∀ p ∈ peers, ∃ g, r5Peer C H cfg ssid p = .ok (.pass g) ∧ C.ecIsOnCurve g = true ∧
      C.ecIsOnCurve p.alpha = true := by
  obtain ⟨gs, hall, _⟩ := (C05d.sg5_pass_sum C H cfg ssid ownGamma peers r).1 h
  intro p hp
  obtain ⟨g, hg⟩ := C05L.forall₂_left hall p hp
  obtain ⟨h1, h2, _⟩ := sg5_point_on_curve C H cfg ssid p g hg
  exact ⟨g, hg, h1, h2⟩

/-- round 7: the opened `V_j`, `A_j` and the points of the two proofs -/
theorem sg7_points_on_curve (cfg : Cfg) (ssid : Bytes) (bigR : ECPoint) (p : R6Peer) (bigV bigA : ECPoint)
    (h : r7Peer C H cfg ssid bigR p = .ok (.pass (bigV, bigA))) :
    C.ecIsOnCurve bigV = true ∧ C.ecIsOnCurve bigA = true ∧
      C.ecIsOnCurve p.alphaA = true ∧ C.ecIsOnCurve p.alphaV = true := by
  obtain ⟨x1, y1, x2, y2, alA, alV, _, hV, hA, halA, _, halV, _⟩ :=
    (C05d.r7Peer_pass_iff C H cfg ssid bigR p bigV bigA).1 h
  exact ⟨(onCurve_of_ecNew C hV).1, (onCurve_of_ecNew C hA).1, onCurve_of_ecNew' C halA, onCurve_of_ecNew' C halV⟩

/-- round 7, whole round: every `(V_j, A_j)` handed on is a pair of curve points -/
theorem sg7_round_points_on_curve (cfg : Cfg) (ssid : Bytes) (bigR : ECPoint) (peers : List R6Peer)
    (l : List (ECPoint × ECPoint)) (h : round7 C H cfg ssid bigR peers = .ok (.pass l)) :
    ∀ va ∈ l, C.ecIsOnCurve va.1 = true ∧ C.ecIsOnCurve va.2 = true := by
  have hall := (C05d.sg7_pass_all C H cfg ssid bigR peers l).1 h
  intro va hva
  obtain ⟨q, _, hq⟩ := C05L.forall₂_mem_right hall va hva
  obtain ⟨h1, h2, _⟩ := sg7_points_on_curve C H cfg ssid bigR q va.1 va.2 hq
  exact ⟨h1, h2⟩

/-- **round 9, current tree**: the share is revealed only if every peer's opened `U_j`, `T_j` are points of the
curve (`C.ofAffine … ≠ none`) -/
theorem round9_accepts_only_curve_points (own : Nat) (u t : P) (peers : List R8Peer)
    (h : round9Go C H true own u t peers = .ok (.pass ())) :
    ∀ p ∈ peers, ∃ v, decommitWith H p.commitment (p.decommitment.map Int.ofNat) = .ok (some v) ∧
      4 ≤ v.length ∧
      C.ofAffine (v.getD 0 0).toNat (v.getD 1 0).toNat ≠ none ∧
      C.ofAffine (v.getD 2 0).toNat (v.getD 3 0).toNat ≠ none := by
  obtain ⟨uts, ha, _⟩ := (C05e.sg9_pass_iff C H true own u t peers).1 h
  intro p hp
  obtain ⟨uj, tj, v, hd, hl, hu, ht⟩ := forall_of_allOpen C H ha p hp
  exact ⟨v, hd, hl, by rw [hu]; nofun, by rw [ht]; nofun⟩

/-- … the same in terms of `ecIsOnCurve` -/
theorem round9_accepts_only_curve_points' (own : Nat) (u t : P) (peers : List R8Peer)
    (h : round9Go C H true own u t peers = .ok (.pass ())) :
    ∀ p ∈ peers, ∃ v, decommitWith H p.commitment (p.decommitment.map Int.ofNat) = .ok (some v) ∧
      C.ecIsOnCurve ((v.getD 0 0).toNat, (v.getD 1 0).toNat) = true ∧
      C.ecIsOnCurve ((v.getD 2 0).toNat, (v.getD 3 0).toNat) = true := by
  intro p hp
  obtain ⟨v, hd, _, hu, ht⟩ := round9_accepts_only_curve_points C H own u t peers h p hp
  exact ⟨v, hd, (ofAffine_ne_none_iff C _ _).1 hu, (ofAffine_ne_none_iff C _ _).1 ht⟩

/-- **round 9, tree before the repair, what the model gives**: the modelling convention resolves the
unspecified raw addition of an off-curve pair as an unequal comparison, so in the MODEL a pass also implies
curve points … -/
theorem round9_old_tree_accepts_only_curve_points (own : Nat) (u t : P) (peers : List R8Peer)
    (h : round9Go C H false own u t peers = .ok (.pass ())) :
    ∀ p ∈ peers, ∃ uj tj, Opens C H p uj tj :=
  C05e.sg9_pass_all_open C H false own u t peers h

/-- … but the pair was never CHECKED there: an off-curve pair (after valid openings) is not rejected as the
sender's fault, it surfaces as the party's own failed assertion "U doesn't equal T", naming the party itself;
the current tree rejects it naming the sender. (In Go the old tree fed the coordinates to the curve's raw
addition, whose result on such input is unspecified; no statement about it is made here.) -/
theorem round9_old_tree_accepts_offcurve_is_self_blame (own : Nat) (u t : P) (pre post : List R8Peer)
    (p : R8Peer) (hpre : ∀ q ∈ pre, ∃ uj tj, Opens C H q uj tj)
    (v : List Int) (hv : decommitWith H p.commitment (p.decommitment.map Int.ofNat) = .ok (some v))
    (hl : 4 ≤ v.length)
    (hoff : C.ofAffine (v.getD 0 0).toNat (v.getD 1 0).toNat = none ∨
      C.ofAffine (v.getD 2 0).toNat (v.getD 3 0).toNat = none) :
    round9Go C H false own u t (pre ++ p :: post) = .ok (.fail "U doesn't equal T" own) ∧
    ∃ why, round9Go C H true own u t (pre ++ p :: post) = .ok (.fail why p.idx) ∧
      (why = "NewECPoint(Uj)" ∨ why = "NewECPoint(Tj)") := by
  have hcase : OffU C H p ∨ OffT C H p := by
    cases hu : C.ofAffine (v.getD 0 0).toNat (v.getD 1 0).toNat with
    | none => exact Or.inl ⟨v, hv, hl, hu⟩
    | some uj =>
      rcases hoff with h | h
      · rw [hu] at h; cases h
      · exact Or.inr ⟨v, uj, hv, hl, hu, h⟩
  refine ⟨C05e.sg9_old_tree_offcurve_names_self C H own u t pre post p hpre hcase, ?_⟩
  rcases hcase with hu | ht
  · exact ⟨_, (C05e.sg9_offcurve_names_sender C H own u t pre post p hpre).1 hu, Or.inl rfl⟩
  · exact ⟨_, (C05e.sg9_offcurve_names_sender C H own u t pre post p hpre).2 ht, Or.inr rfl⟩

end ecdsaSigning

section keygen
open Blame C05L

/-- EdDSA signing round 3: the opened `R_j` (before and, on a lawful curve, after cofactor clearing) and the
point of its Schnorr proof -/
theorem eddsa_sg3_point_on_curve (zcfg : Zk.Cfg) (blameDecommit errFirst : Bool) (cof cofInv : Nat)
    (ssid : Bytes) (p : SgPeer) (rj : ECPoint)
    (h : sgCheckPeer C H zcfg blameDecommit errFirst cof cofInv ssid p = .ok (.ok rj)) :
    (∃ x y, decommitWith H p.commitment (p.decommitment.map Int.ofNat) = .ok (some [x, y]) ∧
      C.ecIsOnCurve (x.toNat, y.toNat) = true ∧ clear C cof cofInv (x.toNat, y.toNat) = .ok rj) ∧
    C.ecIsOnCurve p.alpha = true ∧ (C.Lawful → C.ecIsOnCurve rj = true) := by
  obtain ⟨x, y, rj0, al, hd, h0, hc, hal, _⟩ :=
    (sgCheckPeer_ok_iff C H zcfg blameDecommit errFirst cof cofInv ssid p rj).1 h
  obtain ⟨h1, h2⟩ := onCurve_of_ecNew C h0
  subst h2
  exact ⟨⟨x, y, hd, h1, hc⟩, onCurve_of_ecNew' C hal, fun hC => clear_onCurve hC hc⟩

/-- EdDSA key generation round 3: the opened commitment points `v_j0 … v_jt` (before and, on a lawful curve,
after cofactor clearing) and the point of the Schnorr proof -/
theorem eddsa_kg3_points_on_curve (zcfg : Zk.Cfg) (vcfg : Vss.VerifyCfg) (lenGuard : Bool)
    (cof cofInv threshold ownId : Nat) (ssid : Bytes) (p : KgPeer) (vs : List ECPoint)
    (h : kgCheckPeer C H zcfg vcfg lenGuard cof cofInv threshold ownId ssid p = .ok (.ok vs)) :
    (∃ flat pts, decommitWith H p.commitment (p.decommitment.map Int.ofNat) = .ok (some flat) ∧
      C.unflatten (flat.map Int.toNat) = some pts ∧ pts.mapM (clear C cof cofInv) = .ok vs ∧
      ∀ pt ∈ pts, C.ecIsOnCurve pt = true) ∧
    C.ecIsOnCurve p.alpha = true ∧ (C.Lawful → ∀ v ∈ vs, C.ecIsOnCurve v = true) := by
  obtain ⟨flat, pts, hd, hu, hm, hacc⟩ :=
    (kgCheckPeer_ok_iff C H zcfg vcfg lenGuard cof cofInv threshold ownId ssid p vs).1 h
  obtain ⟨_, _, al, _, hal, _⟩ := hacc.schnorr
  exact ⟨⟨flat, pts, hd, hu, hm, onCurve_of_unflatten C hu⟩, onCurve_of_ecNew' C hal,
    fun hC => mapM_clear_onCurve hC hm⟩

/-- ECDSA key generation round 3: the opened commitment points (no cofactor clearing on this path) -/
theorem ecdsa_kg3_points_on_curve (zcfg : Zk.Cfg) (vcfg : Vss.VerifyCfg) (noMod noFac : Bool)
    (threshold ownId : Nat) (ssid : Bytes) (nt h1 h2 : Nat) (p : BlameEc.R2Peer)
    (h : BlameEc.checkPeer C H zcfg vcfg noMod noFac threshold ownId ssid nt h1 h2 p = .ok none) :
    ∃ flat vs, decommitWith H p.commitment (p.decommitment.map Int.ofNat) = .ok (some flat) ∧
      C.unflatten (flat.map Int.toNat) = some vs ∧ ∀ v ∈ vs, C.ecIsOnCurve v = true := by
  obtain ⟨flat, vs, hd, hu, _⟩ :=
    (C05EcL.checkPeer_none_iff C H zcfg vcfg noMod noFac threshold ownId ssid nt h1 h2 p).1 h
  exact ⟨flat, vs, hd, hu, onCurve_of_unflatten C hu⟩

end keygen

section resharing
open BlameRs Blame C05L C04RsL

/-- round 4: the commitment points an old member opened (before and, on a lawful curve, after clearing) -/
theorem rs_points_on_curve (vcfg : Vss.VerifyCfg) (cof cofInv t' ownId : Nat) (m : OldMsg) (vs : List ECPoint)
    (h : checkOld C H vcfg cof cofInv t' ownId m = .ok (.pass vs)) :
    (∃ flat pts, decommitWith H m.commitment (m.decommitment.map Int.ofNat) = .ok (some flat) ∧
      C.unflatten (flat.map Int.toNat) = some pts ∧ pts.mapM (clear C cof cofInv) = .ok vs ∧
      ∀ pt ∈ pts, C.ecIsOnCurve pt = true) ∧
    (C.Lawful → ∀ v ∈ vs, C.ecIsOnCurve v = true) := by
  obtain ⟨flat, pts, hd, _, hu, hm, _⟩ := (checkOld_pass_iff C H vcfg cof cofInv t' ownId m vs).1 h
  exact ⟨⟨flat, pts, hd, hu, hm, onCurve_of_unflatten C hu⟩, fun hC => mapM_clear_onCurve hC hm⟩

/-- round 1: the group key the new member fixes is a point of the curve, on both trees (the repaired one
reads every old member's announcement, the one before the repair only the first member's) -/
theorem rs_key_on_curve (everyMember : Bool) (msgs : List OldMsg) (key : ECPoint)
    (h : round1Key C everyMember msgs = .pass key) : C.ecIsOnCurve key = true := by
  cases everyMember with
  | true =>
    rw [round1Key_eq] at h
    obtain ⟨hall, hs⟩ := (r1go_true_pass_iff C msgs.head? msgs none key).1 h
    rcases hs with hs | ⟨_, hne⟩
    · cases hs
    · cases msgs with
      | nil => exact absurd rfl hne
      | cons m rest => exact (onCurve_of_ecNew C (hall m (List.mem_cons_self ..))).1
  | false =>
    cases msgs with
    | nil => rw [round1Key_eq] at h; rw [r1go_nil] at h; cases h
    | cons m0 rest =>
      rw [round1Key_false_cons] at h
      cases h0 : C.ecNew m0.pub.1 m0.pub.2 with
      | none => rw [h0] at h; cases h
      | some k =>
        rw [h0] at h
        injection h with h
        subst h
        exact (onCurve_of_ecNew C h0).1

/-- … on the repaired tree every old member's announced key is that point -/
theorem rs_every_announced_key_on_curve (msgs : List OldMsg) (key : ECPoint)
    (h : round1Key C true msgs = .pass key) :
    ∀ m ∈ msgs, C.ecIsOnCurve m.pub = true ∧ m.pub = key := by
  rw [round1Key_eq] at h
  obtain ⟨hall, _⟩ := (r1go_true_pass_iff C msgs.head? msgs none key).1 h
  intro m hm
  obtain ⟨h1, h2⟩ := (C17L.ecNew_eq_some_iff C).1 (hall m hm)
  exact ⟨h1, h2.symm⟩

end resharing

end TssVerif.C17b
