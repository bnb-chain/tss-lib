import TssVerif.Props.C08
/-! # C08 (continued) — what a party has emitted is determined by the round it has reached

Corollaries of `Props/C08.lean` (`emits_once_in_order`). -/
set_option autoImplicit false
namespace TssVerif.C08
open TssVerif TssVerif.Engine TssVerif.EngineL

/-- the sender's identity does not enter what is emitted: parties of one session that are in the same
round have emitted logs of the same shape (`emitsUpTo` depends on the table, `n` and the round only) -/
theorem emissions_independent_of_self (tbl : List RoundSpec) (n self self' : Nat) (evs evs' : List Ev)
    (h : (run tbl evs (fresh n self)).rnd = (run tbl evs' (fresh n self')).rnd) :
    (run tbl evs (fresh n self)).out = (run tbl evs' (fresh n self')).out ∧
    (run tbl evs (fresh n self)).ended = (run tbl evs' (fresh n self')).ended := by
  obtain ⟨_, o1, e1⟩ := emits_once_in_order tbl n self evs
  obtain ⟨_, o2, e2⟩ := emits_once_in_order tbl n self' evs'
  exact ⟨by rw [o1, o2, h], by rw [e1, e2, h]⟩

/-- **two histories that reach the same round have emitted the same messages, in the same order, and
the same number of `end` results** — whatever was delivered, in whatever order, before or after `Start` -/
theorem emissions_determined_by_round (tbl : List RoundSpec) (n self : Nat) (evs evs' : List Ev)
    (h : (run tbl evs (fresh n self)).rnd = (run tbl evs' (fresh n self)).rnd) :
    (run tbl evs (fresh n self)).out = (run tbl evs' (fresh n self)).out ∧
    (run tbl evs (fresh n self)).ended = (run tbl evs' (fresh n self)).ended :=
  emissions_independent_of_self tbl n self self evs evs' h

end TssVerif.C08
