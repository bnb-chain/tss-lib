import TssVerif.Lemmas.AlgEddsa
import TssVerif.Lemmas.AlgBytes
import TssVerif.Props.C17
import Mathlib.Data.ZMod.Basic
import Mathlib.Data.Fin.VecNotation
/-! # C02 — threshold EdDSA signing

"Threshold EdDSA signing yields a signature `(R, s)` with `s·B = R + h·A` under the group key."

The algebra is stated for ANY additive commutative group `G` (Mathlib `AddCommGroup`) with a base point
`B` killed by `l`: nothing of edwards25519 is used. `eddsa_cofactored_check` adds what the code does to
the received `R_j` (`EightInvEight`, i.e. multiplication by `8·(8⁻¹ mod l)`, see `C17.cofactor_clear`):
honest `R_j` are unchanged, and a small-order component added to an `R_j` is removed.
The little-endian scalar helpers of `eddsa/signing/utils.go` are characterised for every input. -/
set_option autoImplicit false
namespace TssVerif.C02
open TssVerif AlgL

/-- **EdDSA share algebra**: public key `A = x·B`, nonce point `R = (Σr_i)·B`, shares
`s_i ≡ r_i + h·w_i (mod l)` (`ScMulAdd`), `Σw_i ≡ x (mod l)` (the Lagrange weights, C01), `l·B = 0`.
Then `(Σs_i mod l)·B = R + h·A` — the verification equation of RFC 8032. -/
theorem eddsa_sign_algebra {G : Type*} [AddCommGroup G] {ι : Type*} (s : Finset ι) (B A R : G)
    (l x h : ℕ) (r w sh : ι → ℕ)
    (hl : l • B = 0) (hA : A = x • B) (hR : R = (∑ i ∈ s, r i) • B)
    (hs : ∀ i ∈ s, sh i ≡ r i + h * w i [MOD l]) (hw : ∑ i ∈ s, w i ≡ x [MOD l]) :
    ((∑ i ∈ s, sh i) % l) • B = R + h • A := by
  rw [nsmul_mod_of_order hl, hR, hA, ← mul_nsmul', ← add_nsmul]
  apply nsmul_congr_of_modEq hl
  have h1 := sum_modEq s sh (fun i => r i + h * w i) l hs
  rw [Finset.sum_add_distrib, ← Finset.mul_sum] at h1
  exact h1.trans (Nat.ModEq.add_left _ (hw.mul_left h))

/-- the same with `R` as the sum of the broadcast points `R_i = r_i·B` -/
theorem eddsa_sign_algebra_points {G : Type*} [AddCommGroup G] {ι : Type*} (s : Finset ι) (B A : G)
    (Ri : ι → G) (l x h : ℕ) (r w sh : ι → ℕ)
    (hl : l • B = 0) (hA : A = x • B) (hR : ∀ i ∈ s, Ri i = r i • B)
    (hs : ∀ i ∈ s, sh i ≡ r i + h * w i [MOD l]) (hw : ∑ i ∈ s, w i ≡ x [MOD l]) :
    ((∑ i ∈ s, sh i) % l) • B = (∑ i ∈ s, Ri i) + h • A := by
  apply eddsa_sign_algebra s B A _ l x h r w sh hl hA _ hs hw
  rw [Finset.sum_congr rfl hR, Finset.sum_nsmul_assoc]

/-- **with the cofactor clearing of round 3**: signer `me` uses its own `R_me = r_me·B` as is and replaces
every received `R_j` by `(8e)·R_j` with `8e ≡ 1 (mod l)`. If `R_j = r_j·B + T_j` with `8·T_j = 0`
(honest: `T_j = 0`; a dishonest sender may add a small-order point), the equation still holds with the
`r_j` — the small-order parts are gone. -/
theorem eddsa_cofactored_check {G : Type*} [AddCommGroup G] {ι : Type*} [DecidableEq ι]
    (s : Finset ι) (me : ι) (hme : me ∈ s) (B A : G) (Rj T : ι → G) (l e x h : ℕ) (r w sh : ι → ℕ)
    (he : 8 * e ≡ 1 [MOD l])
    (hl : l • B = 0) (hA : A = x • B)
    (hRj : ∀ j ∈ s, Rj j = r j • B + T j) (hT : ∀ j ∈ s, 8 • T j = 0)
    (hs : ∀ i ∈ s, sh i ≡ r i + h * w i [MOD l]) (hw : ∑ i ∈ s, w i ≡ x [MOD l]) :
    ((∑ i ∈ s, sh i) % l) • B = (r me • B + ∑ j ∈ s.erase me, (8 * e) • Rj j) + h • A := by
  have hclear : ∀ j ∈ s, (8 * e) • Rj j = r j • B := by
    intro j hj
    have hlr : l • (r j • B) = 0 := by rw [smul_comm, hl, nsmul_zero]
    have h8l : (8 * l) • (r j • B) = 0 := by rw [mul_nsmul', hlr, nsmul_zero]
    obtain ⟨_, h2, h3⟩ := C17.cofactor_clear he (r j • B) h8l
    rw [hRj j hj, h3 (T j) (hT j hj)]
    exact h2 hlr
  have hsum : r me • B + ∑ j ∈ s.erase me, (8 * e) • Rj j = (∑ i ∈ s, r i) • B := by
    rw [Finset.sum_congr rfl (fun j hj => hclear j (Finset.mem_of_mem_erase hj)),
      Finset.add_sum_erase s (fun j => r j • B) hme, Finset.sum_nsmul_assoc]
  rw [hsum]
  exact eddsa_sign_algebra s B A _ l x h r w sh hl hA rfl hs hw

/-- honest senders: every `R_j` has order dividing `l` and is left unchanged by the clearing -/
theorem eddsa_cofactored_check_honest {G : Type*} [AddCommGroup G] {ι : Type*} [DecidableEq ι]
    (s : Finset ι) (me : ι) (hme : me ∈ s) (B A : G) (Rj : ι → G) (l e x h : ℕ) (r w sh : ι → ℕ)
    (he : 8 * e ≡ 1 [MOD l])
    (hl : l • B = 0) (hA : A = x • B) (hRj : ∀ j ∈ s, Rj j = r j • B)
    (hs : ∀ i ∈ s, sh i ≡ r i + h * w i [MOD l]) (hw : ∑ i ∈ s, w i ≡ x [MOD l]) :
    (∀ j ∈ s, (8 * e) • Rj j = Rj j) ∧
    ((∑ i ∈ s, sh i) % l) • B = (Rj me + ∑ j ∈ s.erase me, (8 * e) • Rj j) + h • A := by
  constructor
  · intro j hj
    have hlr : l • Rj j = 0 := by rw [hRj j hj, smul_comm, hl, nsmul_zero]
    have h8l : (8 * l) • Rj j = 0 := by rw [mul_nsmul', hlr, nsmul_zero]
    exact (C17.cofactor_clear he (Rj j) h8l).2.1 hlr
  · rw [hRj me hme]
    exact eddsa_cofactored_check s me hme B A Rj (fun _ => 0) l e x h r w sh he hl hA
      (fun j hj => by rw [hRj j hj, add_zero]) (fun _ _ => nsmul_zero 8) hs hw

/-- `bigIntToEncodedBytes` always returns 32 bytes -/
theorem enc_length (a : ℕ) : (Sign.Ed.bigIntToEncodedBytes a).length = 32 := by
  unfold Sign.Ed.bigIntToEncodedBytes
  rw [List.length_reverse, List.length_take, padLeft_length]
  omega

/-- round trip below `2^256` -/
theorem enc_roundtrip {a : ℕ} (h : a < 2 ^ 256) :
    Sign.Ed.encodedBytesToBigInt (Sign.Ed.bigIntToEncodedBytes a) = a :=
  AlgL.enc_roundtrip h

/-- recorded behaviour, every input: the encoder keeps the 32 MOST significant bytes of the big-endian
representation, so a value of `n > 32` bytes is decoded back as `a / 256^(n − 32)` (the Go comment says
"Caveat: a can be longer than 32 bytes") -/
theorem enc_truncates (a : ℕ) :
    Sign.Ed.encodedBytesToBigInt (Sign.Ed.bigIntToEncodedBytes a) =
      a / 256 ^ ((natToBytesBE a).length - 32) := by
  unfold Sign.Ed.encodedBytesToBigInt Sign.Ed.bigIntToEncodedBytes
  rw [List.reverse_reverse, bytesToNat_take, bytesToNat_padLeft, C16L.bytesToNat_natToBytesBE,
    padLeft_length]
  congr 2
  omega

/-- concrete witness: `2^256 + 5` (33 bytes `01 00 … 00 05`) is encoded as the 32 bytes `01 00 … 00`,
decoded `2^248` — neither `a` nor `a mod 2^256` -/
theorem bigIntToEncodedBytes_truncates_witness :
    Sign.Ed.bigIntToEncodedBytes (2 ^ 256 + 5) = (1 :: List.replicate 31 0).reverse ∧
    Sign.Ed.encodedBytesToBigInt (Sign.Ed.bigIntToEncodedBytes (2 ^ 256 + 5)) = 2 ^ 248 := by
  decide +kernel

/-! ## Non-vacuity: `G = ZMod 23`, `B = 1`, `l = 23`; two signers

key `x = 5 = 18 + 10 (mod 23)`, nonces `3, 9`, `h = 4`: `s_1 = 3 + 4·18 = 75`, `s_2 = 9 + 4·10 = 49`,
`(75 + 49) mod 23 = 9`, and `9·B = 12·B + 4·(5·B)`. -/
section examples

example : (((∑ i : Fin 2, ![75, 49] i) % 23 : ℕ)) • (1 : ZMod 23) = (12 : ZMod 23) + 4 • (5 : ZMod 23) :=
  eddsa_sign_algebra (G := ZMod 23) Finset.univ 1 5 12 23 5 4 ![3, 9] ![18, 10] ![75, 49]
    (by decide) (by decide) (by decide) (by decide) (by decide)

/-- the model run of the left-hand side -/
example : (((∑ i : Fin 2, ![75, 49] i) % 23 : ℕ)) = 9 := by decide

/-- cofactor clearing on `G = ZMod 184` (`184 = 8·23`, `B = 8` has order 23, `e = 3`: `8·3 = 24 ≡ 1`):
signer 1 adds the 8-torsion point `23` to its `R_1 = 9·B`; the cleared sum is unaffected. -/
example : (((∑ i : Fin 2, ![75, 49] i) % 23 : ℕ)) • (8 : ZMod 184) =
    ((3 • (8 : ZMod 184)) + ∑ j ∈ (Finset.univ : Finset (Fin 2)).erase 0,
      (8 * 3) • (![3 • (8 : ZMod 184), 9 • 8 + 23] j)) + 4 • (5 • (8 : ZMod 184)) :=
  eddsa_cofactored_check (G := ZMod 184) Finset.univ 0 (Finset.mem_univ _) 8 (5 • 8)
    ![3 • 8, 9 • 8 + 23] ![0, 23] 23 3 5 4 ![3, 9] ![18, 10] ![75, 49]
    (by decide) (by decide) rfl (by decide) (by decide) (by decide) (by decide)

example : Sign.Ed.encodedBytesToBigInt (Sign.Ed.bigIntToEncodedBytes 1000) = 1000 :=
  enc_roundtrip (by decide)

end examples

end TssVerif.C02
