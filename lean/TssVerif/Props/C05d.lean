import TssVerif.Lemmas.C05Sg
import TssVerif.Props.C11
/-! # C05d — one deviating participant in threshold-ECDSA signing rounds 2, 3, 5 and 7: who is named

Property C05: "A misbehaving peer cannot cause a bad output and is the one blamed: if one party deviates by
sending an altered message, every honest party either finishes with a valid output or reports an error whose
culprit list names nobody but the deviator; when the alteration is one the checks cover (a proof, a commitment
opening, a share), the error names exactly the deviator. No honest party is ever named."

The objects are the round-level models of `Core/BlameSg.lean`: what an honest signer checks about its peers in
`ecdsa/signing/round_2.go` (as Bob: `round2` / `r2Peer`), `round_3.go` (as Alice: `round3` / `r3Peer`),
`round_5.go` (`round5` / `r5Peer`) and `round_7.go` (`round7` / `r7Peer`), up to the culprit decision. Everything
holds for every curve record `C`, every hash `H`, unboundedly many peers, and — except the no-crash theorems,
which are about the current tree `Zk.cur` — every guard configuration `cfg`. "Every peer except `dev` is honest"
is the judgement "every peer with `idx ≠ dev` passes its per-peer check"; the party's own index is simply not
among `peers.map (·.idx)`.

How the clauses of the property are covered (rounds 2/3 name EVERY failing peer, rounds 5/7 the FIRST one):

* "an error names nobody but the deviator":
  `sg2_culprit_iff`, `sg2_single_deviator` (parts 1, 4); `sg3_culprit_iff`, `sg3_single_deviator`;
  `sg5_first_failing_named`, `sg5_single_deviator`, `sg5_single_deviator_affine_identity`;
  `sg7_first_failing_named`, `sg7_single_deviator`;
* "a covered alteration (proof, commitment opening, share/ciphertext) names exactly the deviator":
  `r2Peer_true_iff`, `r2Peer_undecodable_fails`, `r2Peer_rejected_fails`, `r2Peer_bad_ciphertext_fails`,
  `sg2_covered_alteration_blamed`, `sg2_single_deviator` (parts 2, 3);
  `r3Peer_some_iff`, `sg3_covered_alteration_blamed`, `sg3_wrong_point_blamed`, `sg3_single_deviator`;
  `r5Peer_pass_iff`, `sg5_covered_alteration_fails`, `sg5_deviator_blamed_exactly`;
  `r7Peer_pass_iff`, `sg7_covered_alteration_fails`, `sg7_deviator_blamed_exactly`;
* "no honest party is ever named" / the party never names itself:
  `sg2_culprits_are_senders`, `sg2_never_names_self`, `sg3_culprits_are_senders`, `sg3_never_names_self`,
  `sg5_culprit_is_sender`, `sg7_culprit_is_sender` (with the single-deviator theorems: an honest peer passes,
  so it is not named);
* "finishes with a valid output": `sg2_pass_iff`, `sg3_pass_iff`, `sg3_shares_only_when_clean`,
  `sg3_shares_length`, `sg3_shares_are_the_peers`, `sg5_pass_sum`, `sg7_pass_all`;
  (`sg3_covered_alteration_fails` is the per-peer form; `r5Peer_names_its_peer`, `r7Peer_names_its_peer`: a
  per-peer check only ever names the peer it checks; `sg5_hadd_needed_witness`: why `sg5_single_deviator` asks
  for representable additions; `sg5_no_unattributed_error`: round 5 never returns an error without a culprit);
* "the call returns" (current tree): `sg2_no_panic`, `sg2_returns` (no hypothesis); `sg3_no_panic`,
  `sg3_returns` (lawful curve, cofactor 1 where the identity has no affine form, the party's OWN Paillier key
  sound, and every `proofBobWC` not a ten-part list — needed: `bobWC_ten_parts_panics_witness`,
  `sg3_ten_parts_panics_witness`, exact condition `bobWCFromBytes_panics_iff`); `sg5_no_panic`, `sg5_returns`,
  `sg7_no_panic`, `sg7_returns` (lawful curve, cofactor 1, non-empty de-commitments — needed:
  `sg5_empty_decommitment_panics_witness`, `sg7_empty_decommitment_panics_witness`; `sg7_returns` also needs the
  party's own `R` on the curve). -/
set_option autoImplicit false
namespace TssVerif.C05d
open TssVerif BlameSg Zk C05SgL C06L

variable {P : Type} (C : Curve P) (H : HashFn)

/-! ## round 2 (the party is Bob): every failing peer is named -/
section r2
variable (cfg : Cfg) (own : Mta.RP)

/-- **exactly the failing peers are named** -/
theorem sg2_culprit_iff (peers : List R1Peer) (cs : List Nat)
    (h : round2 C H cfg own peers = .ok cs) (j : Nat) :
    j ∈ cs ↔ ∃ p ∈ peers, p.idx = j ∧ r2Peer C H cfg own p = .ok false := by
  rw [round2_eq] at h
  exact boolRound_culprit_iff _ _ _ h j

/-- **the names are a sub-list of the peer indices** (peer order, no duplicates when these are distinct) -/
theorem sg2_culprits_are_senders (peers : List R1Peer) (cs : List Nat)
    (h : round2 C H cfg own peers = .ok cs) :
    cs.Sublist (peers.map (·.idx)) ∧ (∀ c ∈ cs, c ∈ peers.map (·.idx)) ∧
      ((peers.map (·.idx)).Nodup → cs.Nodup) := by
  rw [round2_eq] at h
  exact boolRound_culprits_are_senders _ _ _ h

theorem sg2_never_names_self (peers : List R1Peer) (cs : List Nat) (self : Nat)
    (hself : self ∉ peers.map (·.idx)) (h : round2 C H cfg own peers = .ok cs) : self ∉ cs :=
  fun hm => hself ((sg2_culprits_are_senders C H cfg own peers cs h).2.1 self hm)

/-- **the round passes iff every peer passes** -/
theorem sg2_pass_iff (peers : List R1Peer) :
    round2 C H cfg own peers = .ok [] ↔ ∀ p ∈ peers, r2Peer C H cfg own p = .ok true := by
  rw [round2_eq]
  exact boolRound_pass_iff _ _ _

/-- **one deviator**: every peer other than `dev` passes. Then (1) whatever the round returns names nobody
but `dev`; (2) for distinct indices it returns exactly `[dev]` iff `dev`'s own check failed; (3) if `dev`'s
check fails the round does return `[dev]`; (4) if it passes too the round returns `[]`. -/
theorem sg2_single_deviator (peers : List R1Peer) (dev : Nat)
    (hothers : ∀ p ∈ peers, p.idx ≠ dev → r2Peer C H cfg own p = .ok true) :
    (∀ cs, round2 C H cfg own peers = .ok cs → ∀ c ∈ cs, c = dev) ∧
    (∀ cs, (peers.map (·.idx)).Nodup → round2 C H cfg own peers = .ok cs →
      (cs = [dev] ↔ ∃ d ∈ peers, d.idx = dev ∧ r2Peer C H cfg own d = .ok false)) ∧
    (∀ d ∈ peers, d.idx = dev → (peers.map (·.idx)).Nodup → r2Peer C H cfg own d = .ok false →
      round2 C H cfg own peers = .ok [dev]) ∧
    ((∀ d ∈ peers, d.idx = dev → r2Peer C H cfg own d = .ok true) → round2 C H cfg own peers = .ok []) := by
  rw [round2_eq]
  exact boolRound_single_deviator (·.idx) _ peers dev hothers

/-- **exact pass condition of the per-peer check**: the range proof decodes (six non-empty parts) and is
accepted under the party's own ring-Pedersen parameters, and the ciphertext is in `[0, N_A²)` with `N_A > 0`
(the domain guard of `HomoMult`) -/
theorem r2Peer_true_iff (p : R1Peer) :
    r2Peer C H cfg own p = .ok true ↔
      ∃ pf, rangeFromBytes p.proof = some pf ∧
        rangeVerify cfg H C.q p.nA own.ntilde own.h1 own.h2 p.cA pf = .ok true ∧
        0 < p.nA ∧ p.cA < p.nA * p.nA := by
  rw [r2Peer_eq]
  cases rangeFromBytes p.proof with
  | none => simp only [Outcome.ok.injEq, Bool.false_eq_true, reduceCtorEq, false_and, exists_false]
  | some pf =>
    simp only [Bool.decide_and, Outcome.bind_eq_ok, Outcome.ok.injEq, Bool.and_eq_true, decide_eq_true_eq,
      Bool.exists_bool, Bool.false_eq_true, false_and, and_false, true_and, false_or, Option.some.injEq, exists_eq_left']

/-- **a proof that does not decode fails the peer** -/
theorem r2Peer_undecodable_fails (p : R1Peer) (h : rangeFromBytes p.proof = none) :
    r2Peer C H cfg own p = .ok false := by
  rw [r2Peer_eq, h]

/-- a proof that decodes and is rejected (altered proof, altered ciphertext, altered modulus) fails the peer -/
theorem r2Peer_rejected_fails (p : R1Peer) (pf : RangeProof) (h : rangeFromBytes p.proof = some pf)
    (hv : rangeVerify cfg H C.q p.nA own.ntilde own.h1 own.h2 p.cA pf = .ok false) :
    r2Peer C H cfg own p = .ok false := by
  rw [r2Peer_eq, h]
  simp only [hv, Outcome.ok_bind, Bool.false_and]

/-- an accepted proof with a ciphertext outside `[0, N_A²)` fails the peer -/
theorem r2Peer_bad_ciphertext_fails (p : R1Peer) (pf : RangeProof) (h : rangeFromBytes p.proof = some pf)
    (hv : rangeVerify cfg H C.q p.nA own.ntilde own.h1 own.h2 p.cA pf = .ok true)
    (hc : p.nA = 0 ∨ p.nA * p.nA ≤ p.cA) : r2Peer C H cfg own p = .ok false := by
  have hdom : ¬ (0 < p.nA ∧ p.cA < p.nA * p.nA) := by omega
  rw [r2Peer_eq, h]
  simp [hv, hdom]

/-- **a covered alteration is blamed on its sender**: a failing check puts the peer's index in the list -/
theorem sg2_covered_alteration_blamed (peers : List R1Peer) (cs : List Nat) (p : R1Peer) (hp : p ∈ peers)
    (hbad : rangeFromBytes p.proof = none ∨
      ∃ pf, rangeFromBytes p.proof = some pf ∧
        (rangeVerify cfg H C.q p.nA own.ntilde own.h1 own.h2 p.cA pf = .ok false ∨
          (rangeVerify cfg H C.q p.nA own.ntilde own.h1 own.h2 p.cA pf = .ok true ∧
            (p.nA = 0 ∨ p.nA * p.nA ≤ p.cA))))
    (h : round2 C H cfg own peers = .ok cs) : p.idx ∈ cs := by
  refine (sg2_culprit_iff C H cfg own peers cs h p.idx).2 ⟨p, hp, rfl, ?_⟩
  rcases hbad with hb | ⟨pf, hd, hb | ⟨hv, hc⟩⟩
  · exact r2Peer_undecodable_fails C H cfg own p hb
  · exact r2Peer_rejected_fails C H cfg own p pf hd hb
  · exact r2Peer_bad_ciphertext_fails C H cfg own p pf hd hv hc

/-- **round 2 never crashes** on the current tree, whatever the peers sent; no hypothesis -/
theorem sg2_no_panic (peers : List R1Peer) (tag : String) : round2 C H cur own peers ≠ .panic tag :=
  round2_total C H own peers ▸ nofun

/-- … more: it always returns a culprit list (no unattributed error either) -/
theorem sg2_returns (peers : List R1Peer) : ∃ cs, round2 C H cur own peers = .ok cs :=
  ⟨_, round2_total C H own peers⟩

end r2

/-! ## round 3 (the party is Alice): every failing peer is named, shares only when nobody is -/
section r3
variable (cfg : Cfg) (ssid : Bytes) (sk : Paillier.PrivateKey) (own : Mta.RP)

/-- **exactly the failing peers are named** -/
theorem sg3_culprit_iff (peers : List R2Peer) (r : R3Result)
    (h : round3 C H cfg ssid sk own peers = .ok r) (j : Nat) :
    j ∈ r.culprits ↔ ∃ p ∈ peers, p.idx = j ∧ r3Peer C H cfg ssid sk own p = .ok none := by
  obtain ⟨vs, _, hc, _⟩ := (round3_ok_iff C H cfg ssid sk own peers r).1 h
  simp only [hc, mem_named, ok_bad3_iff]

/-- **the names are a sub-list of the peer indices** -/
theorem sg3_culprits_are_senders (peers : List R2Peer) (r : R3Result)
    (h : round3 C H cfg ssid sk own peers = .ok r) :
    r.culprits.Sublist (peers.map (·.idx)) ∧ (∀ c ∈ r.culprits, c ∈ peers.map (·.idx)) ∧
      ((peers.map (·.idx)).Nodup → r.culprits.Nodup) := by
  obtain ⟨vs, _, hc, _⟩ := (round3_ok_iff C H cfg ssid sk own peers r).1 h
  have hs : r.culprits.Sublist (peers.map (·.idx)) := hc ▸ named_sublist _ bad3 _ peers
  exact ⟨hs, fun c hc => hs.subset hc, fun hnd => hnd.sublist hs⟩

theorem sg3_never_names_self (peers : List R2Peer) (r : R3Result) (self : Nat)
    (hself : self ∉ peers.map (·.idx)) (h : round3 C H cfg ssid sk own peers = .ok r) : self ∉ r.culprits :=
  fun hm => hself ((sg3_culprits_are_senders C H cfg ssid sk own peers r h).2.1 self hm)

/-- **shares are returned only when nobody is blamed** -/
theorem sg3_shares_only_when_clean (peers : List R2Peer) (r : R3Result)
    (h : round3 C H cfg ssid sk own peers = .ok r) (hc : r.culprits ≠ []) : r.shares = [] := by
  obtain ⟨vs, _, _, hs⟩ := (round3_ok_iff C H cfg ssid sk own peers r).1 h
  rw [hs, if_neg (by rwa [List.isEmpty_iff])]

/-- **and then they are the peers' shares, one pair per peer, in peer order** -/
theorem sg3_shares_are_the_peers (peers : List R2Peer) (r : R3Result)
    (h : round3 C H cfg ssid sk own peers = .ok r) (hc : r.culprits = []) :
    List.Forall₂ (fun p s => r3Peer C H cfg ssid sk own p = .ok (some s)) peers r.shares := by
  obtain ⟨vs, hvs, hcul, hs⟩ := (round3_ok_iff C H cfg ssid sk own peers r).1 h
  rw [hs, hc]
  simp only [List.isEmpty_nil, if_true]
  refine filterMap_id_of_clean _ _ _ hvs ?_
  rw [hc] at hcul
  exact (named_eq_nil_iff _ _ _ _).1 hcul.symm

theorem sg3_shares_length (peers : List R2Peer) (r : R3Result)
    (h : round3 C H cfg ssid sk own peers = .ok r) (hc : r.culprits = []) :
    r.shares.length = peers.length :=
  (List.Forall₂.length_eq (sg3_shares_are_the_peers C H cfg ssid sk own peers r h hc)).symm

/-- **one deviator**: every peer other than `dev` passes. Then (1) whatever the round returns names nobody
but `dev`; (2) for distinct indices the list is exactly `[dev]` iff `dev`'s own check failed; (3) if `dev`'s
check fails the round does return `[dev]` and no shares; (4) if it passes too the round names nobody. -/
theorem sg3_single_deviator (peers : List R2Peer) (dev : Nat)
    (hothers : ∀ p ∈ peers, p.idx ≠ dev → ∃ s, r3Peer C H cfg ssid sk own p = .ok (some s)) :
    (∀ r, round3 C H cfg ssid sk own peers = .ok r → ∀ c ∈ r.culprits, c = dev) ∧
    (∀ r, (peers.map (·.idx)).Nodup → round3 C H cfg ssid sk own peers = .ok r →
      (r.culprits = [dev] ↔ ∃ d ∈ peers, d.idx = dev ∧ r3Peer C H cfg ssid sk own d = .ok none)) ∧
    (∀ d ∈ peers, d.idx = dev → (peers.map (·.idx)).Nodup → r3Peer C H cfg ssid sk own d = .ok none →
      round3 C H cfg ssid sk own peers = .ok ⟨[dev], []⟩) ∧
    ((∀ d ∈ peers, d.idx = dev → ∃ s, r3Peer C H cfg ssid sk own d = .ok (some s)) →
      ∃ r, round3 C H cfg ssid sk own peers = .ok r ∧ r.culprits = []) := by
  obtain ⟨h1, h2, h3, h4⟩ := namingRound_single_deviator (·.idx) bad3 (r3Peer C H cfg ssid sk own) result3 peers dev
    fun p hp hne => ok_bad3_false_iff.2 (hothers p hp hne)
  refine ⟨fun r h => ?_, fun r hnd h => ?_, fun d hd hdev hnd hbad => ?_, fun hdev => ?_⟩
  · obtain ⟨vs, _, hc, _⟩ := (round3_ok_iff C H cfg ssid sk own peers r).1 h
    rw [hc]; exact h1
  · obtain ⟨vs, _, hc, _⟩ := (round3_ok_iff C H cfg ssid sk own peers r).1 h
    rw [hc, h2 hnd]
    simp only [ok_bad3_iff]
  · obtain ⟨vs, _, h⟩ := h3 d hd hdev hnd (ok_bad3_iff.2 hbad)
    rw [round3_eq]; exact h
  · obtain ⟨vs, _, h⟩ := h4 fun d hd he => ok_bad3_false_iff.2 (hdev d hd he)
    exact ⟨_, by rw [round3_eq]; exact h, rfl⟩

/-- **the round names nobody iff every peer passes** -/
theorem sg3_pass_iff (peers : List R2Peer) :
    (∃ r, round3 C H cfg ssid sk own peers = .ok r ∧ r.culprits = []) ↔
      ∀ p ∈ peers, ∃ s, r3Peer C H cfg ssid sk own p = .ok (some s) := by
  constructor
  · rintro ⟨r, h, hc⟩ p hp
    exact C05L.forall₂_left (sg3_shares_are_the_peers C H cfg ssid sk own peers r h hc) p hp
  -- clause 4 of the one-deviator theorem with every record good; the index `0` plays no role
  · exact fun hall => (sg3_single_deviator C H cfg ssid sk own peers 0 fun p hp _ => hall p hp).2.2.2
      fun d hd _ => hall d hd

/-- **exact pass condition of the per-peer check**: both proofs decode (the second one with its point `U`
on the curve) and both `AliceEnd` calls — Bob's proof under the session `ssid ‖ bytes(idx)` and the party's own
parameters, then decryption — succeed; the pair of shares is exactly what they return -/
theorem r3Peer_some_iff (p : R2Peer) (a u : Nat) :
    r3Peer C H cfg ssid sk own p = .ok (some (a, u)) ↔
      ∃ pf1 pf2 uPt, bobFromBytes p.proofBob = some pf1 ∧
        bobWCFromBytes C p.proofBobWC = .ok (some (pf2, uPt)) ∧
        Mta.aliceEnd C H cfg (Blame.contextJ ssid p.idx) sk pf1 own p.ownCA p.c1 none = .ok a ∧
        Mta.aliceEnd C H cfg (Blame.contextJ ssid p.idx) sk pf2 own p.ownCA p.c2 (some (p.bigW, uPt)) = .ok u := by
  simp only [r3Peer_ok_iff, pair3_eq_some]
  constructor
  · rintro ⟨_, ha, _, hu, rfl, rfl⟩
    obtain ⟨pf1, h1, h2⟩ := (stepA_some_iff C H cfg ssid sk own p a).1 ha
    obtain ⟨pf2, uPt, h3, h4⟩ := (stepW_some_iff C H cfg ssid sk own p u).1 hu
    exact ⟨pf1, pf2, uPt, h1, h3, h2, h4⟩
  · rintro ⟨pf1, pf2, uPt, h1, h3, h2, h4⟩
    exact ⟨_, (stepA_some_iff C H cfg ssid sk own p a).2 ⟨pf1, h1, h2⟩, _,
      (stepW_some_iff C H cfg ssid sk own p u).2 ⟨pf2, uPt, h3, h4⟩, rfl, rfl⟩

/-- **a covered alteration fails the peer** (whenever its check returns): a proof that does not decode, a point
`U` off the curve, or an `AliceEnd` call that reports an error (Bob's proof rejected, response ciphertext out of
range or not a unit) -/
theorem sg3_covered_alteration_fails (p : R2Peer)
    (hbad : bobFromBytes p.proofBob = none ∨
      (∃ pf e, bobFromBytes p.proofBob = some pf ∧
        Mta.aliceEnd C H cfg (Blame.contextJ ssid p.idx) sk pf own p.ownCA p.c1 none = .err e) ∨
      bobWCFromBytes C p.proofBobWC = .ok none ∨
      (∃ pf uPt e, bobWCFromBytes C p.proofBobWC = .ok (some (pf, uPt)) ∧
        Mta.aliceEnd C H cfg (Blame.contextJ ssid p.idx) sk pf own p.ownCA p.c2 (some (p.bigW, uPt)) = .err e))
    (v : Option (Nat × Nat)) (hv : r3Peer C H cfg ssid sk own p = .ok v) : v = none := by
  obtain ⟨a, ha, u, hu, rfl⟩ := (r3Peer_ok_iff C H cfg ssid sk own p v).1 hv
  rw [← or_assoc, ← stepA_none_iff, ← stepW_none_iff] at hbad
  rcases hbad with hb | hb
  · rw [hb] at ha; cases ha; rfl
  · rw [hb] at hu; cases hu; exact pair3_none_right a

/-- … and is blamed on its sender when the round returns -/
theorem sg3_covered_alteration_blamed (peers : List R2Peer) (r : R3Result) (p : R2Peer) (hp : p ∈ peers)
    (hbad : bobFromBytes p.proofBob = none ∨
      (∃ pf e, bobFromBytes p.proofBob = some pf ∧
        Mta.aliceEnd C H cfg (Blame.contextJ ssid p.idx) sk pf own p.ownCA p.c1 none = .err e) ∨
      bobWCFromBytes C p.proofBobWC = .ok none ∨
      (∃ pf uPt e, bobWCFromBytes C p.proofBobWC = .ok (some (pf, uPt)) ∧
        Mta.aliceEnd C H cfg (Blame.contextJ ssid p.idx) sk pf own p.ownCA p.c2 (some (p.bigW, uPt)) = .err e))
    (h : round3 C H cfg ssid sk own peers = .ok r) : p.idx ∈ r.culprits ∧ r.shares = [] := by
  obtain ⟨vs, hvs, _, _⟩ := (round3_ok_iff C H cfg ssid sk own peers r).1 h
  obtain ⟨v, hv⟩ := C05L.forall₂_left hvs p hp
  have := sg3_covered_alteration_fails C H cfg ssid sk own p hbad v hv
  subst this
  have hm := (sg3_culprit_iff C H cfg ssid sk own peers r h p.idx).2 ⟨p, hp, rfl, hv⟩
  exact ⟨hm, sg3_shares_only_when_clean C H cfg ssid sk own peers r h (List.ne_nil_of_mem hm)⟩

/-- **a response for another public point is blamed** (current tree, lawful curve): if the point `U` of the
proof and the peer's public weighted point `W_j` held by the party do not satisfy `(s1 mod q)·G = e·W_j + U` in
the group, the peer fails whenever its check returns -/
theorem sg3_wrong_point_blamed (hC : C.Lawful) (p : R2Peer) (pf : BobProof) (uPt : ECPoint)
    (hdec : bobWCFromBytes C p.proofBobWC = .ok (some (pf, uPt)))
    (hwrong : ∀ pW pU, C.lift p.bigW = some pW → C.lift uPt = some pU →
      C.smul (pf.s1 % (C.q : Int)).toNat C.base ≠
        C.add (C.smul (bobChallenge C H (Blame.contextJ ssid p.idx) sk.n p.ownCA p.c2 (some (p.bigW, uPt)) pf) pW) pU)
    (v : Option (Nat × Nat)) (hv : r3Peer C H cur ssid sk own p = .ok v) : v = none := by
  cases v with
  | none => rfl
  | some x =>
    exfalso
    obtain ⟨a, u⟩ := x
    obtain ⟨pf1, pf2, uPt2, _, hd2, _, h2⟩ := (r3Peer_some_iff C H cur ssid sk own p a u).1 hv
    rw [hdec] at hd2
    injection hd2 with hd2; injection hd2 with hd2; injection hd2 with e1 e2
    subst e1; subst e2
    obtain ⟨hb, _⟩ := aliceEnd_ok_bob C H cur sk own _ _ _ _ _ _ h2
    obtain ⟨_, _, _, pW, pU, hW, hU, heq⟩ := C11.bobWC_accept_implies_point C hC H _ _ _ _ _ _ _ pf p.bigW uPt hb
    exact hwrong pW pU hW hU heq

/-- **round 3 never crashes** on the current tree. Hypotheses: a lawful curve record; `hcof` — on a curve whose
identity has no affine form every point is killed by `q` (cofactor 1, as on secp256k1); `hk` — the party's OWN
Paillier key is sound (`L(γ^λ mod n²)` invertible mod `n`); and no `proofBobWC` is a ten-part list (the Go
message validation only lets twelve-part lists through). Nothing else is assumed about the peers' values. -/
theorem sg3_no_panic (hC : C.Lawful) (hcof : C.toAffine C.zero = none → ∀ q, C.smul C.q q = C.zero)
    (hk : (modInverse (Paillier.L (modPow (Paillier.gamma sk.n) sk.lambdaN (Paillier.nSquare sk.n)) sk.n)
      sk.n).isSome = true)
    (peers : List R2Peer) (hparts : ∀ p ∈ peers, p.proofBobWC.length = bobWCParts) (tag : String) :
    round3 C H cur ssid sk own peers ≠ .panic tag :=
  round3_eq C H cur ssid sk own peers ▸ namingRound_noPanic _ _ _ _ _
    (fun p hp => r3Peer_noPanic C H hC hcof ssid sk own hk p (by rw [hparts p hp]; decide)) tag

theorem sg3_returns (hC : C.Lawful) (hcof : C.toAffine C.zero = none → ∀ q, C.smul C.q q = C.zero)
    (hk : (modInverse (Paillier.L (modPow (Paillier.gamma sk.n) sk.lambdaN (Paillier.nSquare sk.n)) sk.n)
      sk.n).isSome = true)
    (peers : List R2Peer) (hparts : ∀ p ∈ peers, p.proofBobWC.length = bobWCParts) :
    ∃ r, round3 C H cur ssid sk own peers = .ok r := by
  rw [round3_eq]
  obtain ⟨_, _, h⟩ := namingRound_of_checks_ok (·.idx) bad3 _ result3 peers fun p hp =>
    total_of (r3Peer_noPanic C H hC hcof ssid sk own hk p (by rw [hparts p hp]; decide))
      (r3Peer_noErr C H cur ssid sk own p)
  exact ⟨_, h⟩

/-- exact crash condition of `ProofBobWCFromBytes` in the model: a list of exactly ten non-empty parts -/
theorem bobWCFromBytes_panics_iff (bzs : List Bytes) (t : String) :
    bobWCFromBytes C bzs = .panic t ↔ t = "index-out-of-range" ∧ nonEmptyMultiBytes bzs bobParts = true :=
  bobWCFromBytes_panic_iff C bzs t

/-- **the hypothesis on the number of parts is needed in the model**: `ProofBobWCFromBytes` accepts ten parts
through `ProofBobFromBytes` and then indexes parts 10 and 11 — for EVERY curve record. (In Go,
`SignRound2Message.ValidateBasic` requires `ProofBobWCBytesParts = 12` parts before the message is stored.) -/
theorem bobWC_ten_parts_panics_witness :
    bobWCFromBytes C (List.replicate 10 [1]) = .panic "index-out-of-range" :=
  rfl

/-- … and the crash reaches the round: for every curve, hash, configuration, key and session -/
theorem sg3_ten_parts_panics_witness :
    round3 C H cfg ssid sk own [⟨1, 0, 0, [], 0, List.replicate 10 [1], (0, 0)⟩] = .panic "index-out-of-range" :=
  rfl

end r3

/-! ## round 5: the first failing peer is named -/
section r5
variable (cfg : Cfg) (ssid : Bytes)

/-- **the error names the first failing peer**: the list splits as `pre ++ p :: post`, every peer of `pre`
passed (with points `gs`), the running sum `Γ_i + Σ gs` is `acc`, `p.idx` is the name, and either `p`'s own
check failed (with this reason) or `acc + Γ_p` is not representable (the identity of secp256k1). Exact: iff. -/
theorem sg5_first_failing_named (ownGamma : ECPoint) (peers : List R4Peer) (why : String) (c : Nat) :
    round5 C H cfg ssid ownGamma peers = .ok (.fail why c) ↔
      ∃ pre p post gs acc, peers = pre ++ p :: post ∧
        List.Forall₂ (fun q g => r5Peer C H cfg ssid q = .ok (.pass g)) pre gs ∧
        gs.foldlM C.ecAdd ownGamma = .ok acc ∧ p.idx = c ∧
        (r5Peer C H cfg ssid p = .ok (.fail why c) ∨
          ∃ g e, r5Peer C H cfg ssid p = .ok (.pass g) ∧ C.ecAdd acc g = .err e ∧ why = "R.Add(bigGammaJ)") := by
  rw [round5_eq, C05L.seqLoop_eq_iff]
  constructor
  · rintro (⟨_, _, h⟩ | ⟨pre, p, post, acc, he, hr, hq⟩)
    · cases h
    · obtain ⟨gs, hf, hfold⟩ := (runs5_iff C H cfg ssid pre ownGamma acc).1 hr
      refine ⟨pre, p, post, gs, acc, he, hf, hfold, ?_⟩
      rcases (step5_halt_ok_iff C H cfg ssid acc p _).1 hq with ⟨_, _, hp, hv⟩ | ⟨g, e, hp, ha, hv⟩ <;> cases hv
      · exact ⟨(r5Peer_fail_idx C H cfg ssid p _ _ hp).symm, Or.inl hp⟩
      · exact ⟨rfl, Or.inr ⟨g, e, hp, ha, rfl⟩⟩
  · rintro ⟨pre, p, post, gs, acc, he, hf, hfold, hidx, hq⟩
    refine Or.inr ⟨pre, p, post, acc, he, (runs5_iff C H cfg ssid pre ownGamma acc).2 ⟨gs, hf, hfold⟩,
      (step5_halt_ok_iff C H cfg ssid acc p _).2 ?_⟩
    rcases hq with hp | ⟨g, e, hp, ha, hw⟩
    · exact Or.inl ⟨why, c, hp, rfl⟩
    · exact Or.inr ⟨g, e, hp, ha, by rw [hw, hidx]⟩

theorem r5Peer_names_its_peer (p : R4Peer) (why : String) (c : Nat)
    (h : r5Peer C H cfg ssid p = .ok (.fail why c)) : c = p.idx :=
  r5Peer_fail_idx C H cfg ssid p why c h

/-- **the name is a peer's index**, never the party's own -/
theorem sg5_culprit_is_sender (ownGamma : ECPoint) (peers : List R4Peer) (why : String) (c : Nat)
    (h : round5 C H cfg ssid ownGamma peers = .ok (.fail why c)) : c ∈ peers.map (·.idx) := by
  obtain ⟨pre, p, post, _, _, rfl, _, _, hc, _⟩ := (sg5_first_failing_named C H cfg ssid ownGamma peers why c).1 h
  exact List.mem_map.2 ⟨p, by simp, hc⟩

/-- **on `.pass r`** every peer passed and `r` is the left fold of `Add` over the party's own `Γ_i` and the
peers' points, in peer order. Exact: iff. -/
theorem sg5_pass_sum (ownGamma : ECPoint) (peers : List R4Peer) (r : ECPoint) :
    round5 C H cfg ssid ownGamma peers = .ok (.pass r) ↔
      ∃ gs, List.Forall₂ (fun q g => r5Peer C H cfg ssid q = .ok (.pass g)) peers gs ∧
        gs.foldlM C.ecAdd ownGamma = .ok r := by
  rw [round5_eq, C05L.seqLoop_eq_iff]
  constructor
  · rintro (⟨acc, hr, h⟩ | ⟨_, p, _, acc, _, _, hq⟩)
    · cases h
      exact (runs5_iff C H cfg ssid peers ownGamma r).1 hr
    · rcases (step5_halt_ok_iff C H cfg ssid acc p _).1 hq with ⟨_, _, _, hv⟩ | ⟨_, _, _, _, hv⟩ <;> cases hv
  · exact fun h => Or.inl ⟨r, (runs5_iff C H cfg ssid peers ownGamma r).2 h, rfl⟩

/-- **exact pass condition of the per-peer check**: the de-commitment opens the round-1 commitment to exactly
two numbers, they are the coordinates of a curve point `Γ_j`, the proof's point decodes, and the Schnorr proof
for `Γ_j` verifies under the session `ssid ‖ bytes(idx)` -/
theorem r5Peer_pass_iff (p : R4Peer) (g : ECPoint) :
    r5Peer C H cfg ssid p = .ok (.pass g) ↔
      ∃ x y al, decommitWith H p.commitment (p.decommitment.map Int.ofNat) = .ok (some [x, y]) ∧
        C.ecNew x.toNat y.toNat = some g ∧ C.ecNew p.alpha.1 p.alpha.2 = some al ∧
        schnorrVerify C H cfg (Blame.contextJ ssid p.idx) g al p.t = .ok true := by
  constructor
  · intro h
    rcases r5Peer_cases C H cfg ssid p with ⟨e, _, he⟩ | he | ⟨x, y, hd⟩
    · rw [he] at h; cases h
    · rw [he] at h; cases h
    · rw [r5Peer_opened C H cfg ssid p x y hd] at h
      split at h
      · cases h
      · rename_i g' hg
        split at h
        · cases h
        · rename_i al hal
          obtain ⟨b, hs, hb⟩ := Outcome.bind_eq_ok.1 h
          cases b <;> cases hb
          exact ⟨x, y, al, hd, hg, hal, hs⟩
  · rintro ⟨x, y, al, hd, hg, hal, hs⟩
    rw [r5Peer_opened C H cfg ssid p x y hd, hg, hal]
    simp only [hs, Outcome.ok_bind]
    rfl

/-- **a covered alteration fails the peer, naming it**: a de-commitment that does not open the commitment, an
opened pair that is not a curve point, or a Schnorr proof that is rejected -/
theorem sg5_covered_alteration_fails (p : R4Peer) :
    (decommitWith H p.commitment (p.decommitment.map Int.ofNat) = .ok none →
      r5Peer C H cfg ssid p = .ok (.fail "commitment verify failed" p.idx)) ∧
    (∀ x y, decommitWith H p.commitment (p.decommitment.map Int.ofNat) = .ok (some [x, y]) →
      C.ecNew x.toNat y.toNat = none → r5Peer C H cfg ssid p = .ok (.fail "NewECPoint(bigGammaJ)" p.idx)) ∧
    (∀ x y g al, decommitWith H p.commitment (p.decommitment.map Int.ofNat) = .ok (some [x, y]) →
      C.ecNew x.toNat y.toNat = some g → C.ecNew p.alpha.1 p.alpha.2 = some al →
      schnorrVerify C H cfg (Blame.contextJ ssid p.idx) g al p.t = .ok false →
      r5Peer C H cfg ssid p = .ok (.fail "failed to prove bigGamma" p.idx)) :=
  ⟨fun h => by unfold r5Peer; rw [h],
    fun x y hd hg => by rw [r5Peer_opened C H cfg ssid p x y hd, hg],
    fun x y g al hd hg hal hs => by
      rw [r5Peer_opened C H cfg ssid p x y hd, hg, hal]
      simp only [hs, Outcome.ok_bind]
      rfl⟩

/-- **one deviator**: every peer other than `dev` passes, and adding an honest peer's point to the running sum
is representable (`hadd`; on secp256k1 this fails only if the sum is the identity). Then a failure names `dev`.
`hadd` cannot be dropped in the model: the deviator's point could be the negative of what follows. -/
theorem sg5_single_deviator (ownGamma : ECPoint) (peers : List R4Peer) (dev : Nat)
    (hothers : ∀ p ∈ peers, p.idx ≠ dev → ∃ g, r5Peer C H cfg ssid p = .ok (.pass g))
    (hadd : ∀ pre p post gs acc g, peers = pre ++ p :: post → p.idx ≠ dev →
      List.Forall₂ (fun q g => r5Peer C H cfg ssid q = .ok (.pass g)) pre gs →
      gs.foldlM C.ecAdd ownGamma = .ok acc → r5Peer C H cfg ssid p = .ok (.pass g) → ∀ e, C.ecAdd acc g ≠ .err e)
    (why : String) (c : Nat) (h : round5 C H cfg ssid ownGamma peers = .ok (.fail why c)) : c = dev := by
  rw [round5_eq] at h
  rcases C05L.seqLoop_single_deviator _ _ (·.idx) ownGamma peers dev
    (round5_others_go C H cfg ssid peers ownGamma dev hothers hadd) _ h with
    ⟨_, _, h⟩ | ⟨_, p, _, acc, _, hdev, _, hq⟩
  · cases h
  · rcases (step5_halt_ok_iff C H cfg ssid acc p _).1 hq with ⟨_, _, hp, hv⟩ | ⟨_, _, _, _, hv⟩ <;> cases hv
    · exact (r5Peer_fail_idx C H cfg ssid p _ _ hp).trans hdev
    · exact hdev

/-- on a lawful curve whose identity has affine coordinates (edwards25519-like) `hadd` holds by itself -/
theorem sg5_single_deviator_affine_identity (hC : C.Lawful) (hz : C.toAffine C.zero ≠ none)
    (ownGamma : ECPoint) (hown : C.ecIsOnCurve ownGamma = true) (peers : List R4Peer) (dev : Nat)
    (hothers : ∀ p ∈ peers, p.idx ≠ dev → ∃ g, r5Peer C H cfg ssid p = .ok (.pass g))
    (why : String) (c : Nat) (h : round5 C H cfg ssid ownGamma peers = .ok (.fail why c)) : c = dev := by
  refine sg5_single_deviator C H cfg ssid ownGamma peers dev hothers ?_ why c h
  intro pre p post gs acc g _ _ _ hfold hg e he
  obtain ⟨r, hr⟩ := ecAdd_ok_of_affine_identity C hC hz acc g
    (foldlM_ecAdd_onCurve C hC gs ownGamma acc hown hfold)
    (by obtain ⟨_, _, _, _, hn, _⟩ := (r5Peer_pass_iff C H cfg ssid p g).1 hg; exact (C17FieldsL.onCurve_of_ecNew C hn).1)
  rw [hr] at he; cases he

/-- **exactly the deviator is named**: distinct indices, the others pass and their additions are representable,
and `dev`'s own check fails — then the round reports that failure, naming `dev` -/
theorem sg5_deviator_blamed_exactly (ownGamma : ECPoint) (peers : List R4Peer) (d : R4Peer)
    (hnd : (peers.map (·.idx)).Nodup) (hd : d ∈ peers)
    (hothers : ∀ p ∈ peers, p.idx ≠ d.idx → ∃ g, r5Peer C H cfg ssid p = .ok (.pass g))
    (hadd : ∀ pre p post gs acc g, peers = pre ++ p :: post → p.idx ≠ d.idx →
      List.Forall₂ (fun q g => r5Peer C H cfg ssid q = .ok (.pass g)) pre gs →
      gs.foldlM C.ecAdd ownGamma = .ok acc → r5Peer C H cfg ssid p = .ok (.pass g) → ∀ e, C.ecAdd acc g ≠ .err e)
    (why : String) (c : Nat) (hbad : r5Peer C H cfg ssid d = .ok (.fail why c)) :
    round5 C H cfg ssid ownGamma peers = .ok (.fail why d.idx) := by
  have hc := r5Peer_fail_idx C H cfg ssid d why c hbad
  subst hc
  rw [round5_eq]
  exact C05L.seqLoop_deviator_halts _ _ (·.idx) ownGamma peers d hnd hd
    (round5_others_go C H cfg ssid peers ownGamma d.idx hothers hadd) _
    fun acc => (step5_halt_ok_iff C H cfg ssid acc d _).2 (Or.inl ⟨why, _, hbad, rfl⟩)

/-- **round 5 never crashes** on the current tree: lawful curve, cofactor 1 where the identity has no affine
form, non-empty de-commitments (`SignRound4Message.ValidateBasic` requires three non-empty parts) -/
theorem sg5_no_panic (hC : C.Lawful) (hcof : C.toAffine C.zero = none → ∀ q, C.smul C.q q = C.zero)
    (ownGamma : ECPoint) (peers : List R4Peer) (hd : ∀ p ∈ peers, p.decommitment ≠ []) (tag : String) :
    round5 C H cur ssid ownGamma peers ≠ .panic tag :=
  round5_eq C H cur ssid peers ownGamma ▸ C05L.seqLoop_noPanic _ _
    (fun p hp => step5_noPanic C H cur ssid p (r5Peer_noPanic C H hC hcof ssid p (hd p hp))) (fun _ => NoPanic.ok _)
    ownGamma tag

/-- for EVERY configuration round 5 never reports an error without a culprit -/
theorem sg5_no_unattributed_error (ownGamma : ECPoint) (peers : List R4Peer) (e : String) :
    round5 C H cfg ssid ownGamma peers ≠ .err e := by
  rw [round5_eq]
  refine C05L.seqLoop_noErr _ _ (fun p _ acc => ?_) (fun _ => C05EcL.NoErr.ok _) ownGamma e
  refine C05EcL.NoErr.bind (r5Peer_noErr C H cfg ssid p) fun v _ => ?_
  cases v with
  | fail why c => exact C05EcL.NoErr.ok _
  | pass g =>
    dsimp only
    split
    · exact C05EcL.NoErr.ok _
    · exact C05EcL.NoErr.ok _
    · exact fun _ => nofun

theorem sg5_returns (hC : C.Lawful) (hcof : C.toAffine C.zero = none → ∀ q, C.smul C.q q = C.zero)
    (ownGamma : ECPoint) (peers : List R4Peer) (hd : ∀ p ∈ peers, p.decommitment ≠ []) :
    ∃ v, round5 C H cur ssid ownGamma peers = .ok v :=
  total_of (sg5_no_panic C H ssid hC hcof ownGamma peers hd) (sg5_no_unattributed_error C H cur ssid ownGamma peers)

end r5

/-! ## round 7: the first failing peer is named -/
section r7
variable (cfg : Cfg) (ssid : Bytes) (bigR : ECPoint)

/-- **the error names the first failing peer**. Exact: iff. -/
theorem sg7_first_failing_named (peers : List R6Peer) (why : String) (c : Nat) :
    round7 C H cfg ssid bigR peers = .ok (.fail why c) ↔
      ∃ pre p post, peers = pre ++ p :: post ∧
        (∀ q ∈ pre, ∃ va, r7Peer C H cfg ssid bigR q = .ok (.pass va)) ∧
        r7Peer C H cfg ssid bigR p = .ok (.fail why c) ∧ p.idx = c := by
  rw [round7_eq, C05L.seqLoop_eq_iff]
  constructor
  · rintro (⟨_, _, h⟩ | ⟨pre, p, post, acc, he, hr, hq⟩)
    · cases h
    · obtain ⟨l, hf, _⟩ := (runs7_iff C H cfg ssid bigR pre [] acc).1 hr
      obtain ⟨_, _, hp, hv⟩ := (step7_halt_ok_iff C H cfg ssid bigR acc p _).1 hq
      cases hv
      exact ⟨pre, p, post, he, C05L.forall₂_left hf, hp, (r7Peer_fail_idx C H cfg ssid bigR p _ _ hp).symm⟩
  · rintro ⟨pre, p, post, he, hpre, hp, _⟩
    obtain ⟨l, hf⟩ := C05L.exists_forall₂ pre hpre
    exact Or.inr ⟨pre, p, post, _, he, (runs7_iff C H cfg ssid bigR pre [] _).2 ⟨l, hf, rfl⟩,
      (step7_halt_ok_iff C H cfg ssid bigR _ p _).2 ⟨why, c, hp, rfl⟩⟩

theorem r7Peer_names_its_peer (p : R6Peer) (why : String) (c : Nat)
    (h : r7Peer C H cfg ssid bigR p = .ok (.fail why c)) : c = p.idx :=
  r7Peer_fail_idx C H cfg ssid bigR p why c h

theorem sg7_culprit_is_sender (peers : List R6Peer) (why : String) (c : Nat)
    (h : round7 C H cfg ssid bigR peers = .ok (.fail why c)) : c ∈ peers.map (·.idx) := by
  obtain ⟨pre, p, post, rfl, _, _, hc⟩ := (sg7_first_failing_named C H cfg ssid bigR peers why c).1 h
  exact List.mem_map.2 ⟨p, by simp, hc⟩

/-- **exact pass condition of the per-peer check**: the de-commitment opens the round-5 commitment to exactly
four numbers, the coordinates of two curve points `V_j`, `A_j`; both proof points decode; the Schnorr proof for
`A_j` and the Schnorr-V proof for `V_j` (against the party's `R`) verify under `ssid ‖ bytes(idx)` -/
theorem r7Peer_pass_iff (p : R6Peer) (bigV bigA : ECPoint) :
    r7Peer C H cfg ssid bigR p = .ok (.pass (bigV, bigA)) ↔
      ∃ x1 y1 x2 y2 alA alV,
        decommitWith H p.commitment (p.decommitment.map Int.ofNat) = .ok (some [x1, y1, x2, y2]) ∧
        C.ecNew x1.toNat y1.toNat = some bigV ∧ C.ecNew x2.toNat y2.toNat = some bigA ∧
        C.ecNew p.alphaA.1 p.alphaA.2 = some alA ∧
        schnorrVerify C H cfg (Blame.contextJ ssid p.idx) bigA alA p.tA = .ok true ∧
        C.ecNew p.alphaV.1 p.alphaV.2 = some alV ∧
        schnorrVVerify C H cfg (Blame.contextJ ssid p.idx) bigV bigR alV p.tV p.uV = .ok true := by
  constructor
  · intro h
    rcases r7Peer_cases C H cfg ssid bigR p with ⟨e, _, he⟩ | ⟨w, he⟩ | ⟨x1, y1, x2, y2, bV, bA, hd, hV, hA⟩
    · rw [he] at h; cases h
    · rw [he] at h; cases h
    · rw [r7Peer_points C H cfg ssid bigR p x1 y1 x2 y2 bV bA hd hV hA, r7Tail_pass_iff, okA7_ok_iff,
        okV7_ok_iff] at h
      simp only [reduceCtorEq, and_false, false_or] at h
      obtain ⟨hva, ⟨alA, hal, ha⟩, alV, hvl, hv⟩ := h
      cases hva
      exact ⟨x1, y1, x2, y2, alA, alV, hd, hV, hA, hal, ha, hvl, hv⟩
  · rintro ⟨x1, y1, x2, y2, alA, alV, hd, hV, hA, hal, ha, hvl, hv⟩
    rw [r7Peer_points C H cfg ssid bigR p x1 y1 x2 y2 bigV bigA hd hV hA, r7Tail_pass_iff, okA7_ok_iff, okV7_ok_iff]
    exact ⟨rfl, Or.inr ⟨alA, hal, ha⟩, Or.inr ⟨alV, hvl, hv⟩⟩

/-- **on `.pass l`** every peer passed, `l` has one entry per peer, in peer order, and each entry is that
peer's `(V_j, A_j)` as opened from its commitment. Exact: iff. -/
theorem sg7_pass_all (peers : List R6Peer) (l : List (ECPoint × ECPoint)) :
    round7 C H cfg ssid bigR peers = .ok (.pass l) ↔
      List.Forall₂ (fun q va => r7Peer C H cfg ssid bigR q = .ok (.pass va)) peers l := by
  rw [round7_eq, C05L.seqLoop_eq_iff]
  constructor
  · rintro (⟨acc, hr, h⟩ | ⟨_, p, _, acc, _, _, hq⟩)
    · obtain ⟨l', hf, rfl⟩ := (runs7_iff C H cfg ssid bigR peers [] acc).1 hr
      cases h
      exact hf
    · obtain ⟨_, _, _, hv⟩ := (step7_halt_ok_iff C H cfg ssid bigR acc p _).1 hq
      cases hv
  · exact fun hf => Or.inl ⟨l, (runs7_iff C H cfg ssid bigR peers [] l).2 ⟨l, hf, rfl⟩, rfl⟩

theorem sg7_pass_length (peers : List R6Peer) (l : List (ECPoint × ECPoint))
    (h : round7 C H cfg ssid bigR peers = .ok (.pass l)) : l.length = peers.length :=
  (List.Forall₂.length_eq ((sg7_pass_all C H cfg ssid bigR peers l).1 h)).symm

/-- **a covered alteration fails the peer, naming it**: a de-commitment that does not open the commitment, a
rejected (or undecodable) Schnorr proof for `A_j`, a rejected (or undecodable) Schnorr-V proof for `V_j` -/
theorem sg7_covered_alteration_fails (p : R6Peer) :
    (decommitWith H p.commitment (p.decommitment.map Int.ofNat) = .ok none →
      r7Peer C H cfg ssid bigR p = .ok (.fail "de-commitment for bigVj and bigAj failed" p.idx)) ∧
    (∀ x1 y1 x2 y2 bigV bigA,
      decommitWith H p.commitment (p.decommitment.map Int.ofNat) = .ok (some [x1, y1, x2, y2]) →
      C.ecNew x1.toNat y1.toNat = some bigV → C.ecNew x2.toNat y2.toNat = some bigA →
      (C.ecNew p.alphaA.1 p.alphaA.2 = none ∨ ∃ al, C.ecNew p.alphaA.1 p.alphaA.2 = some al ∧
        schnorrVerify C H cfg (Blame.contextJ ssid p.idx) bigA al p.tA = .ok false) →
      r7Peer C H cfg ssid bigR p = .ok (.fail "schnorr verify for Aj failed" p.idx)) ∧
    (∀ x1 y1 x2 y2 bigV bigA alA,
      decommitWith H p.commitment (p.decommitment.map Int.ofNat) = .ok (some [x1, y1, x2, y2]) →
      C.ecNew x1.toNat y1.toNat = some bigV → C.ecNew x2.toNat y2.toNat = some bigA →
      C.ecNew p.alphaA.1 p.alphaA.2 = some alA →
      schnorrVerify C H cfg (Blame.contextJ ssid p.idx) bigA alA p.tA = .ok true →
      (C.ecNew p.alphaV.1 p.alphaV.2 = none ∨ ∃ al, C.ecNew p.alphaV.1 p.alphaV.2 = some al ∧
        schnorrVVerify C H cfg (Blame.contextJ ssid p.idx) bigV bigR al p.tV p.uV = .ok false) →
      r7Peer C H cfg ssid bigR p = .ok (.fail "vverify for Vj failed" p.idx)) := by
  refine ⟨fun h => by unfold r7Peer; rw [h], ?_, ?_⟩
  · intro x1 y1 x2 y2 bigV bigA hd hV hA hbad
    have hbadA := (okA7_ok_iff C H cfg ssid p bigA false).2 (hbad.imp (fun h => ⟨h, rfl⟩) id)
    rw [r7Peer_points C H cfg ssid bigR p x1 y1 x2 y2 bigV bigA hd hV hA]
    unfold r7Tail; rw [hbadA]; rfl
  · intro x1 y1 x2 y2 bigV bigA alA hd hV hA hal hs hbad
    have hokA := (okA7_ok_iff C H cfg ssid p bigA true).2 (Or.inr ⟨alA, hal, hs⟩)
    have hbadV := (okV7_ok_iff C H cfg ssid bigR p bigV false).2 (hbad.imp (fun h => ⟨h, rfl⟩) id)
    rw [r7Peer_points C H cfg ssid bigR p x1 y1 x2 y2 bigV bigA hd hV hA]
    unfold r7Tail; rw [hokA, Outcome.ok_bind, hbadV]; rfl

/-- **one deviator**: every peer other than `dev` passes; then a failure names `dev` -/
theorem sg7_single_deviator (peers : List R6Peer) (dev : Nat)
    (hothers : ∀ p ∈ peers, p.idx ≠ dev → ∃ va, r7Peer C H cfg ssid bigR p = .ok (.pass va))
    (why : String) (c : Nat) (h : round7 C H cfg ssid bigR peers = .ok (.fail why c)) : c = dev := by
  rw [round7_eq] at h
  rcases C05L.seqLoop_single_deviator _ _ (·.idx) [] peers dev
    (fun pre p post acc he hne _ => round7_others_go C H cfg ssid bigR peers dev hothers pre p post acc he hne) _ h with
    ⟨_, _, h⟩ | ⟨_, p, _, acc, _, hdev, _, hq⟩
  · cases h
  · obtain ⟨_, _, hp, hv⟩ := (step7_halt_ok_iff C H cfg ssid bigR acc p _).1 hq
    cases hv
    exact (r7Peer_fail_idx C H cfg ssid bigR p _ _ hp).trans hdev

/-- **exactly the deviator is named**, with the reason of its own check -/
theorem sg7_deviator_blamed_exactly (peers : List R6Peer) (d : R6Peer)
    (hnd : (peers.map (·.idx)).Nodup) (hd : d ∈ peers)
    (hothers : ∀ p ∈ peers, p.idx ≠ d.idx → ∃ va, r7Peer C H cfg ssid bigR p = .ok (.pass va))
    (why : String) (c : Nat) (hbad : r7Peer C H cfg ssid bigR d = .ok (.fail why c)) :
    round7 C H cfg ssid bigR peers = .ok (.fail why d.idx) := by
  have hc := r7Peer_fail_idx C H cfg ssid bigR d why c hbad
  subst hc
  rw [round7_eq]
  exact C05L.seqLoop_deviator_halts _ _ (·.idx) [] peers d hnd hd
    (fun pre p post acc he hne _ => round7_others_go C H cfg ssid bigR peers d.idx hothers pre p post acc he hne) _
    fun acc => (step7_halt_ok_iff C H cfg ssid bigR acc d _).2 ⟨why, _, hbad, rfl⟩

/-- **round 7 never crashes** on the current tree: lawful curve, cofactor 1 where the identity has no affine
form, non-empty de-commitments (`SignRound6Message.ValidateBasic` requires five non-empty parts). Nothing is
assumed about `R` or the peers' points and proofs. -/
theorem sg7_no_panic (hC : C.Lawful) (hcof : C.toAffine C.zero = none → ∀ q, C.smul C.q q = C.zero)
    (peers : List R6Peer) (hd : ∀ p ∈ peers, p.decommitment ≠ []) (tag : String) :
    round7 C H cur ssid bigR peers ≠ .panic tag :=
  round7_eq C H cur ssid bigR peers ▸ C05L.seqLoop_noPanic _ _
    (fun p hp _ => NoPanic.bind (r7Peer_noPanic C H hC hcof ssid bigR p (hd p hp)) fun v _ => by
      cases v <;> exact NoPanic.ok _)
    (fun _ => NoPanic.ok _) [] tag

theorem sg7_returns (hC : C.Lawful) (hcof : C.toAffine C.zero = none → ∀ q, C.smul C.q q = C.zero)
    (hR : C.ecIsOnCurve bigR = true) (peers : List R6Peer) (hd : ∀ p ∈ peers, p.decommitment ≠ []) :
    ∃ v, round7 C H cur ssid bigR peers = .ok v :=
  total_of (sg7_no_panic C H ssid bigR hC hcof peers hd) <|
    round7_eq C H cur ssid bigR peers ▸ C05L.seqLoop_noErr _ _
      (fun p _ _ => C05EcL.NoErr.bind (r7Peer_noErr C H cur ssid bigR hR p) fun v _ => by
        cases v <;> exact C05EcL.NoErr.ok _)
      (fun _ => C05EcL.NoErr.ok _) []

end r7

/-! ## the hypotheses are satisfiable (kernel evaluation of the model on a toy curve) -/
section examples

instance fact23 : Fact (Nat.Prime 23) := ⟨by decide +kernel⟩
/-- toy lawful curve of order 23 whose identity has affine coordinates: the point `a·G` is `(a, 0)` -/
abbrev E := zmodCurve 23
/-- a "hash" whose digests are the byte `1`: every commitment value and every Schnorr challenge is `1` -/
def Hone : HashFn := fun _ => [1]
/-- a "hash" whose digests are the byte `5`: every challenge is `5` -/
def H5 : HashFn := fun _ => [5]

/-- three records with the deviator's in the middle: what holds of the two outer ones holds of every record that
does not carry the deviator's index -/
theorem forall_mem_three {α : Type} (f : α → Nat) {Q : α → Prop} {a md b : α} {dev : Nat} (hd : f md = dev)
    (ha : Q a) (hb : Q b) : ∀ p ∈ [a, md, b], f p ≠ dev → Q p := by
  intro p hp hne
  simp only [List.mem_cons, List.not_mem_nil, or_false] at hp
  rcases hp with rfl | rfl | rfl
  · exact ha
  · exact absurd hd hne
  · exact hb

/-- honest round-4 record of peer `idx`: `Γ = x·G`, commitment `1` opened by `[blind, x, 0]`, Schnorr proof with
coin `a`: `alpha = a·G`, `t = a + 1·x` -/
def g5 (idx x a : Nat) : R4Peer := ⟨idx, 1, [9, x, 0], (a, 0), (a + x) % 23⟩

example : r5Peer E Hone cur [] (g5 1 3 4) = .ok (.pass (3, 0)) := by decide +kernel
example : r5Peer E Hone cur [] (g5 2 5 6) = .ok (.pass (5, 0)) := by decide +kernel

/-- two honest peers: the round passes with `R = Γ_own + Γ_1 + Γ_2 = (2 + 3 + 5)·G` -/
example : round5 E Hone cur [] (2, 0) [g5 1 3 4, g5 2 5 6] = .ok (.pass (10, 0)) := by decide +kernel

/-- a wrong response `t`, a commitment that does not open, a point that does not decode: the peer is named -/
example : round5 E Hone cur [] (2, 0) [g5 1 3 4, ⟨2, 1, [9, 5, 0], (6, 0), 12⟩, g5 3 7 8] =
    .ok (.fail "failed to prove bigGamma" 2) := by decide +kernel
example : round5 E Hone cur [] (2, 0) [g5 1 3 4, ⟨2, 0, [9, 5, 0], (6, 0), 11⟩, g5 3 7 8] =
    .ok (.fail "commitment verify failed" 2) := by decide +kernel
example : round5 E Hone cur [] (2, 0) [g5 1 3 4, ⟨2, 1, [9, 5, 1], (6, 0), 11⟩, g5 3 7 8] =
    .ok (.fail "NewECPoint(bigGammaJ)" 2) := by decide +kernel

/-- the hypotheses of `sg5_single_deviator_affine_identity` / `sg5_deviator_blamed_exactly` hold for three
peers with the deviator `2` in the middle, whatever it sends -/
theorem honest5 (md : R4Peer) (hd : md.idx = 2) :
    ∀ p ∈ [g5 1 3 4, md, g5 3 7 8], p.idx ≠ 2 → ∃ g, r5Peer E Hone cur [] p = .ok (.pass g) :=
  forall_mem_three (fun p : R4Peer => p.idx) hd ⟨(3, 0), by decide +kernel⟩ ⟨(7, 0), by decide +kernel⟩

example (md : R4Peer) (hd : md.idx = 2) (why : String) (c : Nat)
    (h : round5 E Hone cur [] (2, 0) [g5 1 3 4, md, g5 3 7 8] = .ok (.fail why c)) : c = 2 :=
  sg5_single_deviator_affine_identity E Hone cur [] (zmodCurve_lawful 23) (by decide +kernel) (2, 0) (by decide +kernel) _ 2
    (honest5 md hd) why c h

/-- `sg5_no_panic`'s hypotheses on the toy curve (`hcof` is vacuous: the identity has affine coordinates) -/
example : E.Lawful ∧ (E.toAffine E.zero = none → ∀ q, E.smul E.q q = E.zero) :=
  ⟨zmodCurve_lawful 23, fun h => absurd h (by decide +kernel)⟩

/-- the hypothesis "non-empty de-commitment" is needed in the model: `DeCommit` of an empty list compares a nil
hash (`ValidateBasic` rejects such a message before it is stored) -/
theorem sg5_empty_decommitment_panics_witness :
    round5 E Hone cur [] (2, 0) [⟨1, 1, [], (4, 0), 7⟩] = .panic "nil-hash-cmp" := by decide +kernel

/-- **`hadd` is needed in the model** (curve whose identity has no affine form, like secp256k1): both peers send
well-formed messages that pass their own checks, but peer 1 chose `Γ_1 = 18·G` so that `Γ_own + Γ_1 + Γ_2` is
the identity — `R.Add(bigGammaJ)` fails at peer 2 and names peer 2. (In the protocol the `Γ_j` are committed in
round 1 before any is opened, so peer 1 cannot aim at this; the model has no such restriction.) -/
theorem sg5_hadd_needed_witness :
    r5Peer (zmodCurveW 23) Hone cur [] (g5 1 18 4) = .ok (.pass (18, 0)) ∧
    r5Peer (zmodCurveW 23) Hone cur [] (g5 2 3 4) = .ok (.pass (3, 0)) ∧
    round5 (zmodCurveW 23) Hone cur [] (2, 0) [g5 1 18 4, g5 2 3 4] = .ok (.fail "R.Add(bigGammaJ)" 2) := by
  decide

/-- honest round-6 record of peer `idx` against `R = 2·G`: `V = v·G`, `A = x·G`, commitment `1` opened by
`[blind, v, 0, x, 0]`; Schnorr proof for `A` with coin `a`; Schnorr-V proof `alpha = al·G`, `t·2 + u = al + 1·v` -/
def g7 (idx v x a al t u : Nat) : R6Peer := ⟨idx, 1, [9, v, 0, x, 0], (a, 0), (a + x) % 23, (al, 0), t, u⟩

example : r7Peer E Hone cur [] (2, 0) (g7 1 5 3 4 6 3 5) = .ok (.pass ((5, 0), (3, 0))) := by decide +kernel

example : round7 E Hone cur [] (2, 0) [g7 1 5 3 4 6 3 5, g7 2 7 4 5 6 4 5] =
    .ok (.pass [((5, 0), (3, 0)), ((7, 0), (4, 0))]) := by decide +kernel

/-- a wrong `u` in the Schnorr-V proof, a wrong `t` in the Schnorr proof, a commitment that does not open -/
example : round7 E Hone cur [] (2, 0) [g7 1 5 3 4 6 3 5, g7 2 7 4 5 6 4 6, g7 3 5 3 4 6 3 5] =
    .ok (.fail "vverify for Vj failed" 2) := by decide +kernel
example : round7 E Hone cur [] (2, 0) [g7 1 5 3 4 6 3 5, ⟨2, 1, [9, 7, 0, 4, 0], (5, 0), 10, (6, 0), 4, 5⟩] =
    .ok (.fail "schnorr verify for Aj failed" 2) := by decide +kernel
example : round7 E Hone cur [] (2, 0) [⟨1, 0, [9, 7, 0, 4, 0], (5, 0), 9, (6, 0), 4, 5⟩, g7 2 7 4 5 6 4 5] =
    .ok (.fail "de-commitment for bigVj and bigAj failed" 1) := by decide +kernel

theorem honest7 (md : R6Peer) (hd : md.idx = 2) :
    ∀ p ∈ [g7 1 5 3 4 6 3 5, md, g7 3 5 3 4 6 3 5], p.idx ≠ 2 →
      ∃ va, r7Peer E Hone cur [] (2, 0) p = .ok (.pass va) :=
  forall_mem_three (fun p : R6Peer => p.idx) hd ⟨((5, 0), (3, 0)), by decide +kernel⟩ ⟨((5, 0), (3, 0)), by decide +kernel⟩

example (md : R6Peer) (hd : md.idx = 2) (why : String) (c : Nat)
    (h : round7 E Hone cur [] (2, 0) [g7 1 5 3 4 6 3 5, md, g7 3 5 3 4 6 3 5] = .ok (.fail why c)) : c = 2 :=
  sg7_single_deviator E Hone cur [] (2, 0) _ 2 (honest7 md hd) why c h

example : round7 E Hone cur [] (2, 0) [g7 1 5 3 4 6 3 5, g7 2 7 4 5 6 4 6, g7 3 5 3 4 6 3 5] =
    .ok (.fail "vverify for Vj failed" 2) :=
  sg7_deviator_blamed_exactly E Hone cur [] (2, 0) _ (g7 2 7 4 5 6 4 6) (by decide +kernel) (by simp)
    (honest7 _ rfl) _ 2 (by decide +kernel)

theorem sg7_empty_decommitment_panics_witness :
    round7 E Hone cur [] (2, 0) [⟨1, 1, [], (4, 0), 7, (6, 0), 3, 5⟩] = .panic "nil-hash-cmp" := by decide +kernel

/-! ### rounds 2 and 3: Paillier `N = 35 = 5·7`, ring-Pedersen `Ñ = 77`, `h1 = 2`, `h2 = 4`, `q = 23`; the proofs
are outputs of the model's provers (`rangeProve`, `bobProve`) -/

/-- the party's own ring-Pedersen parameters -/
def ownRP : Mta.RP := ⟨77, 2, 4⟩
/-- … and its Paillier key (`λ = lcm(4, 6) = 12`) -/
def ownSk : Paillier.PrivateKey := ⟨35, 12, 24, 5, 7⟩

/-- honest round-1 record: ciphertext `683` of `3` under `N_A = 35` with an accepted range proof -/
def g2 (idx : Nat) : R1Peer := ⟨idx, 35, 683, [[43], [3, 189], [23], [26], [45], [35]]⟩

example : r2Peer E H5 cur ownRP (g2 1) = .ok true := by decide +kernel

example : round2 E H5 cur ownRP [g2 1, g2 2] = .ok [] := by decide +kernel

/-- an altered proof (`s2`: 35 → 36), a ciphertext out of range, a proof with five parts -/
example : round2 E H5 cur ownRP [g2 1, ⟨2, 35, 683, [[43], [3, 189], [23], [26], [45], [36]]⟩, g2 3] = .ok [2] := by
  decide +kernel
example : round2 E H5 cur ownRP [g2 1, ⟨2, 35, 683 + 1225, [[43], [3, 189], [23], [26], [45], [35]]⟩, g2 3] =
    .ok [2] := by decide +kernel
example : round2 E H5 cur ownRP [g2 1, ⟨2, 35, 683, [[43], [3, 189], [23], [26], [45]]⟩, ⟨3, 35, 683, []⟩] =
    .ok [2, 3] := by decide +kernel

theorem honest2 (md : R1Peer) (hd : md.idx = 2) :
    ∀ p ∈ [g2 1, md, g2 3], p.idx ≠ 2 → r2Peer E H5 cur ownRP p = .ok true :=
  forall_mem_three (fun p : R1Peer => p.idx) hd (by decide +kernel) (by decide +kernel)

/-- the ten numbers of Bob's proof for the secret `3` -/
def bobParts10 : List Bytes := [[8], [2], [50], [4, 0], [60], [29], [40], [183], [75], [187]]
/-- honest round-2 record: the party's ciphertext `683` (of `3`), the peer's responses `886` (of `3·3 + 7`) with
Bob's proofs, public point `W = 3·G`, `U = 2·G` -/
def g3 (idx : Nat) : R2Peer := ⟨idx, 683, 886, bobParts10, 886, bobParts10 ++ [[2], [0]], (3, 0)⟩

example : r3Peer E H5 cur [] ownSk ownRP (g3 1) = .ok (some (16, 16)) := by decide +kernel

example : round3 E H5 cur [] ownSk ownRP [g3 1, g3 2] = .ok ⟨[], [(16, 16), (16, 16)]⟩ := by decide +kernel

/-- a response proved for another public point (`W = 4·G` held by the party), an altered response ciphertext,
a `proofBob` with nine parts: exactly the deviator is named, and no shares are returned -/
example : round3 E H5 cur [] ownSk ownRP
    [g3 1, ⟨2, 683, 886, bobParts10, 886, bobParts10 ++ [[2], [0]], (4, 0)⟩, g3 3] = .ok ⟨[2], []⟩ := by
  decide +kernel
example : round3 E H5 cur [] ownSk ownRP
    [g3 1, ⟨2, 683, 887, bobParts10, 886, bobParts10 ++ [[2], [0]], (3, 0)⟩, g3 3] = .ok ⟨[2], []⟩ := by
  decide +kernel
example : round3 E H5 cur [] ownSk ownRP
    [g3 1, ⟨2, 683, 886, bobParts10.drop 1, 886, bobParts10 ++ [[2], [0]], (3, 0)⟩, g3 3] = .ok ⟨[2], []⟩ := by
  decide +kernel

theorem honest3 (md : R2Peer) (hd : md.idx = 2) :
    ∀ p ∈ [g3 1, md, g3 3], p.idx ≠ 2 → ∃ s, r3Peer E H5 cur [] ownSk ownRP p = .ok (some s) :=
  forall_mem_three (fun p : R2Peer => p.idx) hd ⟨(16, 16), by decide +kernel⟩ ⟨(16, 16), by decide +kernel⟩

/-- so, whatever party 2 sends, a returned culprit list names nobody else (`sg2_single_deviator`,
`sg3_single_deviator`) -/
example (md : R1Peer) (hd : md.idx = 2) (cs : List Nat)
    (h : round2 E H5 cur ownRP [g2 1, md, g2 3] = .ok cs) : ∀ c ∈ cs, c = 2 :=
  (sg2_single_deviator E H5 cur ownRP _ 2 (honest2 md hd)).1 cs h
example (md : R2Peer) (hd : md.idx = 2) (r : R3Result)
    (h : round3 E H5 cur [] ownSk ownRP [g3 1, md, g3 3] = .ok r) : ∀ c ∈ r.culprits, c = 2 :=
  (sg3_single_deviator E H5 cur [] ownSk ownRP _ 2 (honest3 md hd)).1 r h

/-- the hypotheses of `sg3_no_panic` / `sg3_returns`: the toy key is sound, the lists have twelve parts -/
example : (modInverse (Paillier.L (modPow (Paillier.gamma ownSk.n) ownSk.lambdaN (Paillier.nSquare ownSk.n))
    ownSk.n) ownSk.n).isSome = true := by decide +kernel
example : ∀ p ∈ [g3 1, g3 2], p.proofBobWC.length = bobWCParts := by decide +kernel

/-- the hypotheses of `sg3_wrong_point_blamed` hold for the record with `W = 4·G`: `17·G ≠ 5·(4·G) + 2·G` -/
example (v : Option (Nat × Nat))
    (hv : r3Peer E H5 cur [] ownSk ownRP ⟨2, 683, 886, bobParts10, 886, bobParts10 ++ [[2], [0]], (4, 0)⟩ = .ok v) :
    v = none :=
  sg3_wrong_point_blamed E H5 [] ownSk ownRP (zmodCurve_lawful 23) _ ⟨8, 2, 50, 1024, 60, 29, 40, 183, 75, 187⟩
    (2, 0) (by decide +kernel) (by decide +kernel) v hv

end examples

end TssVerif.C05d
