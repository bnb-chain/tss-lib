import TssVerif.Lemmas.C01W
/-! # C01b — the public weighted points `bigWs[j]` of `PrepareForSigning`

Model: `Sign.bigW` / `Sign.bigWs` (`ecdsa/signing/prepare.go`: `bigWj = bigXj`, then for every other signer
`c`: `iota = ks[c]·(ks[c] − ks[j])⁻¹ mod q`, `bigWj = bigWj.ScalarMult(iota)`), `Sign.weight` (the private
`w_i` of the same function), `Curve.ecScalarMult` (panics when the product has no affine form).

* W1 `bigW_eq_weight_smul` (+ `_affine`, `_baseMult`): what `bigW` returns for `X_j = x_j·G` is `w_j·G`, `w_j` the
  private weight — no hypothesis on the ids is needed for this direction (both results are given).
  Totality: `bigW_never_errors`, `bigW_returns_of_identity_affine` (curves that represent the identity:
  always), `bigW_returns_of_ids_ne_zero`, and on curves that do NOT represent the identity the exact panic
  condition `bigW_panic_iff` (another signer's id `≡ 0 mod q`), with the prefix-product form `bigW_panic_prefix`.
* W2 `bigW_never_inverse_failure`: ids pairwise distinct modulo the prime `q`: every `coef` exists, `weight`
  returns, `bigW` does not take the `"nil-mod-inverse"` branch; `bigW_collision_not_ok` for the converse.
* W3 `bigWs_sum_is_public_key` (+ `bigWs_each_is_weight_smul`, `bigWs_returns`): the returned points add up to
  `x·G`.
* W4 `bigW_sign_slip_witness…`: the sign-slipped factor `ks[c]·(ks[j] − ks[c])⁻¹` negates the point for an even
  number of signers and is invisible for an odd number. -/
set_option autoImplicit false
set_option linter.style.haveILetI false
namespace TssVerif.C01b
open TssVerif Sign C01W

section general
variable {P : Type} {C : Curve P}

/-! ## W1 — the public weight is the private weight times the generator -/

/-- **`bigWs[j] = w_j·G`.** Lawful curve, `X_j = x·G` (as a lifted point), the private weight `w` of signer
`j` for the share `x`, and `bigW` returned `W`: then `W` is (the affine form of) `w·G`.
The ids need NOT be assumed distinct for this direction (a returned `w`/`W` certifies that every inverse
existed); `j < ks.length` is not needed either. See `bigW_eq_weight_smul_baseMult` for the form with the
hypotheses `ids pairwise distinct modulo q`, `j < ks.length`, `ecBaseMult x = .ok X_j`. -/
theorem bigW_eq_weight_smul (hC : C.Lawful) (ks : List ℕ) (j x w : ℕ) (xj W : ECPoint)
    (hx : C.lift xj = some (C.smul x C.base)) (hw : weight C.q ks j x = some w)
    (hW : bigW C ks j xj = .ok W) : C.lift W = some (C.smul w C.base) := by
  rcases bfold_spec hC ks j _ xj x w hx hw with ⟨W', h1, h2⟩ | ⟨h1, _⟩
  · rw [bigW_eq_fold, h1] at hW
    cases hW
    exact h2
  · rw [bigW_eq_fold, h1] at hW
    cases hW

/-- the same, affine view: `W` is the pair of coordinates of `w·G` -/
theorem bigW_eq_weight_smul_affine (hC : C.Lawful) (ks : List ℕ) (j x w : ℕ) (xj W : ECPoint)
    (hx : C.lift xj = some (C.smul x C.base)) (hw : weight C.q ks j x = some w)
    (hW : bigW C ks j xj = .ok W) : C.toAffine (C.smul w C.base) = some W :=
  hC.toAffine_of_lift (bigW_eq_weight_smul hC ks j x w xj W hx hw hW)

/-- Go view: ids pairwise distinct modulo `q`, `X_j = ScalarBaseMult(x)`; if `bigW` returns `W` then the
private weight `w` exists and `W = ScalarBaseMult(w)`. -/
theorem bigW_eq_weight_smul_baseMult (hC : C.Lawful) (ks : List ℕ) (hnd : (ks.map (· % C.q)).Nodup)
    (j : ℕ) (hj : j < ks.length) (x : ℕ) (xj W : ECPoint)
    (hx : C.ecBaseMult (x : Int) = .ok xj) (hW : bigW C ks j xj = .ok W) :
    ∃ w, weight C.q ks j x = some w ∧ C.lift W = some (C.smul w C.base) ∧
      C.ecBaseMult (w : Int) = .ok W := by
  haveI : Fact C.q.Prime := ⟨hC.q_prime⟩
  obtain ⟨w, hw⟩ := AlgL.weight_isSome_of_nodup ks hnd hj x
  have hl := bigW_eq_weight_smul hC ks j x w xj W (Vss.lift_of_ecBaseMult hC hx) hw hW
  exact ⟨w, hw, hl, Vss.ecBaseMult_some C (hC.toAffine_of_lift hl)⟩

/-- `bigW` never reports an error on a starting point of the curve (any point, any ids) -/
theorem bigW_never_errors (hC : C.Lawful) (ks : List ℕ) (j : ℕ) (xj : ECPoint) (p : P)
    (hx : C.lift xj = some p) (e : String) : bigW C ks j xj ≠ .err e :=
  bfold_ne_err hC ks j _ xj p e hx

/-- the three outcomes: `bigW` returns `w_j·G`, or it panics with `"scalar-mult-identity"` — never an error,
never another panic -/
theorem bigW_outcomes (hC : C.Lawful) (ks : List ℕ) (hnd : (ks.map (· % C.q)).Nodup) (j : ℕ)
    (hj : j < ks.length) (x : ℕ) (xj : ECPoint) (hx : C.lift xj = some (C.smul x C.base)) :
    (∃ W w, bigW C ks j xj = .ok W ∧ weight C.q ks j x = some w ∧
      C.lift W = some (C.smul w C.base)) ∨
    (bigW C ks j xj = .panic "scalar-mult-identity" ∧
      ∃ m p, 1 ≤ m ∧ m ≤ ks.length ∧ weightPrefix C.q ks j m x = some p ∧
        C.toAffine (C.smul p C.base) = none) := by
  haveI : Fact C.q.Prime := ⟨hC.q_prime⟩
  obtain ⟨w, hw⟩ := AlgL.weight_isSome_of_nodup ks hnd hj x
  rcases bfold_spec hC ks j _ xj x w hx hw with ⟨W, h1, h2⟩ | ⟨h1, m, p, hm1, hm2, h2, h3⟩
  · exact Or.inl ⟨W, w, h1, hw, h2⟩
  · rw [List.length_range] at hm2
    rw [List.take_range, Nat.min_eq_left hm2] at h2
    exact Or.inr ⟨h1, m, p, hm1, hm2, h2, h3⟩

/-- **totality on curves that represent their identity** (edwards25519-like): `bigW` returns, and what it
returns is `w_j·G` -/
theorem bigW_returns_of_identity_affine (hC : C.Lawful) (hz : C.toAffine C.zero ≠ none) (ks : List ℕ)
    (hnd : (ks.map (· % C.q)).Nodup) (j : ℕ) (hj : j < ks.length) (x : ℕ) (xj : ECPoint)
    (hx : C.lift xj = some (C.smul x C.base)) :
    ∃ W w, bigW C ks j xj = .ok W ∧ weight C.q ks j x = some w ∧ C.lift W = some (C.smul w C.base) := by
  rcases bigW_outcomes hC ks hnd j hj x xj hx with h | ⟨_, m, p, _, _, _, h3⟩
  · exact h
  · exact absurd ((hC.toAffine_eq_none_iff _).1 h3).2 hz

/-- **totality on every lawful curve**: `x ≢ 0` and no other signer's id `≡ 0 (mod q)` -/
theorem bigW_returns_of_ids_ne_zero (hC : C.Lawful) (ks : List ℕ) (hnd : (ks.map (· % C.q)).Nodup)
    (j : ℕ) (hj : j < ks.length) (x : ℕ) (xj : ECPoint) (hx : C.lift xj = some (C.smul x C.base))
    (hx0 : x % C.q ≠ 0) (hids : ∀ c, c < ks.length → c ≠ j → ks.getD c 0 % C.q ≠ 0) :
    ∃ W w, bigW C ks j xj = .ok W ∧ weight C.q ks j x = some w ∧ C.lift W = some (C.smul w C.base) := by
  haveI : Fact C.q.Prime := ⟨hC.q_prime⟩
  rcases bigW_outcomes hC ks hnd j hj x xj hx with h | ⟨_, m, p, _, hm2, h2, h3⟩
  · exact h
  · -- a prefix product `≡ 0` needs `x ≡ 0` or an id `≡ 0`
    rcases (AlgL.wfold_mod_eq_zero_iff ks j _ x p h2).1
      ((Vss.toAffine_smul_base_eq_none_iff hC p).1 h3).1 with h0 | ⟨c, hc, hcj, h0⟩
    · exact absurd h0 hx0
    · exact absurd h0 (hids c (lt_of_lt_of_le (List.mem_range.1 hc) hm2) hcj)

/-- the panic in scalars: some prefix product `x·∏_{c<m, c≠j} coef` (`weightPrefix`, the `weight` loop cut
after `m` positions; `weightPrefix … ks.length = weight` by `rfl`) is `≡ 0`, on a curve that does not
represent its identity -/
theorem bigW_panic_prefix (hC : C.Lawful) (ks : List ℕ) (hnd : (ks.map (· % C.q)).Nodup) (j : ℕ)
    (hj : j < ks.length) (x : ℕ) (xj : ECPoint) (hx : C.lift xj = some (C.smul x C.base))
    (e : String) (h : bigW C ks j xj = .panic e) :
    e = "scalar-mult-identity" ∧ C.toAffine C.zero = none ∧
    ∃ m p, 1 ≤ m ∧ m ≤ ks.length ∧ weightPrefix C.q ks j m x = some p ∧ p % C.q = 0 := by
  rcases bigW_outcomes hC ks hnd j hj x xj hx with ⟨W, w, h1, _⟩ | ⟨h1, m, p, hm1, hm2, h2, h3⟩
  · rw [h1] at h
    cases h
  · rw [h1] at h
    cases h
    have := (Vss.toAffine_smul_base_eq_none_iff hC p).1 h3
    exact ⟨rfl, this.2, m, p, hm1, hm2, h2, this.1⟩

/-- **exact panic condition on curves that do not represent their identity** (secp256k1-like): `bigW`
crashes in `ScalarMult` iff another signer's id is `≡ 0 (mod q)` (`x ≢ 0` is automatic there: `X_j` is a
point with coordinates) -/
theorem bigW_panic_iff (hC : C.Lawful) (hz : C.toAffine C.zero = none) (ks : List ℕ)
    (hnd : (ks.map (· % C.q)).Nodup) (j : ℕ) (hj : j < ks.length) (x : ℕ) (xj : ECPoint)
    (hx : C.lift xj = some (C.smul x C.base)) :
    bigW C ks j xj = .panic "scalar-mult-identity" ↔
      ∃ c, c < ks.length ∧ c ≠ j ∧ ks.getD c 0 % C.q = 0 := by
  haveI : Fact C.q.Prime := ⟨hC.q_prime⟩
  constructor
  · intro hp
    by_contra hno
    obtain ⟨W, _, hW, _⟩ := bigW_returns_of_ids_ne_zero hC ks hnd j hj x xj hx
      (scalar_ne_zero_of_lift hC hz hx) (fun c hc hcj h0 => hno ⟨c, hc, hcj, h0⟩)
    rw [hW] at hp
    cases hp
  · rintro ⟨c, hc, hcj, hc0⟩
    rcases bigW_outcomes hC ks hnd j hj x xj hx with ⟨W, w, _, h2, h3⟩ | ⟨h1, _⟩
    · -- the weight would be `≡ 0`, and `0·G` has no coordinates
      exact absurd ((AlgL.wfold_mod_eq_zero_iff ks j _ x w h2).2 (Or.inr ⟨c, List.mem_range.2 hc, hcj, hc0⟩))
        (scalar_ne_zero_of_lift hC hz h3)
    · exact h1

/-- … and the exact condition in that form: on a curve that does not represent its identity `bigW` panics
iff `x` times the product of a prefix of the factors is `≡ 0 (mod q)` -/
theorem bigW_panic_iff_prefix (hC : C.Lawful) (hz : C.toAffine C.zero = none) (ks : List ℕ)
    (hnd : (ks.map (· % C.q)).Nodup) (j : ℕ) (hj : j < ks.length) (x : ℕ) (xj : ECPoint)
    (hx : C.lift xj = some (C.smul x C.base)) :
    bigW C ks j xj = .panic "scalar-mult-identity" ↔
      ∃ m p, m ≤ ks.length ∧ weightPrefix C.q ks j m x = some p ∧ p % C.q = 0 := by
  haveI : Fact C.q.Prime := ⟨hC.q_prime⟩
  constructor
  · intro hp
    obtain ⟨_, _, m, p, _, hm2, h2, h3⟩ := bigW_panic_prefix hC ks hnd j hj x xj hx _ hp
    exact ⟨m, p, hm2, h2, h3⟩
  · rintro ⟨m, p, hm2, h2, h3⟩
    rcases (AlgL.wfold_mod_eq_zero_iff ks j _ x p h2).1 h3 with h0 | ⟨c, hc, hcj, h0⟩
    · exact absurd h0 (scalar_ne_zero_of_lift hC hz hx)
    · exact (bigW_panic_iff hC hz ks hnd j hj x xj hx).2
        ⟨c, lt_of_lt_of_le (List.mem_range.1 hc) hm2, hcj, h0⟩

/-! ## W2 — no nil inverse on ids pairwise distinct modulo `q` -/

/-- **The `"nil-mod-inverse"` branch is not taken** (`q` prime, ids pairwise distinct modulo `q`; every
curve record, every starting point): each factor `coef` exists, `weight` returns, and `bigW` does not
panic with `"nil-mod-inverse"` — its only possible panic is the one of `ScalarMult`. -/
theorem bigW_never_inverse_failure (hq : C.q.Prime) (ks : List ℕ) (hnd : (ks.map (· % C.q)).Nodup)
    (j : ℕ) (hj : j < ks.length) :
    (∀ c, c < ks.length → c ≠ j → ∃ io, coef C.q (ks.getD j 0) (ks.getD c 0) = some io) ∧
    (∀ x, ∃ w, weight C.q ks j x = some w) ∧
    (∀ xj, bigW C ks j xj ≠ .panic "nil-mod-inverse") ∧
    (∀ xj e, bigW C ks j xj = .panic e → e = "scalar-mult-identity") := by
  haveI : Fact C.q.Prime := ⟨hq⟩
  refine ⟨fun c hc hcj => coef_isSome_of_nodup ks hnd hj hc hcj,
    fun x => AlgL.weight_isSome_of_nodup ks hnd hj x, fun xj h => ?_,
    fun xj e h => bigW_panic_tag hq ks hnd j hj xj e h⟩
  have := bigW_panic_tag hq ks hnd j hj xj _ h
  exact absurd this (by decide)

/-- conversely two ids congruent modulo `q` (possibly different integers): neither loop returns -/
theorem bigW_collision_not_ok (hq : C.q.Prime) (ks : List ℕ) (j c : ℕ) (hc : c < ks.length)
    (hcj : c ≠ j) (h : ks.getD c 0 % C.q = ks.getD j 0 % C.q) :
    (∀ x, weight C.q ks j x = none) ∧ (∀ xj W, bigW C ks j xj ≠ .ok W) := by
  haveI : Fact C.q.Prime := ⟨hq⟩
  exact ⟨fun x => AlgL.weight_none_of_collision ks j c x hc hcj
      ((ZMod.natCast_eq_natCast_iff' _ _ _).2 h),
    fun xj W hW => by
      have := (bfold_structure ks j _ xj).1 W hW c (List.mem_range.2 hc) hcj
      rw [AlgL.coef_none_of_eq ((ZMod.natCast_eq_natCast_iff' _ _ _).2 h)] at this
      cases this⟩

/-! ## W3 — the public weighted points add up to the public key -/

/-- position by position: `ws` has one point per signer and `ws[j] = w_j·G` -/
theorem bigWs_each_is_weight_smul (hC : C.Lawful) (ks : List ℕ) (xs ws : List ECPoint) (x : ℕ → ℕ)
    (hnd : (ks.map (· % C.q)).Nodup)
    (hxs : ∀ i, i < ks.length → ∃ X, xs[i]? = some X ∧ C.lift X = some (C.smul (x i) C.base))
    (hws : bigWs C ks xs = .ok ws) :
    ws.length = ks.length ∧ ∀ j, j < ks.length → ∃ W w, ws[j]? = some W ∧
      weight C.q ks j (x j) = some w ∧ C.lift W = some (C.smul w C.base) := by
  haveI : Fact C.q.Prime := ⟨hC.q_prime⟩
  obtain ⟨h1, h2⟩ := bigWs_getElem? ks xs ws hws
  refine ⟨h1, fun j hj => ?_⟩
  obtain ⟨X, W, hX, hW, hb⟩ := h2 j hj
  obtain ⟨X', hX', hl⟩ := hxs j hj
  rw [hX] at hX'
  cases hX'
  obtain ⟨w, hw⟩ := AlgL.weight_isSome_of_nodup ks hnd hj (x j)
  exact ⟨W, w, hW, hw, bigW_eq_weight_smul hC ks j (x j) w X W hl hw hb⟩

/-- **`Σ_j bigWs[j] = x·G`.** Lawful curve; the shares `x j` are the values at `ks[j]` of one polynomial `f`
over `ZMod q` of degree below the number of signers (the formulation of `C18.weights_sum_secret`), `secret`
a representative of `f(0)`; `xs[j] = (x j)·G`; `bigWs` returned `ws`. Then adding the `ws` in the group
(each one lifted to the curve) from the identity gives `secret·G`. -/
theorem bigWs_sum_is_public_key (hC : C.Lawful) (ks : List ℕ) (xs ws : List ECPoint) (x : ℕ → ℕ)
    (f : Polynomial (ZMod C.q)) (secret : ℕ)
    (hnd : (ks.map (· % C.q)).Nodup) (hdeg : f.degree < (ks.length : ℕ))
    (hval : ∀ i, i < ks.length → (x i : ZMod C.q) = f.eval (ks.getD i 0 : ZMod C.q))
    (hsec : (secret : ZMod C.q) = f.eval 0)
    (hxs : ∀ i, i < ks.length → ∃ X, xs[i]? = some X ∧ C.lift X = some (C.smul (x i) C.base))
    (hws : bigWs C ks xs = .ok ws) :
    ws.foldlM (fun a W => (C.lift W).map (C.add a)) C.zero = some (C.smul secret C.base) := by
  haveI : Fact C.q.Prime := ⟨hC.q_prime⟩
  obtain ⟨hlen, hall⟩ := bigWs_each_is_weight_smul hC ks xs ws x hnd hxs hws
  -- name the private weights
  obtain ⟨wv, hwv⟩ : ∃ wv : ℕ → ℕ, ∀ i < ks.length, weight C.q ks i (x i) = some (wv i) :=
    ⟨fun i => (weight C.q ks i (x i)).getD 0, fun i hi => by
      obtain ⟨w, hw⟩ := AlgL.weight_isSome_of_nodup ks hnd hi (x i)
      simp only [hw, Option.getD_some]⟩
  have hfold := foldlM_lift_add hC ws wv 0 fun j hj => by
    obtain ⟨W, w, hW, hw, hl⟩ := hall j (hlen ▸ hj)
    rw [hwv j (hlen ▸ hj)] at hw
    cases hw
    exact ⟨W, hW, hl⟩
  rw [Curve.smul_zero_left] at hfold
  rw [hfold, Nat.zero_add, hlen]
  congr 1
  rw [hC.smul_base_eq_iff_cast, hsec,
    ← AlgL.sum_weights ks x wv f hdeg (AlgL.injOn_of_nodup ks hnd) hval hwv, Nat.cast_sum]

/-- `bigWs` returns when the curve represents its identity, or when no share and no id is `≡ 0` -/
theorem bigWs_returns (hC : C.Lawful) (ks : List ℕ) (xs : List ECPoint) (x : ℕ → ℕ)
    (hnd : (ks.map (· % C.q)).Nodup)
    (hxs : ∀ i, i < ks.length → ∃ X, xs[i]? = some X ∧ C.lift X = some (C.smul (x i) C.base))
    (h : C.toAffine C.zero ≠ none ∨
      ((∀ i, i < ks.length → x i % C.q ≠ 0) ∧ ∀ c, c < ks.length → ks.getD c 0 % C.q ≠ 0)) :
    ∃ ws, bigWs C ks xs = .ok ws := by
  refine bigWs_ok_of_forall ks xs fun j hj => ?_
  obtain ⟨X, hX, hl⟩ := hxs j hj
  rcases h with hz | ⟨h1, h2⟩
  · obtain ⟨W, _, hW, _⟩ := bigW_returns_of_identity_affine hC hz ks hnd j hj (x j) X hl
    exact ⟨X, W, hX, hW⟩
  · obtain ⟨W, _, hW, _⟩ := bigW_returns_of_ids_ne_zero hC ks hnd j hj (x j) X hl (h1 j hj)
      (fun c hc _ => h2 c hc)
    exact ⟨X, W, hX, hW⟩

end general

/-! ## W4 — the sign slip -/

/-- the sign-slipped factor `k_c·(k_j − k_c)⁻¹` (the correct one is `coef q k_j k_c = k_c·(k_c − k_j)⁻¹`) -/
def coefSlip (q kj kc : ℕ) : Option ℕ :=
  (modInverse ((kj : Int) - (kc : Int)) q).map fun inv => kc * inv % q

/-- `bigW` with the slipped factor -/
def bigWSlip {P : Type} (C : Curve P) (ks : List ℕ) (j : ℕ) (xj : ECPoint) : Outcome ECPoint :=
  (List.range ks.length).foldlM (fun w c =>
    if c = j then .ok w else
      match coefSlip C.q (ks.getD j 0) (ks.getD c 0) with
      | some io => C.ecScalarMult w io
      | none => .panic "nil-mod-inverse") xj

section toy
local instance : Fact (Nat.Prime 23) := ⟨by decide⟩
/-- toy curve with an affine identity -/
abbrev E := zmodCurve 23
/-- toy curve without affine identity -/
abbrev Ew := zmodCurveW 23

/-- **2 signers (even): the slipped product is the NEGATED point.** ids `1, 2`, signer `0`, share `5`:
weight `10`, `bigW = 10·G`, slipped `13·G = −10·G ≠ 10·G`; so W1 fails for the slipped variant. -/
theorem bigW_sign_slip_witness :
    weight 23 [1, 2] 0 5 = some 10 ∧
    bigW E [1, 2] 0 (5, 0) = .ok (10, 0) ∧ E.lift (10, 0) = some (E.smul 10 E.base) ∧
    bigWSlip E [1, 2] 0 (5, 0) = .ok (13, 0) ∧
    E.lift (13, 0) = some (E.neg (E.smul 10 E.base)) ∧
    E.lift (13, 0) ≠ some (E.smul 10 E.base) := by
  decide

/-- 4 signers (even), ids `1, 2, 3, 4`: negated again (`3 = −20 mod 23`), for the signers at positions 0 and 2 -/
theorem bigW_sign_slip_witness_four :
    weight 23 [1, 2, 3, 4] 0 5 = some 20 ∧ bigW E [1, 2, 3, 4] 0 (5, 0) = .ok (20, 0) ∧
    bigWSlip E [1, 2, 3, 4] 0 (5, 0) = .ok (3, 0) ∧
    E.lift (3, 0) = some (E.neg (E.smul 20 E.base)) ∧ E.lift (3, 0) ≠ some (E.smul 20 E.base) ∧
    bigW E [1, 2, 3, 4] 2 (5, 0) = .ok (20, 0) ∧ bigWSlip E [1, 2, 3, 4] 2 (5, 0) = .ok (3, 0) := by
  decide +kernel

/-- 2 signers, EVERY point of the toy curve, both signers: slipped `= (q − 1)·bigW = −bigW` … -/
theorem bigW_sign_slip_even_all :
    ∀ j < 2, ∀ a < 23, bigWSlip E [1, 2] j (a, 0) = (bigW E [1, 2] j (a, 0) >>= fun W => E.ecScalarMult W 22) := by
  decide +kernel

/-- … where multiplying by `q − 1 = 22` is negation, which moves every point but the identity -/
theorem toy_neg :
    ∀ a < 23, E.ecScalarMult (a, 0) 22 = .ok ((23 - a) % 23, 0) ∧
      E.lift ((23 - a) % 23, 0) = (E.lift (a, 0)).map E.neg ∧ (a ≠ 0 → (23 - a) % 23 ≠ a) := by
  decide +kernel

/-- **3 signers (odd): the slip is invisible** — for every signer and every point the slipped product
coincides with `bigW` -/
theorem bigW_sign_slip_odd_coincides :
    ∀ j < 3, ∀ a < 23, bigWSlip E [1, 2, 3] j (a, 0) = bigW E [1, 2, 3] j (a, 0) := by
  decide +kernel

/-! ## the hypotheses are satisfiable (3 signers, `f = 4 + 5X`, ids `1, 2, 3`, shares `9, 14, 19`) -/

example : E.Lawful := zmodCurve_lawful 23
example : Ew.Lawful ∧ Ew.toAffine Ew.zero = none := ⟨zmodCurveW_lawful 23, by decide⟩

/-- W1 with all hypotheses discharged by evaluation; the conclusion agrees with the run -/
example : E.lift (4, 0) = some (E.smul 4 E.base) :=
  bigW_eq_weight_smul (C := E) (zmodCurve_lawful 23) [1, 2, 3] 1 14 4 (14, 0) (4, 0)
    (by decide) (by decide) (by decide)
example : ∃ w, weight E.q [1, 2, 3] 1 14 = some w ∧ E.lift (4, 0) = some (E.smul w E.base) ∧
    E.ecBaseMult (w : Int) = .ok (4, 0) :=
  bigW_eq_weight_smul_baseMult (C := E) (zmodCurve_lawful 23) [1, 2, 3] (by decide) 1 (by decide) 14
    (14, 0) (4, 0) (by decide) (by decide)

/-- W3: the run, and the theorem applied to it -/
example : bigWs E [1, 2, 3] [(9, 0), (14, 0), (19, 0)] = .ok [(4, 0), (4, 0), (19, 0)] := by decide +kernel
example : ([(4, 0), (4, 0), (19, 0)] : List ECPoint).foldlM (fun a W => (E.lift W).map (E.add a)) E.zero
    = some (E.smul 4 E.base) := by
  have hdeg : (Vss.polyZ 23 [4, 5]).degree < (([1, 2, 3] : List ℕ).length : ℕ) :=
    lt_of_lt_of_le (Vss.polyZ_degree_lt _) (by norm_num)
  have hval : ∀ i, i < ([1, 2, 3] : List ℕ).length →
      ((([9, 14, 19] : List ℕ).getD i 0 : ℕ) : ZMod 23) =
        (Vss.polyZ 23 [4, 5]).eval ((([1, 2, 3] : List ℕ).getD i 0 : ℕ) : ZMod 23) := by
    intro i hi
    have hi' : i < 3 := hi
    rw [Vss.polyZ_eval_natCast]
    interval_cases i <;> rfl
  have hsec : ((4 : ℕ) : ZMod 23) = (Vss.polyZ 23 [4, 5]).eval 0 := by
    have := Vss.polyZ_eval_natCast (q := 23) [4, 5] 0
    rw [Nat.cast_zero] at this
    rw [this]; rfl
  exact bigWs_sum_is_public_key (C := E) (zmodCurve_lawful 23) [1, 2, 3] [(9, 0), (14, 0), (19, 0)]
    [(4, 0), (4, 0), (19, 0)] (fun i => [9, 14, 19].getD i 0) (Vss.polyZ 23 [4, 5]) 4
    (by decide) hdeg hval hsec
    (by
      intro i hi
      have hi' : i < 3 := hi
      interval_cases i
      · exact ⟨(9, 0), rfl, by decide⟩
      · exact ⟨(14, 0), rfl, by decide⟩
      · exact ⟨(19, 0), rfl, by decide⟩)
    (by decide +kernel)
example : ([(4, 0), (4, 0), (19, 0)] : List ECPoint).foldlM (fun a W => (E.lift W).map (E.add a)) E.zero
    = some (E.smul 4 E.base) := by decide

/-- the panic of W1's totality part is real: id `23 ≡ 0` on the curve without affine identity; the same
ids on the curve with one return the identity; ids `1, 24` collide modulo `23` -/
example : bigW Ew [1, 23] 0 (5, 0) = .panic "scalar-mult-identity" :=
  (bigW_panic_iff (C := Ew) (zmodCurveW_lawful 23) (by decide) [1, 23] (by decide) 0 (by decide) 5 (5, 0)
    (by decide)).2 ⟨1, by decide, by decide, by decide⟩
example : bigW Ew [1, 23] 0 (5, 0) = .panic "scalar-mult-identity" ∧ bigW E [1, 23] 0 (5, 0) = .ok (0, 0) ∧
    bigW Ew [1, 23] 1 (5, 0) = .ok (5, 0) ∧ bigW E [1, 24] 0 (5, 0) = .panic "nil-mod-inverse" := by
  decide +kernel
example : ∀ xj W, bigW E [1, 24] 0 xj ≠ .ok W :=
  (bigW_collision_not_ok (C := E) (by decide) [1, 24] 0 1 (by decide) (by decide) (by decide)).2
example : ∀ xj, bigW E [1, 2, 3] 1 xj ≠ .panic "nil-mod-inverse" :=
  (bigW_never_inverse_failure (C := E) (by decide) [1, 2, 3] (by decide) 1 (by decide)).2.2.1

end toy

end TssVerif.C01b
