import TssVerif.Lemmas.C06
import TssVerif.Props.C14
import TssVerif.Props.C16
/-! # C06 — no exported verifier or decoder can be crashed by its input

"Whatever bytes, message type, field values or sender index a party is handed, the call returns and the
process keeps running: no panic … The same holds for every exported proof verifier and decoder given
arbitrary (non-nil) numbers and points."

Every theorem below is about the CURRENT tree (`Zk.cur`, `Ops16.curParse`, `curVss`, `boundedXs := true`)
and has the shape `f … ≠ .panic tag`, for every hash function `H` and every value of every field; there
is no bound on any integer. Hypotheses, all of them:

* curve-dependent verifiers: `C.Lawful`, and `hcof` (on a curve whose identity has no affine form, every
  point is killed by `q`: cofactor 1, as on secp256k1; vacuous on edwards25519). `hcof` is needed:
  `schnorrVerify_cofactor_needed_witness`. No on-curve hypothesis is needed (an off-curve operand makes
  the model's `ScalarMult` report an error, not crash).
* `facVerify`: `w1, w2, sigma, v` non-negative (they are, coming from `SetBytes`) OR `t` a unit mod `NCap`.
  Needed: `facVerify_negative_exponent_panics_witness`.
* `dlnVerify`: the `t_i` non-negative (wire) OR `h1` a unit mod `N`. Needed:
  `dlnVerify_negative_exponent_panics_witness`.
* `paillierProofVerify`: the proof has `ProofIters` entries (in Go it is an array type
  `[ProofIters]*big.Int`); `paillierProofVerify_panic_iff` is the exact crash condition of the model.
* `aliceEnd`: the key's `L(γ^λ mod n²)` is invertible mod `n` (a property of Alice's OWN key).
* `commitVerify`: the decommitment is not empty.
`rangeVerify`, `bobVerify` (no point check), `modVerify`, `dlnUnmarshal`, the parser need nothing.

The second half reproduces the pre-fix crashes (`Zk.old`) on toy inputs by kernel evaluation, each next
to the verdict the current tree gives on the same input. -/
set_option autoImplicit false
namespace TssVerif.C06
open TssVerif Zk C06L
open _root_.TssVerif.OpsCrypto (curVss curPaiProof)

variable {P : Type} {C : Curve P}

/-! ## 1. Alice's range proof (K3) -/

/-- `c` a unit mod `N²` and `z` a unit mod `Ñ` (both checked) make the two negative exponents harmless;
`N > 0`, `Ñ > 0`, `s1, s2 ≥ q ≥ 0` follow from the interval checks. No hypothesis. -/
theorem rangeVerify_no_panic (H : HashFn) (q : Nat) (n ntilde h1 h2 c : Int) (pf : RangeProof) (tag : String) :
    rangeVerify cur H q n ntilde h1 h2 c pf ≠ .panic tag :=
  rangeVerify_noPanic H q n ntilde h1 h2 c pf tag

/-! ## 2. Schnorr proofs (K1) -/

/-- `t ≢ 0 (mod q)` and `c ≠ 0` are checked, so neither `ScalarBaseMult(t)` nor `X.ScalarMult(c)` reaches
the identity. `X`, `alpha` arbitrary pairs of naturals. -/
theorem schnorrVerify_no_panic (hC : C.Lawful)
    (hcof : C.toAffine C.zero = none → ∀ p, C.smul C.q p = C.zero)
    (H : HashFn) (sess : Bytes) (X alpha : ECPoint) (t : Nat) (tag : String) :
    schnorrVerify C H cur sess X alpha t ≠ .panic tag :=
  schnorrVerify_noPanic hC hcof H sess X alpha t tag

theorem schnorrVVerify_no_panic (hC : C.Lawful)
    (hcof : C.toAffine C.zero = none → ∀ p, C.smul C.q p = C.zero)
    (H : HashFn) (sess : Bytes) (V R alpha : ECPoint) (t u : Nat) (tag : String) :
    schnorrVVerify C H cur sess V R alpha t u ≠ .panic tag :=
  schnorrVVerify_noPanic hC hcof H sess V R alpha t u tag

/-- `hcof` cannot be dropped: on a lawful curve with cofactor 2 whose identity has no affine form, the
on-curve point of order 2 and an even challenge crash the CURRENT verifier. (Neither secp256k1 — cofactor
1 — nor edwards25519 — affine identity — is such a curve.) -/
theorem schnorrVerify_cofactor_needed_witness :
    zmod6W.Lawful ∧ zmod6W.ecIsOnCurve (3, 0) = true ∧
    schnorrVerify zmod6W (fun _ => [2]) cur [] (3, 0) (2, 0) 1 = .panic "scalar-mult-identity" :=
  ⟨zmod6W_lawful, by decide, by decide⟩

/-! ## 3. Bob's proofs (K5) -/

/-- both variants; the point check (`xu = some (X, U)`) needs the curve hypotheses -/
theorem bobVerify_no_panic (hC : C.Lawful)
    (hcof : C.toAffine C.zero = none → ∀ p, C.smul C.q p = C.zero)
    (H : HashFn) (sess : Bytes) (n ntilde h1 h2 c1 c2 : Int) (pf : BobProof)
    (xu : Option (ECPoint × ECPoint)) (tag : String) :
    bobVerify C H cur sess n ntilde h1 h2 c1 c2 pf xu ≠ .panic tag :=
  bobVerify_noPanic hC hcof H sess n ntilde h1 h2 c1 c2 pf xu tag

/-- `(*ProofBob).Verify` (no point check): for EVERY curve record, lawful or not -/
theorem bobVerify_none_no_panic (C : Curve P) (H : HashFn) (sess : Bytes) (n ntilde h1 h2 c1 c2 : Int)
    (pf : BobProof) (tag : String) :
    bobVerify C H cur sess n ntilde h1 h2 c1 c2 pf none ≠ .panic tag :=
  bobVerify_none_noPanic C H sess n ntilde h1 h2 c1 c2 pf tag

/-! ## 4. Paillier-Blum modulus proof (K7) -/

/-- `N` positive and odd is checked first: `Jacobi` never sees an even modulus and the challenge chain
never reduces modulo zero. No hypothesis (also none on signs). -/
theorem modVerify_no_panic (H : HashFn) (sess : Bytes) (w : Int) (xs : List Int) (a b : Int)
    (zs : List Int) (n : Int) (tag : String) :
    modVerify cur H sess w xs a b zs n ≠ .panic tag :=
  modVerify_noPanic H sess w xs a b zs n tag

theorem modYs_no_panic (H : HashFn) (sess : Bytes) (w n : Int) (hn : n ≠ 0) (k : Nat) (acc : List Nat)
    (tag : String) : modYs H sess w n k acc ≠ .panic tag :=
  modYs_noPanic H sess w n hn k acc tag

/-! ## 5. no-small-factor proof -/

/-- `N0 > 0`, `NCap > 0`, `z1, z2 ≥ 0` are checked and the challenge is non-negative. The exponents of `t`
— `w1`, `w2`, `sigma`, `v` — are NOT range-checked: a negative one with `t` not a unit mod `NCap` makes
Go's `Exp` return nil. From the wire (`SetBytes`) they are non-negative: this is the explicit hypothesis
(or: `t` is a unit, which the DLN proof for `NCap, s, t` is there to ensure). -/
theorem facVerify_no_panic (H : HashFn) (q : Nat) (sess : Bytes) (n0 ncap s t : Int) (pf : FacProof)
    (hneg : (0 ≤ pf.w1 ∧ 0 ≤ pf.w2 ∧ 0 ≤ pf.sigma ∧ 0 ≤ pf.v) ∨ Int.gcd t ncap = 1) (tag : String) :
    facVerify cur H q sess n0 ncap s t pf ≠ .panic tag :=
  facVerify_noPanic H q sess n0 ncap s t pf hneg tag

/-- the hypothesis of `facVerify_no_panic` is needed (an in-process caller can build such a proof; the
wire cannot carry it): `t = 0` and, in turn, `w1`, `w2`, `sigma`, `v` equal to `−1`; with all four `0` the
same proof is accepted -/
theorem facVerify_negative_exponent_panics_witness :
    facVerify cur (fun _ => [1]) 2 [] 9 5 1 0 ⟨1, 1, 1, 1, 1, 0, 0, 0, -1, 0, 0⟩ = .panic "nil-exp" ∧
    facVerify cur (fun _ => [1]) 2 [] 9 5 1 0 ⟨1, 1, 1, 1, 1, 0, 0, 0, 0, -1, 0⟩ = .panic "nil-exp" ∧
    facVerify cur (fun _ => [1]) 2 [] 9 5 1 0 ⟨1, 1, 1, 1, 1, -1, 0, 0, 0, 0, 0⟩ = .panic "nil-exp" ∧
    facVerify cur (fun _ => [1]) 2 [] 9 5 1 0 ⟨1, 1, 1, 1, 1, 0, 0, 0, 0, 0, -1⟩ = .panic "nil-exp" ∧
    facVerify cur (fun _ => [1]) 2 [] 9 5 1 0 ⟨1, 1, 1, 1, 1, 0, 0, 0, 0, 0, 0⟩ = .ok true := by
  decide

/-! ## 6. discrete-log proof and its decoder -/

/-- `N > 0` is checked, `h2`'s exponent is a bit. `t_i` is range-checked only modulo `N`, so a negative `t_i`
passes; from the wire it is non-negative (explicit hypothesis; or `h1` is a unit mod `N`). -/
theorem dlnVerify_no_panic (H : HashFn) (alpha t : List Int) (h1 h2 n : Int)
    (hneg : (∀ v ∈ t, 0 ≤ v) ∨ Int.gcd h1 n = 1) (tag : String) :
    dlnVerify H alpha t h1 h2 n ≠ .panic tag :=
  dlnVerify_noPanic H alpha t h1 h2 n hneg tag

theorem dlnVerify_negative_exponent_panics_witness :
    dlnVerify (fun _ => [1]) [] [-7] 3 2 9 = .panic "nil-exp" := by decide

theorem dlnUnmarshal_no_panic (xs : List Int) (tag : String) :
    dlnUnmarshal Ops16.curParse xs ≠ .panic tag :=
  dlnUnmarshal_noPanic xs tag

/-! ## 7. Paillier key proof (K10) -/

/-- exact crash condition of the model, for every configuration: only the index into a proof that has
not `ProofIters` entries. In Go the proof is the array type `[ProofIters]*big.Int`. -/
theorem paillierProofVerify_panic_iff (cfg : Paillier.ProofCfg) (H : HashFn) (pf : List Int) (pkN k : Int)
    (pub : ECPoint) (tag : String) :
    Paillier.proofVerify cfg H pf pkN k pub = .panic tag ↔
      tag = "index" ∧ pf.length ≠ Paillier.proofIters ∧
      Paillier.smallPrimes.any (fun prm => pkN % (prm : Int) == 0) = false ∧
      (Paillier.generateXs H Paillier.proofIters k pkN pub).isSome = true :=
  proofVerify_panic_iff cfg H pf pkN k pub tag

theorem paillierProofVerify_no_panic (H : HashFn) (pf : List Int) (pkN k : Int) (pub : ECPoint)
    (hlen : pf.length = Paillier.proofIters) (tag : String) :
    Paillier.proofVerify curPaiProof H pf pkN k pub ≠ .panic tag :=
  proofVerify_noPanic curPaiProof H pf pkN k pub hlen tag

/-- the length hypothesis is needed in the model -/
theorem paillierProofVerify_short_panics_witness :
    Paillier.proofVerify curPaiProof (fun _ => [1]) [] 1009 5 (1, 2) = .panic "index" :=
  (proofVerify_panic_iff _ _ _ _ _ _ _).2 ⟨rfl, by decide, smallPrimes_any_1009, by decide⟩

/-- **`GenerateXs` stops.** `generateXsI` is `generateXs` with the reason for a `none` made visible
(`generateXsI_erases`); with the fuel `m + maxXsRejections + 2` written in `generateXs` the loop never
runs out of fuel: it ends by returning `m` values or by the explicit rejection bound. -/
theorem generateXs_terminates (H : HashFn) (m : Nat) (k n : Int) (pub : ECPoint) :
    generateXsI H m k n pub ≠ .outOfFuel :=
  generateXsI_ne_outOfFuel H m k n pub

theorem generateXsI_erases (H : HashFn) (m : Nat) (k n : Int) (pub : ECPoint) :
    (generateXsI H m k n pub).toOption = Paillier.generateXs H m k n pub :=
  generateXsI_toOption H m k n pub

/-- so a `none` from `generateXs` IS the rejection-bound exit … -/
theorem generateXs_none_iff_rejected (H : HashFn) (m : Nat) (k n : Int) (pub : ECPoint) :
    Paillier.generateXs H m k n pub = none ↔ generateXsI H m k n pub = .rejected := by
  rw [← generateXsI_erases]
  have := generateXs_terminates H m k n pub
  cases h : generateXsI H m k n pub with
  | outOfFuel => exact absurd h this
  | rejected => simp [XsExit.toOption]
  | done xs => simp [XsExit.toOption]

/-- … which means: for some index `i < m` the candidate with rejection counter `maxXsRejections` (the
`maxXsRejections + 1`-st rejected candidate overall) was not in `Z_N^*` … -/
theorem generateXs_none_rejection (H : HashFn) (m : Nat) (k n : Int) (pub : ECPoint)
    (h : Paillier.generateXs H m k n pub = none) :
    ∃ i, i < m ∧ Paillier.isNumberInMultiplicativeGroup n
      (Paillier.xsCandidate H i Paillier.maxXsRejections (intToBytesBE k) (natToBytesBE pub.1)
        (natToBytesBE pub.2) (intToBytesBE n) ((bitLen n.natAbs + 255) / 256)) = false := by
  have hr := (generateXs_none_iff_rejected H m k n pub).1 h
  unfold generateXsI at hr
  obtain ⟨i, _, h1, h2⟩ := loopI_rejected _ _ _ _ _ _ _ _ _ _ _ _ (Nat.zero_le _) hr
  exact ⟨i, h1, h2⟩

/-- … and more fuel never changes the answer -/
theorem generateXs_fuel_irrelevant (H : HashFn) (m : Nat) (k n : Int) (pub : ECPoint) (extra : Nat) :
    Paillier.generateXsLoop H m (intToBytesBE k) (natToBytesBE pub.1) (natToBytesBE pub.2) (intToBytesBE n) n
      ((bitLen n.natAbs + 255) / 256) (m + Paillier.maxXsRejections + 2 + extra) 0 0 [] =
    Paillier.generateXs H m k n pub := by
  have h := generateXs_terminates H m k n pub
  unfold generateXsI at h
  rw [← loopI_toOption, loopI_fuel_mono _ _ _ _ _ _ _ _ _ _ _ _ _ h, loopI_toOption]
  rfl

/-! ## 8. `AliceEnd`, commitments, parser, VSS -/

/-- `AliceEnd` / `AliceEndWC`: Bob's proof cannot crash Alice, and `Decrypt` cannot when her own key is
sound (`L(γ^λ mod n²)` invertible mod `n`) -/
theorem aliceEnd_no_panic (hC : C.Lawful)
    (hcof : C.toAffine C.zero = none → ∀ p, C.smul C.q p = C.zero)
    (H : HashFn) (sess : Bytes) (sk : Paillier.PrivateKey) (pf : BobProof) (rpA : Mta.RP) (cA cB : Nat)
    (xu : Option (ECPoint × ECPoint))
    (hk : (modInverse (Paillier.L (modPow (Paillier.gamma sk.n) sk.lambdaN (Paillier.nSquare sk.n)) sk.n)
      sk.n).isSome = true) (tag : String) :
    Mta.aliceEnd C H cur sess sk pf rpA cA cB xu ≠ .panic tag :=
  aliceEnd_noPanic_of_decrypt hC hcof H sess sk pf rpA cA cB xu (fun c => decrypt_noPanic sk c hk) tag

/-- the same with the key hypotheses of `C14.decrypt_never_panics` (distinct primes, `gcd(λ, n) = 1`) -/
theorem aliceEnd_no_panic_keygen (hC : C.Lawful)
    (hcof : C.toAffine C.zero = none → ∀ p, C.smul C.q p = C.zero)
    {Pp Q : Nat} (hP : Pp.Prime) (hQ : Q.Prime) (hne : Pp ≠ Q)
    (hlam : Nat.gcd (Nat.lcm (Pp - 1) (Q - 1)) (Pp * Q) = 1)
    (H : HashFn) (sess : Bytes) (sk : Paillier.PrivateKey) (hn : sk.n = Pp * Q)
    (hl : sk.lambdaN = Nat.lcm (Pp - 1) (Q - 1)) (pf : BobProof) (rpA : Mta.RP) (cA cB : Nat)
    (xu : Option (ECPoint × ECPoint)) (tag : String) :
    Mta.aliceEnd C H cur sess sk pf rpA cA cB xu ≠ .panic tag :=
  aliceEnd_noPanic_of_decrypt hC hcof H sess sk pf rpA cA cB xu
    (fun c => C14.decrypt_never_panics hP hQ hne hlam sk hn hl c) tag

/-- `AliceEnd` without the point check: any curve record -/
theorem aliceEnd_none_no_panic (C : Curve P) (H : HashFn) (sess : Bytes) (sk : Paillier.PrivateKey)
    (pf : BobProof) (rpA : Mta.RP) (cA cB : Nat)
    (hk : (modInverse (Paillier.L (modPow (Paillier.gamma sk.n) sk.lambdaN (Paillier.nSquare sk.n)) sk.n)
      sk.n).isSome = true) (tag : String) :
    Mta.aliceEnd C H cur sess sk pf rpA cA cB none ≠ .panic tag :=
  aliceEnd_none_noPanic_of_decrypt C H sess sk pf rpA cA cB (fun c => decrypt_noPanic sk c hk) tag

/-- `BobMid` / `BobMidWC`, the responder's step: Alice's range proof and ciphertext cannot crash
Bob. The only crash left is Bob's OWN coin `alpha ≡ 0 (mod q)` in the with-check variant (the library
samples `alpha` from `[0, q³)` without excluding multiples of `q`; probability `≈ 1/q`). No `hcof`. -/
theorem bobMid_no_panic (hC : C.Lawful) (H : HashFn) (sess : Bytes) (nA : Nat)
    (rpf : RangeProof) (b cA : Nat) (rpA rpB : Mta.RP) (B : Option ECPoint) (betaPrm xB : Nat) (k : BobCoins)
    (hcoin : B = none ∨ k.alpha % C.q ≠ 0) (tag : String) :
    Mta.bobMid C H cur sess nA rpf b cA rpA rpB B betaPrm xB k ≠ .panic tag :=
  bobMid_noPanic hC H sess nA rpf b cA rpA rpB B betaPrm xB k hcoin tag

/-- `HashCommitDecommit.Verify` on a non-empty decommitment (the empty one crashes:
`C16.commit_verify_empty_panics`; callers guard with `ValidateBasic`) -/
theorem commitVerify_no_panic_nonempty (H : HashFn) (c : Nat) (d : List Int) (hd : d ≠ []) (tag : String) :
    commitVerifyWith H c d ≠ .panic tag :=
  commitVerify_noPanic H c d hd tag

theorem decommit_no_panic_nonempty (H : HashFn) (c : Nat) (d : List Int) (hd : d ≠ []) (tag : String) :
    decommitWith H c d ≠ .panic tag := by
  unfold decommitWith
  have := commitVerify_noPanic H c d hd
  split
  · nofun
  · nofun
  · nofun
  · rename_i h; exact absurd h (this _)

/-- the parts parser of the current tree (K4) -/
theorem parse_never_panics (secrets : List Int) (tag : String) :
    parseSecretsCfg Ops16.curParse secrets ≠ .panic tag :=
  parse_cur_noPanic secrets tag

/-- Feldman share verification (K2; `C15.vss_verify_no_panic`), from `Vss.verify_no_panic` of
`Lemmas/VssVerify.lean` -/
theorem vss_verify_no_panic (hC : C.Lawful)
    (hcof : C.toAffine C.zero = none → ∀ p, C.smul C.q p = C.zero)
    (t : Nat) (sh : Vss.Share) (vs : List ECPoint) (hvs : ∀ v ∈ vs, C.ecIsOnCurve v = true) (tag : String) :
    Vss.verify C curVss t sh vs ≠ .panic tag := by
  obtain ⟨b, hb⟩ := Vss.verify_no_panic hC hcof t sh vs hvs
  rw [hb]; nofun

/-! ## 9. the crashes before the repairs, and the same inputs now -/
section witnesses

instance fact23 : Fact (Nat.Prime 23) := ⟨by decide⟩
/-- toy lawful curve of order 23 whose identity has no affine form (like secp256k1) -/
abbrev W := zmodCurveW 23
/-- … and one whose identity has (like edwards25519) -/
abbrev E := zmodCurve 23
def Hone : HashFn := fun _ => [1]

/-- K3: Alice sends the ciphertext `c = 0`; the challenge is `1`, and `0⁻¹ mod 9` is nil -/
theorem rangeVerify_old_panics_witness :
    rangeVerify old Hone 2 3 5 2 3 0 ⟨2, 2, 2, 2, 2, 3⟩ = .panic "nil-exp" := by decide
theorem rangeVerify_cur_same_input :
    rangeVerify cur Hone 2 3 5 2 3 0 ⟨2, 2, 2, 2, 2, 3⟩ = .ok false := by decide

/-- K1: `t = 0` (and `t = q`) -/
theorem schnorrVerify_old_panics_witness :
    schnorrVerify W Hone old [] (5, 0) (7, 0) 0 = .panic "scalar-base-mult-identity" ∧
    schnorrVerify W Hone old [] (5, 0) (7, 0) 23 = .panic "scalar-base-mult-identity" := by decide
theorem schnorrVerify_cur_same_input :
    schnorrVerify W Hone cur [] (5, 0) (7, 0) 0 = .ok false ∧
    schnorrVerify W Hone cur [] (5, 0) (7, 0) 23 = .ok false := by decide

/-- K1: `u = 0` in the two-generator variant -/
theorem schnorrVVerify_old_panics_witness :
    schnorrVVerify W Hone old [] (5, 0) (3, 0) (7, 0) 2 0 = .panic "scalar-base-mult-identity" := by decide
theorem schnorrVVerify_cur_same_input :
    schnorrVVerify W Hone cur [] (5, 0) (3, 0) (7, 0) 2 0 = .ok false := by decide

/-- K5: `s1 = q`, every range check passed -/
theorem bobWC_old_panics_witness :
    bobVerify W Hone old [] 3 5 2 3 4 7 ⟨2, 2, 2, 2, 2, 2, 23, 24, 25, 26⟩ (some ((5, 0), (7, 0))) =
      .panic "scalar-base-mult-identity" := by decide
theorem bobWC_cur_same_input :
    bobVerify W Hone cur [] 3 5 2 3 4 7 ⟨2, 2, 2, 2, 2, 2, 23, 24, 25, 26⟩ (some ((5, 0), (7, 0))) =
      .ok false := by decide

/-- K7: an even modulus reaches `big.Jacobi` -/
theorem modVerify_old_panics_witness :
    modVerify old Hone [] 3 [] 0 0 [] 4 = .panic "jacobi-even" := by decide
theorem modVerify_cur_same_input :
    modVerify cur Hone [] 3 [] 0 0 [] 4 = .ok false := by decide

/-- K10: `N = 1` has an empty unit group; `GenerateXs` rejected candidates forever. For EVERY hash, proof,
`k` and point (no evaluation involved). -/
theorem paillierProofVerify_old_hangs_witness (H : HashFn) (pf : List Int) (k : Int) (pub : ECPoint) :
    Paillier.proofVerify ⟨false⟩ H pf 1 k pub = .err "hang" :=
  proofVerify_one ⟨false⟩ H pf k pub
theorem paillierProofVerify_cur_same_input (H : HashFn) (pf : List Int) (k : Int) (pub : ECPoint) :
    Paillier.proofVerify curPaiProof H pf 1 k pub = .err "xs" :=
  proofVerify_one curPaiProof H pf k pub

end witnesses

/-! ## the hypotheses are satisfiable -/
section nonvacuity

example : W.Lawful := zmodCurveW_lawful 23
example : E.Lawful := zmodCurve_lawful 23

/-- cofactor 1 on `W` (identity without affine form): every point is killed by `q = 23` -/
theorem hcofW : W.toAffine W.zero = none → ∀ p, W.smul W.q p = W.zero := by
  intro _ p
  rw [zmodCurveW_smul]
  show ((23 : ℕ) : ZMod 23) * p = 0
  rw [ZMod.natCast_self, zero_mul]

/-- vacuous on `E`: the identity has affine coordinates -/
theorem hcofE : E.toAffine E.zero = none → ∀ p, E.smul E.q p = E.zero :=
  fun h => absurd h (zmodCurve_toAffine_zero 23)

/-- the theorems apply to both toy curves, e.g. to the K1/K5 witness inputs -/
example (tag : String) : schnorrVerify W Hone cur [] (5, 0) (7, 0) 0 ≠ .panic tag :=
  schnorrVerify_no_panic (zmodCurveW_lawful 23) hcofW _ _ _ _ _ _
example (H : HashFn) (X alpha : ECPoint) (t : Nat) (tag : String) :
    schnorrVerify E H cur [] X alpha t ≠ .panic tag :=
  schnorrVerify_no_panic (zmodCurve_lawful 23) hcofE _ _ _ _ _ _
example (H : HashFn) (pf : BobProof) (xu : Option (ECPoint × ECPoint)) (tag : String) :
    bobVerify W H cur [] 3 5 2 3 4 7 pf xu ≠ .panic tag :=
  bobVerify_no_panic (zmodCurveW_lawful 23) hcofW _ _ _ _ _ _ _ _ _ _ _

/-- an honest run is accepted, so the verifiers are not constantly rejecting: Schnorr for `x = 3` -/
example : schnorrProve W Hone [] 3 (3, 0) 4 = .ok ((4, 0), 7) ∧
    schnorrVerify W Hone cur [] (3, 0) (4, 0) 7 = .ok true := by decide

/-- `facVerify` / `dlnVerify` sign hypotheses: all-non-negative fields, or a unit base -/
example : (0 ≤ (⟨1, 1, 1, 1, 1, 0, 0, 0, 0, 0, 0⟩ : FacProof).w1 ∧ 0 ≤ (⟨1, 1, 1, 1, 1, 0, 0, 0, 0, 0, 0⟩ : FacProof).w2 ∧
    0 ≤ (⟨1, 1, 1, 1, 1, 0, 0, 0, 0, 0, 0⟩ : FacProof).sigma ∧ 0 ≤ (⟨1, 1, 1, 1, 1, 0, 0, 0, 0, 0, 0⟩ : FacProof).v) ∨
    Int.gcd 0 5 = 1 := Or.inl (by decide)
example : (∀ v ∈ ([2, 3] : List Int), 0 ≤ v) ∨ Int.gcd 3 9 = 1 := Or.inl (by decide)

/-- the key hypothesis of `aliceEnd_no_panic`: `n = 3·5`, `λ = lcm(2, 4) = 4` -/
example : (modInverse (Paillier.L (modPow (Paillier.gamma 15) 4 (Paillier.nSquare 15)) 15) 15).isSome = true := by
  decide
example : Nat.Prime 3 ∧ Nat.Prime 5 ∧ 3 ≠ 5 ∧ Nat.gcd (Nat.lcm (3 - 1) (5 - 1)) (3 * 5) = 1 := by decide

end nonvacuity
end TssVerif.C06
